import TexelVerif.TT.Index
namespace TT

/-- TTEntry::store writes (key ^ data, data); TTEntry::load computes key := w0 ^ w1 -/
def encode (k d : BitVec 64) : BitVec 64 × BitVec 64 := (k ^^^ d, d)
def decodeKey (w0 w1 : BitVec 64) : BitVec 64 := w0 ^^^ w1

theorem decode_encode (k d : BitVec 64) : decodeKey (encode k d).1 (encode k d).2 = k := by
  simp [decodeKey, encode, BitVec.xor_assoc]

theorem xor_hit_is_unit (w0 w1 k : BitVec 64) (h : decodeKey w0 w1 = k) : (w0, w1) = encode k w1 := by
  subst h
  simp [decodeKey, encode, BitVec.xor_assoc]

theorem hit_was_stored (stores : List (BitVec 64 × BitVec 64))      -- (key, data) units stored into this slot
    (w0 w1 k : BitVec 64)
    (h0 : ∃ r ∈ stores, w0 = (encode r.1 r.2).1) (h1 : ∃ r ∈ stores, w1 = (encode r.1 r.2).2)
    (hk : decodeKey w0 w1 = k)
    (hfree : ∀ a ∈ stores, ∀ b ∈ stores, a.1 ^^^ a.2 ^^^ b.2 = k → a = b) :
    (k, w1) ∈ stores := by
  obtain ⟨a, ha, rfl⟩ := h0
  obtain ⟨b, hb, rfl⟩ := h1
  simp only [encode, decodeKey] at hk
  have := hfree a ha b hb hk
  subst this
  have : k = a.1 := by rw [← hk]; simp [BitVec.xor_assoc]
  subst this
  simpa [encode] using ha

/-- while a 4-man tablebase is resident the hash part ends before the tablebase bytes begin.  The tablebase is the top
    5·2^20 bytes = 327680 entries; `hsz` is `updateTB`'s size guard (both in `Bridge.TT.updateTB_leaves_room`). -/
theorem tb_region_disjoint (tableSize key : Nat) (hsz : 7 * 2^20 ≤ tableSize * 16) (hmax : tableSize < 2^72)
    (hk : key < 2^64) :
    let used := tableSize - 327680
    (getIndex (setUsedSize used) key + 3) * 16 + 15 < tableSize * 16 - 5 * 2^20 := by
  simp only
  have h := index_ok (tableSize - 327680) key (by omega) (by omega) hk
  simp only at h
  omega

end TT
