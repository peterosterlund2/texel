import TexelVerif.TT.TableLemmas
/-!
History-level refinement for the single-threaded table: whatever a probe returns was written by an earlier
`insert` for exactly that (contempt-adjusted) key as one unit — up to the generation field, which probes refresh.
-/
namespace TT

inductive Op where
  | ins (a : InsArgs)
  | probe (k : W)
  | gen
  | clear
  | contempt (c : Int)

def runOp (t : Table) : Op → Table
  | .ins a => t.insert a
  | .probe k => (t.probe k).1
  | .gen => t.nextGeneration
  | .clear => t.clear
  | .contempt c => t.setWhiteContempt c

/-- the units written by the inserts of a history (key already xor-ed with the contempt hash) -/
def unitsOf : Table → List Op → List (W × W)
  | _, [] => []
  | t, op :: ops =>
    (match op with
     | .ins a => match t.insertPlan a with
       | some (_, k, d) => [(k, d)]
       | none => []
     | _ => []) ++ unitsOf (runOp t op) ops

def runOps (t : Table) (ops : List Op) : Table := ops.foldl runOp t

/-- data words equal up to the generation field -/
def clearGen (d : W) : W := setGeneration d 0

theorem clearGen_setGeneration (d : W) (g : Nat) : clearGen (setGeneration d g) = clearGen d := by
  unfold clearGen setGeneration
  exact setBits_setBits_same d 42 4 _ _ (by omega)

/-- every slot is empty or holds a unit written by an insert, up to the generation field -/
def Inv (t : Table) (U : List (W × W)) : Prop :=
  ∀ i, t.slot i = (0, 0) ∨ ∃ u ∈ U, ∃ d, t.slot i = encode u.1 d ∧ clearGen d = clearGen u.2

theorem Inv.mono {t : Table} {U V : List (W × W)} (h : Inv t U) (hs : ∀ u ∈ U, u ∈ V) : Inv t V := by
  intro i
  rcases h i with h0 | ⟨u, hu, d, h1, h2⟩
  · exact Or.inl h0
  · exact Or.inr ⟨u, hs u hu, d, h1, h2⟩

theorem inv_insert (t : Table) (a : InsArgs) (U : List (W × W)) (h : Inv t U) :
    Inv (t.insert a) (U ++ (match t.insertPlan a with | some (_, k, d) => [(k, d)] | none => [])) := by
  unfold Table.insert
  cases hp : t.insertPlan a with
  | none => simpa using h
  | some x =>
    obtain ⟨j, k, d⟩ := x
    intro i
    simp only
    rw [slot_set]
    split
    · exact Or.inr ⟨(k, d), by simp, d, rfl, rfl⟩
    · rcases h i with h0 | ⟨u, hu, d', h1, h2⟩
      · exact Or.inl h0
      · exact Or.inr ⟨u, by simp [hu], d', h1, h2⟩

theorem probe_go_spec (t : Table) (key : W) (idx0 : Nat) (U : List (W × W)) (h : Inv t U) (h0 : (0, 0) ∈ U) :
    ∀ fuel i, Inv (Table.probe.go t key idx0 i fuel).1 U ∧
      ∀ k d, (Table.probe.go t key idx0 i fuel).2 = some (k, d) → k = key ∧ ∃ u ∈ U, u.1 = key ∧ clearGen d = clearGen u.2 := by
  intro fuel
  induction fuel with
  | zero => intro i; simp [Table.probe.go]; exact h
  | succ n ih =>
    intro i
    unfold Table.probe.go
    simp only
    -- an empty slot loads as the unit `(0, 0)`: hence the seed `h0`
    have hslot : ∃ u ∈ U, ∃ d, t.slot (idx0 + i) = encode u.1 d ∧ clearGen d = clearGen u.2 := by
      rcases h (idx0 + i) with hz | hh
      · exact ⟨(0, 0), h0, 0, by simp [hz, encode], rfl⟩
      · exact hh
    obtain ⟨u, hu, d0, hs, hc⟩ := hslot
    have hload : loadSlot (t.slot (idx0 + i)) = (u.1, d0) := by
      rw [hs]; simp [loadSlot, encode, BitVec.xor_assoc]
    rw [hload]
    simp only
    split
    · next hk =>
      have hk' : u.1 = key := by simpa using hk
      split
      · refine ⟨?_, ?_⟩
        · intro j
          simp only
          rw [slot_set]
          split
          · exact Or.inr ⟨u, hu, setGeneration d0 t.gen, by rw [hk'], by rw [clearGen_setGeneration]; exact hc⟩
          · exact h j
        · rintro _ _ ⟨⟩
          exact ⟨rfl, u, hu, hk', by rw [clearGen_setGeneration]; exact hc⟩
      · refine ⟨h, ?_⟩
        rintro _ _ ⟨⟩
        exact ⟨rfl, u, hu, hk', hc⟩
    · exact ih (i + 1)

theorem inv_clear (t : Table) (U : List (W × W)) : Inv t.clear U := fun i => Or.inl (clear_slot t i)

theorem inv_runOp (t : Table) (op : Op) (U : List (W × W)) (h : Inv t U) (h0 : (0, 0) ∈ U) :
    Inv (runOp t op) (U ++ unitsOf t [op]) := by
  -- only an insert adds a unit; generation and contempt do not touch the slots
  have keep {t' : Table} (h' : Inv t' U) : Inv t' (U ++ unitsOf t [op]) := h'.mono fun _ hu => List.mem_append_left _ hu
  cases op with
  | ins a => rw [show unitsOf t [.ins a] = _ from List.append_nil _]; exact inv_insert t a U h
  | probe k => exact keep (probe_go_spec t (k ^^^ t.contempt) (t.index (k ^^^ t.contempt)) U h h0 4 0).1
  | gen => exact keep h
  | clear => exact keep (inv_clear t U)
  | contempt c => exact keep h

theorem unitsOf_append (t : Table) (a b : List Op) : unitsOf t (a ++ b) = unitsOf t a ++ unitsOf (runOps t a) b := by
  induction a generalizing t with
  | nil => simp [unitsOf, runOps]
  | cons x xs ih => simp [unitsOf, runOps, ih, List.append_assoc]

theorem inv_runOps (t : Table) (ops : List Op) (U : List (W × W)) (h : Inv t U) (h0 : (0, 0) ∈ U) :
    Inv (runOps t ops) (U ++ unitsOf t ops) := by
  induction ops generalizing t U with
  | nil => simpa [runOps, unitsOf] using h
  | cons op ops ih =>
    have h1 := inv_runOp t op U h h0
    have := ih (runOp t op) (U ++ unitsOf t [op]) h1 (List.mem_append_left _ h0)
    simpa [runOps, unitsOf, List.append_assoc] using this

theorem inv_new (n : Nat) : Inv (Table.new n) [(0, 0)] := fun i => Or.inl (new_slot n i)

end TT
