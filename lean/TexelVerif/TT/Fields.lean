/-! TTEntry::setBits / getBits (transpositionTable.hpp:424-434) on `BitVec 64`, symbolic in first/size. -/
namespace TT
def fieldMask (size : Nat) : BitVec 64 := BitVec.ofNat 64 (2^size - 1)
def mask (first size : Nat) : BitVec 64 := fieldMask size <<< first
def setBits (d : BitVec 64) (first size : Nat) (v : BitVec 32) : BitVec 64 :=
  (d &&& ~~~(mask first size)) ||| ((v.setWidth 64 <<< first) &&& mask first size)
def getBits (d : BitVec 64) (first size : Nat) : BitVec 32 :=
  ((d >>> first) &&& fieldMask size).setWidth 32

theorem fieldMask_getLsbD (size i : Nat) (hs : size ≤ 64) : (fieldMask size).getLsbD i = decide (i < size) := by
  unfold fieldMask
  rw [BitVec.getLsbD_ofNat, Nat.testBit_two_pow_sub_one]
  by_cases h : i < size
  · have : i < 64 := by omega
    simp [h, this]
  · simp [h]

theorem getBits_setBits_same (d : BitVec 64) (f s : Nat) (v : BitVec 32) (hs : s ≤ 32) (hf : f + s ≤ 64) :
    getBits (setBits d f s v) f s = v &&& BitVec.ofNat 32 (2^s - 1) := by
  apply BitVec.eq_of_getLsbD_eq
  intro i hi
  simp only [getBits, setBits, mask, BitVec.getLsbD_setWidth, BitVec.getLsbD_and, BitVec.getLsbD_or,
    BitVec.getLsbD_ushiftRight, BitVec.getLsbD_shiftLeft, BitVec.getLsbD_not, fieldMask_getLsbD _ _ (by omega : s ≤ 64),
    BitVec.getLsbD_ofNat, Nat.testBit_two_pow_sub_one]
  by_cases h : i < s
  · have h1 : f + i < 64 := by omega
    have h2 : ¬ (f + i < f) := by omega
    have h3 : i < 64 := by omega
    simp [h, hi, h1, h2, h3]
  · simp [h]

theorem getBits_setBits_other (d : BitVec 64) (f s f' s' : Nat) (v : BitVec 32) (hs : s ≤ 64) (hs' : s' ≤ 64)
    (hd : f + s ≤ f' ∨ f' + s' ≤ f) :
    getBits (setBits d f s v) f' s' = getBits d f' s' := by
  apply BitVec.eq_of_getLsbD_eq
  intro i hi
  simp only [getBits, setBits, mask, BitVec.getLsbD_setWidth, BitVec.getLsbD_and, BitVec.getLsbD_or,
    BitVec.getLsbD_ushiftRight, BitVec.getLsbD_shiftLeft, BitVec.getLsbD_not, fieldMask_getLsbD _ _ hs, fieldMask_getLsbD _ _ hs']
  by_cases h : i < s'
  · by_cases h2 : f' + i < f
    · simp [h, h2, hi]
      intro hh; exact BitVec.lt_of_getLsbD hh
    · have : ¬ (f' + i - f < s) := by omega
      simp [h, h2, hi, this]
      intro hh; exact BitVec.lt_of_getLsbD hh
  · simp [h]
theorem setBits_setBits_same (d : BitVec 64) (f s : Nat) (v v' : BitVec 32) (hs : s ≤ 64) :
    setBits (setBits d f s v) f s v' = setBits d f s v' := by
  apply BitVec.eq_of_getLsbD_eq
  intro i hi
  simp only [setBits, mask, BitVec.getLsbD_and, BitVec.getLsbD_or, BitVec.getLsbD_not, BitVec.getLsbD_shiftLeft,
    fieldMask_getLsbD _ _ hs]
  by_cases h1 : i < f
  · simp [h1, hi]
  · by_cases h2 : i - f < s
    · simp [h1, h2]
    · simp [h1, h2]
end TT
