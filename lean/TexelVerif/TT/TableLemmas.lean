import TexelVerif.TT.Table
/-! Lemmas about the table model: score truncation, slots after an update, bucket locality of `insert`. -/
namespace TT

theorem toStored_def (s p : Int) : toStored s p = if s > 16000 then s + p else if s < -16000 then s - p else s := by
  simp [toStored, isWinScore, isLoseScore]
theorem fromStored_def (s p : Int) : fromStored s p = if s > 16000 then s - p else if s < -16000 then s + p else s := by
  simp [fromStored, isWinScore, isLoseScore]

theorem trunc16 (x : Int) (h1 : -32768 ≤ x) (h2 : x ≤ 32767) :
    ((BitVec.ofInt 32 x &&& BitVec.ofNat 32 (2^16 - 1)).setWidth 16).toInt = x := by
  have e : (BitVec.ofInt 32 x &&& BitVec.ofNat 32 (2^16 - 1)).setWidth 16 = BitVec.ofInt 16 x := by
    apply BitVec.eq_of_toNat_eq
    rw [BitVec.toNat_setWidth, BitVec.toNat_and, BitVec.toNat_ofInt, BitVec.toNat_ofInt, BitVec.toNat_ofNat]
    have : (2^16 - 1) % 2^32 = 2^16 - 1 := by decide
    rw [this, Nat.and_two_pow_sub_one_eq_mod]
    omega
  rw [e, BitVec.toInt_ofInt]
  exact @Int.bmod_eq_of_le x (2^16) (by omega) (by omega)

theorem rawScore_setScore (d : W) (s p : Int) (h1 : -32768 ≤ toStored s p) (h2 : toStored s p ≤ 32767) :
    rawScore (setScore d s p) = toStored s p := by
  unfold rawScore setScore
  rw [getBits_setBits_same d 16 16 _ (by omega) (by omega)]
  exact trunc16 _ h1 h2

theorem chooseSlot_go_lt (t : Table) (idx0 : Nat) (key : W) :
    ∀ fuel i cur, i + fuel ≤ 4 → cur.1 < 4 → (chooseSlot.go t idx0 key i fuel cur).1 < 4 := by
  intro fuel
  induction fuel with
  | zero => intro i cur _ h; simpa [chooseSlot.go] using h
  | succ n ih =>
    intro i cur hi hc
    unfold chooseSlot.go
    simp only
    split
    · simp; omega
    · split
      · exact ih _ _ (by omega) (by simp; omega)
      · split
        · exact ih _ _ (by omega) (by simp; omega)
        · exact ih _ _ (by omega) hc

theorem chooseSlot_lt (t : Table) (idx0 : Nat) (key : W) : (chooseSlot t idx0 key).1 < 4 :=
  chooseSlot_go_lt t idx0 key 4 0 (0, 0, 0) (by omega) (by simp)

theorem slot_replicate (t : Table) (n : Nat) (h : t.slots = Array.replicate n (0, 0)) (i : Nat) : t.slot i = (0, 0) := by
  simp only [Table.slot, h, Array.getD_eq_getD_getElem?]
  by_cases hi : i < n <;> simp [hi]

theorem clear_slot (t : Table) (i : Nat) : t.clear.slot i = (0, 0) := slot_replicate _ t.size rfl i

theorem new_slot (n i : Nat) : (Table.new n).slot i = (0, 0) := slot_replicate _ (normSize n) rfl i

theorem slot_set (t : Table) (j : Nat) (s : Slot) (i : Nat) :
    ({ t with slots := t.slots.setIfInBounds j s } : Table).slot i = if i = j ∧ j < t.slots.size then s else t.slot i := by
  simp only [Table.slot, Array.getD_eq_getD_getElem?, Array.getElem?_setIfInBounds]
  by_cases h : j = i
  · subst h
    by_cases h2 : j < t.slots.size
    · simp [h2]
    · simp [h2]
  · have : ¬ (i = j ∧ j < t.slots.size) := fun hh => h hh.1.symm
    simp [h, this]

theorem insertPlan_bucket (t : Table) (a : InsArgs) (i : Nat) (k d : W) (h : t.insertPlan a = some (i, k, d)) :
    t.index (a.key ^^^ t.contempt) ≤ i ∧ i < t.index (a.key ^^^ t.contempt) + 4 ∧ k = a.key ^^^ t.contempt := by
  unfold Table.insertPlan at h
  have hlt := chooseSlot_lt t (t.index (a.key ^^^ t.contempt)) (a.key ^^^ t.contempt)
  simp only [Option.ite_none_right_eq_some, Option.some.injEq, Prod.mk.injEq] at h
  obtain ⟨_, h1, h2, _⟩ := h
  exact ⟨by omega, by omega, h2.symm⟩

theorem insert_local (t : Table) (a : InsArgs) (i : Nat)
    (h : i < t.index (a.key ^^^ t.contempt) ∨ t.index (a.key ^^^ t.contempt) + 4 ≤ i) :
    (t.insert a).slot i = t.slot i := by
  unfold Table.insert
  split
  · next j k d hp =>
    have := insertPlan_bucket t a j k d hp
    simp only [Table.slot, Array.getD_eq_getD_getElem?]
    rw [Array.getElem?_setIfInBounds_ne]
    omega
  · rfl

theorem insert_meta (t : Table) (a : InsArgs) :
    (t.insert a).size = t.size ∧ (t.insert a).used = t.used ∧ (t.insert a).gen = t.gen ∧
    (t.insert a).contempt = t.contempt ∧ (t.insert a).slots.size = t.slots.size := by
  unfold Table.insert
  split <;> simp

end TT
