/-! `TranspositionTable::setUsedSize` / `getIndex` (transpositionTable.cpp:72-83, .hpp:432-440) and the index theorem -/
namespace TT

def topBitsLoop : Nat → Nat → Nat → Nat × Nat
  | 0, t, s => (t, s)
  | fuel+1, t, s => if t ≥ 256 then topBitsLoop fuel (t / 2) (s + 1) else (t, s)

structure Used where
  top : Nat      -- usedSizeTopBits
  shift : Nat    -- usedSizeShift
  mask : Nat     -- usedSizeMask

def lowMask (s : Nat) : Nat := (2^s - 1) &&& (2^64 - 1 - 3)

def setUsedSize (n : Nat) : Used :=
  let r := topBitsLoop 64 n 0
  { top := r.1, shift := r.2, mask := lowMask r.2 }

/-- getIndex on naturals; `key < 2^64` -/
def getIndex (u : Used) (key : Nat) : Nat :=
  ((((key >>> 48) * u.top) >>> 16) <<< u.shift) ||| (key &&& u.mask)

/-- `k = shift − s` halvings bring `t` below 256; `fuel` of them suffice for `t < 2^(fuel+8)` -/
theorem loop_spec (fuel t s : Nat) (hf : t < 2^(fuel+8)) :
    let r := topBitsLoop fuel t s
    r.1 < 256 ∧ s ≤ r.2 ∧ r.1 * 2^(r.2 - s) ≤ t ∧ t < (r.1 + 1) * 2^(r.2 - s) ∧ (256 ≤ t → 128 ≤ r.1) ∧ (t < 256 → r = (t, s)) := by
  induction fuel generalizing t s with
  | zero =>
    simp [topBitsLoop] at *
    omega
  | succ n ih =>
    unfold topBitsLoop
    split
    · next hge =>
      have hlt : t / 2 < 2^(n+8) := by
        have : 2^(n+1+8) = 2 * 2^(n+8) := by rw [show n+1+8 = (n+8)+1 by omega, Nat.pow_succ]; omega
        omega
      obtain ⟨h1, h2, h3, h4, h5, h6⟩ := ih (t/2) (s+1) hlt
      have e : (topBitsLoop n (t/2) (s+1)).2 - s = ((topBitsLoop n (t/2) (s+1)).2 - (s+1)) + 1 := by omega
      refine ⟨h1, by omega, ?_, ?_, ?_, by omega⟩
      · rw [e, Nat.pow_succ, ← Nat.mul_assoc]
        calc _ ≤ t / 2 * 2 := Nat.mul_le_mul_right 2 h3
          _ ≤ t := Nat.div_mul_le_self t 2
      · rw [e, Nat.pow_succ, ← Nat.mul_assoc]
        have : t < (t/2 + 1) * 2 := by omega
        calc t < (t/2 + 1) * 2 := this
          _ ≤ ((topBitsLoop n (t/2) (s+1)).1 + 1) * 2 ^ ((topBitsLoop n (t/2) (s+1)).2 - (s+1)) * 2 := Nat.mul_le_mul_right 2 (by omega)
      · intro _
        by_cases h256 : 256 ≤ t / 2
        · exact h5 h256
        · have := h6 (by omega); rw [this]; simp; omega
    · simp; omega

theorem lowMask_mod4 (s : Nat) : lowMask s % 4 = 0 := by
  unfold lowMask
  have h := Nat.and_mod_two_pow (a := 2^s - 1) (b := 2^64 - 1 - 3) (n := 2)
  have e : (2^64 - 1 - 3) % 2^2 = 0 := by decide
  rw [e] at h
  simpa using h

theorem two_pow_mod4 (s : Nat) (hs : 2 ≤ s) : 2^s % 4 = 0 := by
  obtain ⟨k, rfl⟩ : ∃ k, s = k + 2 := ⟨s - 2, by omega⟩
  rw [Nat.pow_add]; omega

theorem and_lowMask (key s : Nat) (hs : 2 ≤ s) :
    (key &&& lowMask s) % 4 = 0 ∧ (key &&& lowMask s) + 4 ≤ 2^s := by
  have h1 : (key &&& lowMask s) % 4 = 0 := by
    have h := Nat.and_mod_two_pow (a := key) (b := lowMask s) (n := 2)
    rw [show lowMask s % 2^2 = 0 from lowMask_mod4 s, Nat.and_zero] at h
    exact h
  have h2 : key &&& lowMask s ≤ 2^s - 1 := Nat.le_trans Nat.and_le_right Nat.and_le_left
  have h3 := two_pow_mod4 s hs
  have h4 : 0 < 2^s := Nat.two_pow_pos s
  exact ⟨h1, by omega⟩

/-- the index is `r * 2^shift + low` with `r < top` and `low` a multiple of 4 below `2^shift` -/
theorem getIndex_bound (top shift key : Nat) (hs : 2 ≤ shift) (hk : key < 2^64) :
    getIndex ⟨top, shift, lowMask shift⟩ key % 4 = 0 ∧ (0 < top → getIndex ⟨top, shift, lowMask shift⟩ key + 4 ≤ top * 2^shift) := by
  obtain ⟨m1, m2⟩ := and_lowMask key shift hs
  simp only [getIndex]
  rw [← Nat.shiftLeft_add_eq_or_of_lt (by omega), Nat.shiftLeft_eq, Nat.shiftRight_eq_div_pow, Nat.shiftRight_eq_div_pow]
  generalize key &&& lowMask shift = low at m1 m2
  have h2s := two_pow_mod4 shift hs
  refine ⟨by rw [Nat.add_mod, Nat.mul_mod, h2s]; omega, fun ht => ?_⟩
  have hr : key / 2^48 * top / 2^16 < top :=
    Nat.div_lt_of_lt_mul (Nat.mul_lt_mul_of_pos_right (by omega) ht)
  have hb : (key / 2^48 * top / 2^16 + 1) * 2^shift ≤ top * 2^shift := Nat.mul_le_mul_right _ hr
  rw [Nat.add_mul, Nat.one_mul] at hb
  omega

/-- The index theorem: for every table size n ≥ 512 and every 64-bit key the bucket [idx, idx+3] is 4-aligned and inside
    the table.  (`n < 2^72`: what 64 halvings bring below 256; every 64-bit size meets it.) -/
theorem index_ok (n key : Nat) (hn : 512 ≤ n) (hmax : n < 2^72) (hk : key < 2^64) :
    let u := setUsedSize n
    getIndex u key % 4 = 0 ∧ getIndex u key + 3 < n := by
  obtain ⟨h1, _, h3, h4, h5, _⟩ := loop_spec 64 n 0 (by simpa using hmax)
  have htop := h5 (by omega)
  simp only [Nat.sub_zero] at h3 h4
  -- 512 ≤ n < (top+1)·2^shift with top < 256 leaves no room for shift ≤ 1
  have hshift : 2 ≤ (topBitsLoop 64 n 0).2 := by
    false_or_by_contra
    have : 2 ^ (topBitsLoop 64 n 0).2 ≤ 2 ^ 1 := Nat.pow_le_pow_right (by omega) (by omega)
    have := Nat.mul_le_mul_left ((topBitsLoop 64 n 0).1 + 1) this
    omega
  have := getIndex_bound (topBitsLoop 64 n 0).1 _ key hshift hk
  exact ⟨this.1, by have := this.2 (by omega); simp only [setUsedSize]; omega⟩
end TT
