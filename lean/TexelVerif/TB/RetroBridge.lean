import TexelVerif.TB.RetroProof
import TexelVerif.TB.RetroChess
/-!
# From the retrograde model to the certificate checker (property C12)

Soundness of the executable instance checks of `TB/RetroChess.lean` (`okCheck…`: the obligations `Retro.OK`;
`homCheck`: legal positions ↔ legal indices), and the bridge: if both hold for a class and the run needs at most 63
scans, the bytes of the table the model generates are accepted by every unit of the certificate checker
`TB.checkUnit` (hence, by `units_sound`, are the exact distance to mate of every legal position).
-/
namespace TB.Retro
open TB Cert

/-! ## `TbMoveList::sort` sorts -/

theorem mem_insertNat (a x : Nat) : ∀ l, x ∈ insertNat a l ↔ x = a ∨ x ∈ l
  | [] => by simp [insertNat]
  | b :: l => by
    unfold insertNat
    by_cases h : a ≤ b
    · simp [h]
    · simp only [h, if_false, List.mem_cons, mem_insertNat a x l]
      constructor
      · rintro (h | h | h)
        · exact Or.inr (Or.inl h)
        · exact Or.inl h
        · exact Or.inr (Or.inr h)
      · rintro (h | h | h)
        · exact Or.inr (Or.inl h)
        · exact Or.inl h
        · exact Or.inr (Or.inr h)

theorem insertNat_sorted (a : Nat) : ∀ l : List Nat, l.Pairwise (· ≤ ·) → (insertNat a l).Pairwise (· ≤ ·)
  | [], _ => by simp [insertNat]
  | b :: l, h => by
    unfold insertNat
    have ⟨h1, h2⟩ := List.pairwise_cons.1 h
    by_cases hab : a ≤ b
    · simp only [hab, if_true]
      refine List.pairwise_cons.2 ⟨fun x hx => ?_, h⟩
      rcases List.mem_cons.1 hx with e | hx'
      · omega
      · have := h1 x hx'; omega
    · simp only [hab, if_false]
      refine List.pairwise_cons.2 ⟨fun x hx => ?_, insertNat_sorted a l h2⟩
      rcases (mem_insertNat a x l).1 hx with e | hx'
      · omega
      · exact h1 x hx'

theorem sortNat_sorted : ∀ l : List Nat, (sortNat l).Pairwise (· ≤ ·)
  | [] => by simp [sortNat]
  | a :: l => by
    have := sortNat_sorted l
    unfold sortNat at this ⊢
    simp only [List.foldr_cons]
    exact insertNat_sorted a _ this

/-! ## the instance obligations from the executable check -/

theorem legalB_iff (G : IG) (i : Nat) : legalB G i = true ↔ legalI G i := by
  simp only [legalB, legalI, Bool.and_eq_true, decide_eq_true_eq, Bool.not_eq_true', and_assoc]

theorem lmB_eq (G : IG) (i : Nat) : lmB G i = lm G i := rfl

theorem inCheckI_eq (G : IG) (i : Nat) : inCheckI G i = (G.valid (G.swap i) && G.takeK (G.swap i)) := rfl

theorem okCheckWith_sound (G : IG) (mv un : Nat → List Nat)
    (hmv : ∀ i, legalI G i → mv i = G.moves i) (hun : ∀ i, legalI G i → un i = G.unmoves i)
    (hs1 : ∀ i, (G.moves i).Pairwise (· ≤ ·)) (hs2 : ∀ i, (G.unmoves i).Pairwise (· ≤ ·))
    (h : okCheckWith G mv un = true) : OK G := by
  simp only [okCheckWith, okAt, Bool.and_eq_true, beq_iff_eq, List.all_eq_true, List.mem_range, Bool.or_eq_true,
    Bool.not_eq_true', decide_eq_true_eq, List.contains_iff_mem] at h
  obtain ⟨h64, hall⟩ := h
  have hleg : ∀ i, legalI G i → (∀ j ∈ G.moves i, (j < G.nPos ∧ G.valid j = true) ∧ (legalB G j = false ∨ i ∈ un j)) ∧
      (∀ j ∈ G.unmoves i, j < G.nPos ∧ (legalB G j = false ∨ i ∈ mv j)) ∧ G.swap i < G.nPos := by
    intro i hi
    rcases hall i hi.1 with hf | ⟨⟨a, b⟩, c⟩
    · have := (legalB_iff G i).2 hi; rw [this] at hf; cases hf
    · rw [hmv i hi] at a; rw [hun i hi] at b
      exact ⟨a, b, c⟩
  refine ⟨h64, ?_, ?_, fun i _ => hs1 i, ?_, fun i _ => hs2 i, ?_, ?_⟩
  · intro i j hi hj; exact ((hleg i hi).1 j hj).1.1
  · intro i j hi hj; exact ((hleg i hi).1 j hj).1.2
  · intro i j hi hj; exact ((hleg i hi).2.1 j hj).1
  · intro i j hi hj
    constructor
    · intro hij
      rcases ((hleg j hj).2.1 i hij).2 with hf | hm
      · have := (legalB_iff G i).2 hi; rw [this] at hf; cases hf
      · rw [hmv i hi] at hm; exact hm
    · intro hji
      rcases ((hleg i hi).1 j hji).2 with hf | hm
      · have := (legalB_iff G j).2 hj; rw [this] at hf; cases hf
      · rw [hun j hj] at hm; exact hm
  · intro i hi; exact (hleg i hi).2.2

theorem getD_map_range (n : Nat) (f : Nat → List Nat) (i : Nat) (hi : i < n) :
    ((Array.range n).map f).getD i [] = f i := by
  simp [Array.getD_eq_getD_getElem?, hi]

theorem okCheckCached_sound (G : IG) (hs1 : ∀ i, (G.moves i).Pairwise (· ≤ ·)) (hs2 : ∀ i, (G.unmoves i).Pairwise (· ≤ ·))
    (h : okCheckCached G = true) : OK G := by
  unfold okCheckCached at h
  refine okCheckWith_sound G _ _ ?_ ?_ hs1 hs2 h
  · intro i hi
    rw [getD_map_range _ _ i hi.1, (legalB_iff G i).2 hi]; rfl
  · intro i hi
    rw [getD_map_range _ _ i hi.1, (legalB_iff G i).2 hi]; rfl

theorem okCheckDirect_sound (G : IG) (hs1 : ∀ i, (G.moves i).Pairwise (· ≤ ·)) (hs2 : ∀ i, (G.unmoves i).Pairwise (· ≤ ·))
    (h : okCheckDirect G = true) : OK G :=
  okCheckWith_sound G _ _ (fun _ _ => rfl) (fun _ _ => rfl) hs1 hs2 h

theorem igOf_sorted (c : CC) : (∀ i, ((igOf c).moves i).Pairwise (· ≤ ·)) ∧ (∀ i, ((igOf c).unmoves i).Pairwise (· ≤ ·)) :=
  ⟨fun _ => sortNat_sorted _, fun _ => sortNat_sorted _⟩

/-! ## legal positions ↔ legal indices from the executable check -/

theorem subList_spec (l1 l2 : List (Option Nat)) (h : subList l1 l2 = true) : ∀ x ∈ l1, x ∈ l2 := by
  simp only [subList, List.all_eq_true, List.contains_iff_mem] at h
  exact h

theorem homAt_spec (c : CC) (sh : Shape) (G : IG) (p : Pos) (h : homAt c sh G p = true) :
    ∃ i, indexOf sh p = some i ∧ legalI G i ∧ inCheck c p = inCheckI G i ∧
      (∀ q ∈ moves c p, ∃ j ∈ lm G i, indexOf sh q = some j) ∧
      (∀ j ∈ lm G i, ∃ q ∈ moves c p, indexOf sh q = some j) := by
  unfold homAt at h
  split at h
  · cases h
  · next i hi =>
    simp only [Bool.and_eq_true, beq_iff_eq] at h
    obtain ⟨⟨hl, hc⟩, ha, hb⟩ := h
    rw [lmB_eq] at ha hb
    rw [← inCheckI_eq] at hc
    refine ⟨i, hi, (legalB_iff G i).1 hl, hc, ?_, ?_⟩
    · intro q hq
      have := subList_spec _ _ ha (indexOf sh q) (List.mem_map.2 ⟨q, hq, rfl⟩)
      obtain ⟨j, hj, e⟩ := List.mem_map.1 this
      exact ⟨j, hj, e.symm⟩
    · intro j hj
      have := subList_spec _ _ hb (some j) (List.mem_map.2 ⟨j, hj, rfl⟩)
      obtain ⟨q, hq, e⟩ := List.mem_map.1 this
      exact ⟨q, hq, e⟩

theorem homCheck_spec (c : CC) (hn2 : 2 ≤ c.n) (h : homCheck c = true) :
    ∀ p, legal c p = true → homAt c c.shape (igOf c) p = true := by
  simp only [homCheck, List.all_eq_true, List.mem_range] at h
  exact units_cover c hn2 (homAt c c.shape (igOf c)) (fun k1 h1 k2 h2 => h k1 (by omega) k2 (by omega))

/-! ## the local rule depends only on the *set* of successor values -/

theorem opt_ext {a b : Option Nat} (h : ∀ m, a = some m ↔ b = some m) : a = b := by
  cases a with
  | none =>
    cases b with
    | none => rfl
    | some y => exact absurd ((h y).2 rfl) (by simp)
  | some x => exact ((h x).1 rfl).symm

theorem expectedV_congr (l1 l2 : List Val) (chk : Bool) (h : ∀ v, v ∈ l1 ↔ v ∈ l2) :
    expectedV l1 chk = expectedV l2 chk := by
  have hnil : l1 = [] ↔ l2 = [] := by
    constructor
    · intro e; subst e
      cases l2 with
      | nil => rfl
      | cons a l => exact absurd ((h a).2 (List.mem_cons_self ..)) (by simp)
    · intro e; subst e
      cases l1 with
      | nil => rfl
      | cons a l => exact absurd ((h a).1 (List.mem_cons_self ..)) (by simp)
  have hmin : minLoss id l1 = minLoss id l2 := by
    apply opt_ext
    intro m
    rw [minLoss_some, minLoss_some]
    constructor
    · rintro ⟨⟨q, hq, e⟩, h2⟩
      exact ⟨⟨q, (h q).1 hq, e⟩, fun q hq n e => h2 q ((h q).2 hq) n e⟩
    · rintro ⟨⟨q, hq, e⟩, h2⟩
      exact ⟨⟨q, (h q).2 hq, e⟩, fun q hq n e => h2 q ((h q).1 hq) n e⟩
  have hmax : allWinMax id l1 = allWinMax id l2 := by
    apply opt_ext
    intro m
    rw [allWinMax_some, allWinMax_some]
    constructor
    · rintro ⟨h1, h2⟩
      refine ⟨fun q hq => h1 q ((h q).2 hq), ?_⟩
      rcases h2 with ⟨e, e2⟩ | ⟨q, hq, e⟩
      · exact Or.inl ⟨hnil.1 e, e2⟩
      · exact Or.inr ⟨q, (h q).1 hq, e⟩
    · rintro ⟨h1, h2⟩
      refine ⟨fun q hq => h1 q ((h q).1 hq), ?_⟩
      rcases h2 with ⟨e, e2⟩ | ⟨q, hq, e⟩
      · exact Or.inl ⟨hnil.2 e, e2⟩
      · exact Or.inr ⟨q, (h q).2 hq, e⟩
  have hemp : l1.isEmpty = l2.isEmpty := by
    cases l1 with
    | nil => rw [hnil.1 rfl]
    | cons a l =>
      cases l2 with
      | nil => exact absurd (hnil.2 rfl) (by simp)
      | cons b l' => rfl
  unfold expectedV
  rw [hmin, hmax, hemp]

/-! ## the bytes of the table -/

theorem s8_toByte (s : Int) (h1 : -128 ≤ s) (h2 : s ≤ 127) : s8 (toByte s) = s := by
  unfold s8 toByte
  have : (UInt8.ofNat (s % 256).toNat).toNat = (s % 256).toNat := by
    rw [UInt8.toNat_ofNat']
    omega
  rw [this]
  split <;> omega

theorem size_bytes (T : Tab) : (bytes T).size = T.size := by
  simp [bytes, ByteArray.size]

theorem readByte_bytes (T : Tab) (i : Nat) (hi : i < T.size) : readByte (bytes T) i = toByte (rd T i) := by
  unfold readByte
  rw [size_bytes, if_pos hi]
  simp [bytes, ByteArray.get!, rd, Array.getD_eq_getD_getElem?, hi]


/-! ## the generated table is accepted by the certificate checker -/

theorem allLists_intro : ∀ (n : Nat) (f : List Nat → Bool), (∀ l, f l = true) → allLists n f = true
  | 0, f, h => h []
  | n + 1, f, h => by
    simp only [allLists, List.all_eq_true]
    intro x _
    exact allLists_intro n _ (fun l => h (x :: l))

theorem decodeByte_bytes (T : Tab) (i : Nat) (hi : i < T.size) (h1 : -1 ≤ rd T i) (h2 : rd T i ≤ 126) :
    decodeByte (readByte (bytes T) i) = decodeS (rd T i) := by
  unfold decodeByte
  rw [readByte_bytes T i hi, s8_toByte _ (by omega) (by omega)]

theorem retro_checkPos (c : CC) (hok : OK (igOf c))
    (hhom : ∀ p, legal c p = true → homAt c c.shape (igOf c) p = true)
    (hp : (generate (igOf c)).passes ≤ 63) (p : Pos) (hl : legal c p = true) :
    checkPos c c.shape (bytes (generate (igOf c)).tab) p = true := by
  obtain ⟨i, hi, hleg, hchk, hfw, hbw⟩ := homAt_spec c c.shape (igOf c) p (hhom p hl)
  obtain ⟨hsz, hs⟩ := generate_spec hok hp
  generalize (generate (igOf c)).tab = tab at *
  have hdec : ∀ j, legalI (igOf c) j → decodeByte (readByte (bytes tab) j) = decodeS (rd tab j) := by
    intro j hj
    have := (hs j hj.1).2.2.2
    exact decodeByte_bytes tab j (by rw [hsz]; exact hj.1) this.1 this.2
  have htv : ∀ q j, indexOf c.shape q = some j → legalI (igOf c) j →
      tableVal c c.shape (bytes tab) q = valT tab j := by
    intro q j hq hj
    unfold tableVal valT
    rw [hq]; simp only
    rw [hdec j hj]
  obtain ⟨v, hv, he⟩ := (hs i hleg.1).2.2.1 hleg
  unfold checkPos
  rw [hi]; simp only
  rw [hdec i hleg, hv]; simp only
  have hlt : i < (bytes tab).size := by rw [size_bytes, hsz]; exact hleg.1
  simp only [hlt, decide_true, Bool.true_and, decide_eq_true_eq]
  rw [he, expected_eq_expectedV, hchk]
  have hm : (gameI (igOf c)).moves i = lm (igOf c) i := rfl
  have hc : (gameI (igOf c)).inCheck i = inCheckI (igOf c) i := rfl
  rw [hm, hc]
  apply expectedV_congr
  intro v'
  simp only [List.mem_map]
  constructor
  · rintro ⟨j, hj, e⟩
    obtain ⟨q, hq, hqj⟩ := hbw j hj
    exact ⟨q, hq, by rw [htv q j hqj (lm_legal hok hleg hj)]; exact e⟩
  · rintro ⟨q, hq, e⟩
    obtain ⟨j, hj, hqj⟩ := hfw q hq
    exact ⟨j, hj, by rw [← htv q j hqj (lm_legal hok hleg hj)]; exact e⟩

/-- **bridge**: every unit of the certificate checker accepts the bytes of the table the model generates -/
theorem retro_checkUnits (c : CC) (hn2 : 2 ≤ c.n) (hok : OK (igOf c)) (hhom : homCheck c = true)
    (hp : (generate (igOf c)).passes ≤ 63) (k1 k2 : Nat) :
    checkUnit c c.shape (bytes (generate (igOf c)).tab) k1 k2 = true := by
  unfold checkUnit
  apply allLists_intro
  intro l
  unfold checkAt
  simp only [List.all_cons, List.all_nil, Bool.and_true, Bool.and_eq_true, Bool.or_eq_true, Bool.not_eq_true']
  have hh := homCheck_spec c hn2 hhom
  constructor
  · cases hl : legal c ⟨true, k1 :: k2 :: l⟩
    · exact Or.inl rfl
    · exact Or.inr (retro_checkPos c hok hh hp _ hl)
  · cases hl : legal c ⟨false, k1 :: k2 :: l⟩
    · exact Or.inl rfl
    · exact Or.inr (retro_checkPos c hok hh hp _ hl)

theorem retro_checkTable (c : CC) (hn2 : 2 ≤ c.n) (hok : OK (igOf c)) (hhom : homCheck c = true)
    (hp : (generate (igOf c)).passes ≤ 63) :
    checkTable c c.shape (bytes (generate (igOf c)).tab) = true := by
  unfold checkTable
  simp only [Bool.and_eq_true, beq_iff_eq, List.all_eq_true]
  refine ⟨?_, fun k1 _ k2 _ => retro_checkUnits c hn2 hok hhom hp k1 k2⟩
  rw [size_bytes, (generate_spec hok hp).1]; rfl

/-- the table size of a class is a multiple of 64 (`newMated[idx >> 6]` stays inside its `nPos / 64` entries) -/
theorem igOf_h64 (c : CC) (hn2 : 2 ≤ c.n) : (igOf c).nPos % 64 = 0 := by
  show c.shape.nPos % 64 = 0
  unfold Shape.nPos
  have : c.shape.p = c.n := rfl
  rw [this]
  obtain ⟨k, hk⟩ : ∃ k, c.n - 1 = k + 1 := ⟨c.n - 2, by omega⟩
  rw [hk, Nat.pow_succ]
  omega


/-- a toy index graph (64 indices, four of them valid) showing that the hypotheses of the theorems are satisfiable:
    0 → 1; 1 has no move and is in check (its swapped index 3 is a king capture); 2 has no move and is not in check -/
def toy : IG :=
  { nPos := 64, valid := fun i => i < 4, takeK := fun i => i == 3,
    moves := fun i => if i == 0 then [1] else [], unmoves := fun i => if i == 1 then [0] else [],
    swap := fun i => if i == 1 then 3 else 2 }

/-- the run on the toy graph: win 1 / loss 0 / draw, MATE_IN_0 and INVALID -/
theorem toy_run : (generate toy).passes ≤ 63 ∧ (generate toy).tab.toList.take 5 = [65, 63, 0, 64, -1] := by
  decide +kernel

end TB.Retro
