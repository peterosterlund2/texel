import TexelVerif.TB.Retro
/-!
# Lemmas for the retrograde model (property C12) below the invariant: folds, array reads after writes, the adjacent-
duplicate skip, a counting lemma, the block-skipping scan as a fold, what the two inner loops do to the table.
-/
namespace TB.Retro
theorem foldl_rel {α β : Type} (R : β → β → Prop) (hrefl : ∀ b, R b b) (htrans : ∀ a b c, R a b → R b c → R a c)
    (f : β → α → β) (hstep : ∀ b a, R b (f b a)) : ∀ (l : List α) (b : β), R b (l.foldl f b)
  | [], b => hrefl b
  | a :: l, b => htrans _ _ _ (hstep b a) (foldl_rel R hrefl htrans f hstep l (f b a))

/-- a fold whose counter `μ` never falls and ends where it started did nothing -/
theorem foldl_noop {α β : Type} (μ : β → Nat) (f : β → α → β) (Q : β → α → Prop) (hmono : ∀ b a, μ b ≤ μ (f b a))
    (hstep : ∀ b a, μ (f b a) = μ b → f b a = b ∧ Q b a) :
    ∀ (l : List α) (b : β), μ (l.foldl f b) = μ b → l.foldl f b = b ∧ ∀ a ∈ l, Q b a
  | [], _, _ => ⟨rfl, fun _ h => nomatch h⟩
  | a :: l, b, h => by
    simp only [List.foldl_cons] at h ⊢
    have h1 := hmono b a
    have h2 := foldl_rel (fun x y => μ x ≤ μ y) (fun _ => Nat.le_refl _) (fun _ _ _ => Nat.le_trans) f hmono l (f b a)
    obtain ⟨e, hq⟩ := hstep b a (by omega)
    rw [e] at h ⊢
    obtain ⟨e2, hl⟩ := foldl_noop μ f Q hmono hstep l b h
    refine ⟨e2, fun y hy => ?_⟩
    rcases List.mem_cons.1 hy with rfl | hy'
    · exact hq
    · exact hl y hy'

theorem rd_set (T : Tab) (i : Nat) (v : Int) (j : Nat) :
    rd (T.setIfInBounds i v) j = if i = j ∧ i < T.size then v else rd T j := by
  unfold rd
  simp only [Array.getD_eq_getD_getElem?, Array.getElem?_setIfInBounds]
  by_cases h : i = j
  · subst h
    by_cases h2 : i < T.size
    · simp [h2]
    · simp [h2]
  · simp [h]

theorem flag_set (F : Flags) (i : Nat) (v : Bool) (j : Nat) :
    flag (F.setIfInBounds i v) j = if i = j ∧ i < F.size then v else flag F j := by
  unfold flag
  simp only [Array.getD_eq_getD_getElem?, Array.getElem?_setIfInBounds]
  by_cases h : i = j
  · subst h
    by_cases h2 : i < F.size
    · simp [h2]
    · simp [h2]
  · simp [h]

theorem rd_replicate (n : Nat) (v : Int) (j : Nat) : rd (Array.replicate n v) j = if j < n then v else -1 := by
  unfold rd
  simp only [Array.getD_eq_getD_getElem?, Array.getElem?_replicate]
  by_cases h : j < n <;> simp [h]

theorem flag_replicate (n : Nat) (j : Nat) : flag (Array.replicate n false) j = false := by
  unfold flag
  simp only [Array.getD_eq_getD_getElem?, Array.getElem?_replicate]
  by_cases h : j < n <;> simp [h]

theorem rd_map (T : Tab) (f : Int → Int) (j : Nat) (h : j < T.size) : rd (T.map f) j = f (rd T j) := by
  unfold rd
  simp [Array.getD_eq_getD_getElem?, h]

theorem mem_dedupAdj (x : Nat) : ∀ l : List Nat, x ∈ dedupAdj l ↔ x ∈ l
  | [] => by simp [dedupAdj]
  | [a] => by simp [dedupAdj]
  | a :: b :: l => by
    have ih := mem_dedupAdj x (b :: l)
    unfold dedupAdj
    by_cases h : a = b
    · subst h; simp only [if_true, ih, List.mem_cons]
      constructor
      · intro h; exact Or.inr h
      · rintro (h | h)
        · exact Or.inl h
        · exact h
    · simp only [h, if_false, List.mem_cons, ih]

theorem nodup_dedupAdj : ∀ l : List Nat, l.Pairwise (· ≤ ·) → (dedupAdj l).Nodup
  | [], _ => by simp [dedupAdj]
  | [a], _ => by simp [dedupAdj]
  | a :: b :: l, hs => by
    have hs' : (b :: l).Pairwise (· ≤ ·) := (List.pairwise_cons.1 hs).2
    have ih := nodup_dedupAdj (b :: l) hs'
    unfold dedupAdj
    by_cases h : a = b
    · simp only [h, if_true]; exact ih
    · simp only [h, if_false]
      refine List.nodup_cons.2 ⟨?_, ih⟩
      rw [mem_dedupAdj]
      intro hm
      have h1 := (List.pairwise_cons.1 hs).1
      have hab := h1 b (List.mem_cons_self ..)
      rcases List.mem_cons.1 hm with e | hm'
      · exact h e
      · have := (List.pairwise_cons.1 hs').1 a hm'
        omega

theorem length_filter_flip (p q : Nat → Bool) (x : Nat) (hp : p x = true) (hq : q x = false)
    (hoth : ∀ y, y ≠ x → q y = p y) :
    ∀ l : List Nat, l.Nodup → (l.filter q).length + (if x ∈ l then 1 else 0) = (l.filter p).length
  | [], _ => by simp
  | a :: l, hnd => by
    have ⟨ha, hnd'⟩ := List.nodup_cons.1 hnd
    have ih := length_filter_flip p q x hp hq hoth l hnd'
    by_cases hax : a = x
    · subst hax
      simp only [List.filter_cons, hp, hq, if_true, List.mem_cons, true_or, List.length_cons]
      simp only [ha, if_false] at ih
      simp; omega
    · have hxa : ¬ x = a := fun e => hax e.symm
      simp only [List.filter_cons, hoth a hax, List.mem_cons, hxa, false_or]
      by_cases hpa : p a = true
      · simp only [hpa, if_true, List.length_cons]; omega
      · simp only [hpa]; exact ih

theorem filter_block (old : Flags) (idx : Nat) (h0 : idx % 64 = 0) (hf : flag old (idx / 64) = false) :
    (List.range' idx 64).filter (fun i => flag old (i / 64)) = [] := by
  apply List.filter_eq_nil_iff.2
  intro i hi
  have := List.mem_range'_1.1 hi
  have : i / 64 = idx / 64 := by omega
  rw [this, hf]; simp

theorem scan_eq (G : IG) (n : Nat) (old : Flags) (h64 : G.nPos % 64 = 0) :
    ∀ k idx st, G.nPos - idx = k → (idx % 64 = 0 ∨ flag old (idx / 64) = true) →
      scan G n old idx st =
        ((List.range' idx (G.nPos - idx)).filter (fun i => flag old (i / 64))).foldl (visit G n) st := by
  intro k
  induction k using Nat.strongRecOn with
  | _ k ih =>
    intro idx st hk hidx
    rw [scan]
    by_cases hlt : idx < G.nPos
    · simp only [hlt, dif_pos]
      by_cases hskip : idx % 64 = 0 ∧ flag old (idx / 64) = false
      · simp only [hskip, and_self, if_true]
        have hle : idx + 64 ≤ G.nPos := by omega
        rw [ih (G.nPos - (idx + 63 + 1)) (by omega) (idx + 63 + 1) st rfl (Or.inl (by omega))]
        have : G.nPos - idx = 64 + (G.nPos - (idx + 63 + 1)) := by omega
        rw [this, ← List.range'_append_1, List.filter_append, filter_block old idx hskip.1 hskip.2]
        simp
      · simp only [hskip, if_false]
        have hfl : flag old (idx / 64) = true := by
          rcases hidx with h | h
          · by_cases hf : flag old (idx / 64) = true
            · exact hf
            · exfalso; apply hskip; exact ⟨h, by simpa using hf⟩
          · exact h
        have hnext : (idx + 1) % 64 = 0 ∨ flag old ((idx + 1) / 64) = true := by
          by_cases h : (idx + 1) % 64 = 0
          · exact Or.inl h
          · right
            have : (idx + 1) / 64 = idx / 64 := by omega
            rw [this]; exact hfl
        rw [ih (G.nPos - (idx + 1)) (by omega) (idx + 1) _ rfl hnext]
        have : G.nPos - idx = (G.nPos - (idx + 1)) + 1 := by omega
        rw [this, List.range'_succ, List.filter_cons]
        simp only [hfl, if_true, List.foldl_cons]
    · simp only [hlt, dif_neg, not_false_eq_true]
      have : G.nPos - idx = 0 := by omega
      rw [this]; simp

theorem rd_lt_size (T : Tab) (k : Nat) (h : rd T k ≠ -1) : k < T.size := by
  unfold rd at h
  by_cases hk : k < T.size
  · exact hk
  · exfalso; apply h; simp [Array.getD_eq_getD_getElem?, hk]

/-- the value a REMAINING cell gets when one of its successors has become MATE_IN_n -/
def dec (n : Nat) (v : Int) : Int := if v + 1 = -3 then 63 - (n : Int) else v + 1

theorem dec_last (n : Nat) : dec n (-4) = 63 - (n : Int) := rfl

theorem dec_of_ne (n : Nat) (v : Int) (h : v ≠ -4) : dec n v = v + 1 := by
  unfold dec
  rw [if_neg (by omega)]

theorem decFold_spec (n : Nat) : ∀ (l : List Nat) (T0 : Tab) (F0 : Flags), l.Nodup →
    let r := l.foldl (decStep n) (T0, F0)
    r.1.size = T0.size ∧ r.2.size = F0.size ∧
    (∀ k, rd r.1 k = if k ∈ l ∧ rd T0 k < -3 then dec n (rd T0 k) else rd T0 k) ∧
    (∀ b, flag F0 b = true → flag r.2 b = true) ∧
    (∀ k, k ∈ l → rd T0 k = -4 → k / 64 < F0.size → flag r.2 (k / 64) = true)
  | [], T0, F0, _ => by simp
  | x :: l, T0, F0, hnd => by
    have ⟨hx, hnd'⟩ := List.nodup_cons.1 hnd
    simp only [List.foldl_cons]
    by_cases hv : rd T0 x < -3
    · have hxs : x < T0.size := rd_lt_size T0 x (by omega)
      by_cases h4 : rd T0 x + 1 = -3
      · have hst : decStep n (T0, F0) x = (T0.setIfInBounds x (63 - (n : Int)), F0.setIfInBounds (x / 64) true) := by
          simp only [decStep, hv, h4, if_true]
        rw [hst]
        have ih := decFold_spec n l (T0.setIfInBounds x (63 - (n : Int))) (F0.setIfInBounds (x / 64) true) hnd'
        simp only at ih
        obtain ⟨i1, i2, i3, i4, i5⟩ := ih
        refine ⟨by rw [i1, Array.size_setIfInBounds], by rw [i2, Array.size_setIfInBounds], ?_, ?_, ?_⟩
        · intro k
          rw [i3 k, rd_set]
          by_cases hkx : x = k
          · subst hkx
            simp only [hx, false_and, if_false, true_and, hxs, if_true, List.mem_cons, true_or, hv, dec, h4]
          · have : ¬ k = x := fun e => hkx e.symm
            simp only [hkx, false_and, if_false, List.mem_cons, this, false_or]
        · intro b hb
          apply i4
          rw [flag_set]
          by_cases hc : x / 64 = b ∧ x / 64 < F0.size
          · rw [if_pos hc]
          · rw [if_neg hc]; exact hb
        · intro k hk hk4 hks
          rcases List.mem_cons.1 hk with e | hk'
          · subst e
            apply i4
            rw [flag_set]; simp [hks]
          · have hkx : ¬ x = k := fun e => hx (e ▸ hk')
            apply i5 k hk'
            · rw [rd_set]; simp only [hkx, false_and, if_false]; exact hk4
            · rw [Array.size_setIfInBounds]; exact hks
      · have hst : decStep n (T0, F0) x = (T0.setIfInBounds x (rd T0 x + 1), F0) := by
          simp only [decStep, hv, h4, if_true, if_false]
        rw [hst]
        have ih := decFold_spec n l (T0.setIfInBounds x (rd T0 x + 1)) F0 hnd'
        simp only at ih
        obtain ⟨i1, i2, i3, i4, i5⟩ := ih
        refine ⟨by rw [i1, Array.size_setIfInBounds], i2, ?_, i4, ?_⟩
        · intro k
          rw [i3 k, rd_set]
          by_cases hkx : x = k
          · subst hkx
            simp only [hx, false_and, if_false, true_and, hxs, if_true, List.mem_cons, true_or, hv, dec, h4]
          · have : ¬ k = x := fun e => hkx e.symm
            simp only [hkx, false_and, if_false, List.mem_cons, this, false_or]
        · intro k hk hk4 hks
          rcases List.mem_cons.1 hk with e | hk'
          · subst e; omega
          · have hkx : ¬ x = k := fun e => hx (e ▸ hk')
            apply i5 k hk'
            · rw [rd_set]; simp only [hkx, false_and, if_false]; exact hk4
            · exact hks
    · have hst : decStep n (T0, F0) x = (T0, F0) := by
        simp only [decStep, hv, if_false]
      rw [hst]
      have ih := decFold_spec n l T0 F0 hnd'
      simp only at ih
      obtain ⟨i1, i2, i3, i4, i5⟩ := ih
      refine ⟨i1, i2, ?_, i4, ?_⟩
      · intro k
        rw [i3 k]
        by_cases hkx : k = x
        · subst hkx; simp only [hv, and_false, if_false]
        · simp only [List.mem_cons, hkx, false_or]
      · intro k hk hk4 hks
        rcases List.mem_cons.1 hk with e | hk'
        · subst e; omega
        · exact i5 k hk' hk4 hks


theorem labelWin_spec (G : IG) (n : Nat) (T : Tab) (F : Flags) (W : Nat) (hW : W < T.size)
    (hnd : (dedupAdj (G.unmoves W)).Nodup) :
    let r := labelWin G n T F W
    r.1.size = T.size ∧ r.2.size = F.size ∧ rd r.1 W = 64 + (n : Int) ∧
    (∀ k, k ≠ W → rd r.1 k = if k ∈ G.unmoves W ∧ rd T k < -3 then dec n (rd T k) else rd T k) ∧
    (∀ b, flag F b = true → flag r.2 b = true) ∧
    (∀ k, k ≠ W → k ∈ G.unmoves W → rd T k = -4 → k / 64 < F.size → flag r.2 (k / 64) = true) := by
  have h := decFold_spec n (dedupAdj (G.unmoves W)) (T.setIfInBounds W (64 + (n : Int))) F hnd
  simp only at h
  obtain ⟨h1, h2, h3, h4, h5⟩ := h
  simp only [labelWin]
  refine ⟨by rw [h1, Array.size_setIfInBounds], h2, ?_, ?_, h4, ?_⟩
  · rw [h3 W, rd_set]
    simp only [true_and, hW, if_true]
    have : ¬ (64 + (n : Int) < -3) := by omega
    simp only [this, and_false, if_false]
  · intro k hk
    have hk' : ¬ W = k := fun e => hk e.symm
    rw [h3 k, rd_set]
    simp only [hk', false_and, if_false, mem_dedupAdj]
  · intro k hk hm h4' hs
    have hk' : ¬ W = k := fun e => hk e.symm
    apply h5 k ((mem_dedupAdj k _).2 hm) _ hs
    rw [rd_set]; simp only [hk', false_and, if_false]; exact h4'
/-- **what labelling `W` does to another cell**: nothing, or (a predecessor of `W`) REMAINING_1 → MATED_IN_n, or
    REMAINING_c → REMAINING_(c−1) -/
theorem labelWin_cell (G : IG) (n : Nat) (T : Tab) (F : Flags) (W : Nat) (hW : W < T.size)
    (hnd : (dedupAdj (G.unmoves W)).Nodup) (k : Nat) (hk : k ≠ W) :
    rd (labelWin G n T F W).1 k = rd T k ∨
    (k ∈ G.unmoves W ∧ rd T k < -3 ∧ ((rd T k = -4 ∧ rd (labelWin G n T F W).1 k = 63 - (n : Int)) ∨
      (rd T k ≠ -4 ∧ rd (labelWin G n T F W).1 k = rd T k + 1))) := by
  rw [(labelWin_spec G n T F W hW hnd).2.2.2.1 k hk]
  by_cases hc : k ∈ G.unmoves W ∧ rd T k < -3
  · rw [if_pos hc]
    by_cases h4 : rd T k = -4
    · exact Or.inr ⟨hc.1, hc.2, Or.inl ⟨h4, by rw [h4, dec_last]⟩⟩
    · exact Or.inr ⟨hc.1, hc.2, Or.inr ⟨h4, dec_of_ne n _ h4⟩⟩
  · rw [if_neg hc]; exact Or.inl rfl

end TB.Retro
