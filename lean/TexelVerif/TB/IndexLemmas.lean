import TexelVerif.TB.Index
/-! Lemmas about the model of `TBPosition::setPosition`: a board that has castling rights, or more men of some
    piece code than the table's class has slots for it, is reported as "not in this table"; and what `decodeS` reads
    from a cell (`decodeS_win`, `decodeS_loss`, `decodeS_zero`). -/
namespace TB

/-- number of men with piece code `c` -/
def countCode (c : Nat) (men : List Nat) : Nat := men.countP fun m => manCode m == c

theorem takeFirst_count (code c : Nat) (men : List Nat) (s : Nat) (rest : List Nat)
    (h : takeFirst code men = some (s, rest)) :
    countCode c men ≤ countCode c rest + (if c = code then 1 else 0) := by
  induction men generalizing s rest with
  | nil => simp [takeFirst] at h
  | cons m l ih =>
    unfold takeFirst at h
    split at h
    · next hm =>
      injection h with h; injection h with h1 h2; subst h2
      simp only [countCode, List.countP_cons]
      have hm' : manCode m = code := by simpa using hm
      by_cases hc : c = code
      · subst hc; simp [hm']
      · have : (manCode m == c) = false := by simp [hm', Ne.symm hc]
        simp [this]
    · next hm =>
      split at h
      · next s' l' hl =>
        injection h with h; injection h with h1 h2; subst h1; subst h2
        have := ih s' l' hl
        simp only [countCode, List.countP_cons] at this ⊢
        omega
      · cases h

theorem place_count (sh : Shape) (bk : Nat) (c : Nat) (codes : List Nat) :
    ∀ (i : Nat) (idx : W) (men : List Nat),
      countCode c men ≤ countCode c (sh.place bk i codes idx men).2 + codes.count c := by
  induction codes with
  | nil => intro i idx men; simp [Shape.place]
  | cons code codes ih =>
    intro i idx men
    unfold Shape.place
    split
    · next sq rest hr =>
      have h1 := takeFirst_count code c men sq rest hr
      have h2 := ih (i+1) (if isKingCode code = true then idx else sh.setSquare idx i sq) rest
      simp only [List.count_cons]
      by_cases hc : c = code
      · subst hc; simp only [if_true, beq_self_eq_true] at h1 ⊢; omega
      · have : (code == c) = false := by simp [Ne.symm hc]
        simp only [hc, if_false, this] at h1 ⊢
        omega
    · next hr =>
      have h2 := ih (i+1) (sh.setSquare idx i bk) men
      simp only [List.count_cons]
      omega

/-- castling rights ⇒ not found -/
theorem setPosition_castle (sh : Shape) (b : Board) (h : b.castle ≠ 0) : sh.setPosition b = none := by
  unfold Shape.setPosition
  simp [h]

/-- more men of some piece code (1..12, pawns included) than the class has slots with that code ⇒ not found -/
theorem setPosition_material (sh : Shape) (b : Board) (c : Nat) (h : sh.types.count c < countCode c b.men) :
    sh.setPosition b = none := by
  unfold Shape.setPosition
  split
  · rfl
  · have hp := place_count sh (findSq 7 b.men) c sh.types 0 (sh.setSquare 0 sh.nWhite (findSq 7 b.men)) b.men
    have hpos : 0 < countCode c (sh.place (findSq 7 b.men) 0 sh.types (sh.setSquare 0 sh.nWhite (findSq 7 b.men)) b.men).2 := by omega
    have hne : (sh.place (findSq 7 b.men) 0 sh.types (sh.setSquare 0 sh.nWhite (findSq 7 b.men)) b.men).2.isEmpty = false := by
      cases hl : (sh.place (findSq 7 b.men) 0 sh.types (sh.setSquare 0 sh.nWhite (findSq 7 b.men)) b.men).2 with
      | nil => rw [hl] at hpos; simp [countCode] at hpos
      | cons a l => rfl
    simp only [hne, Bool.not_false, if_true]

theorem decodeS_win (k : Nat) (hk : 1 ≤ k) : decodeS (64 + (k : Int)) = some (.win k) := by
  unfold decodeS
  have : 64 + (k : Int) > 64 := by omega
  rw [if_pos this]
  have : (64 + (k : Int) - 64).toNat = k := by omega
  rw [this]

theorem decodeS_loss (k : Nat) (hk : k ≤ 62) : decodeS (63 - (k : Int)) = some (.loss k) := by
  unfold decodeS
  have h1 : ¬ (63 - (k : Int) > 64) := by omega
  have h2 : 1 ≤ 63 - (k : Int) ∧ 63 - (k : Int) ≤ 63 := by omega
  rw [if_neg h1, if_pos h2]
  have : (63 - (63 - (k : Int))).toNat = k := by omega
  rw [this]

theorem decodeS_zero : decodeS 0 = some .draw := by decide

end TB
