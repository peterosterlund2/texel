/-! A table that is a fixed point of the local "expected value" rule is the exact DTM table. -/
namespace Cert

inductive Val where
  | win  : Nat → Val    -- side to move mates in n moves (n ≥ 1)
  | loss : Nat → Val    -- side to move is mated in n moves (n ≥ 0; 0 = checkmated)
  | draw : Val
deriving DecidableEq, Repr

structure Game (P : Type) where
  moves : P → List P
  inCheck : P → Bool

variable {P : Type} (G : Game P)

/-- ground truth by bounded recursion: (lossWithin n p, winWithin n p) -/
def within : Nat → P → Bool × Bool
  | 0, p => ((G.moves p).isEmpty && G.inCheck p, false)
  | n+1, p =>
    let w := (G.moves p).any (fun q => (within n q).1)
    -- loss within n+1: checkmated, or has moves and every move lets the opponent win within n+1
    -- (opponent's "win within n+1" needs our "loss within n" after his move: one level down)
    (((G.moves p).isEmpty && G.inCheck p) ||
      (!(G.moves p).isEmpty && (G.moves p).all (fun q => (G.moves q).any (fun r => (within n r).1))), w)

def lossW (n : Nat) (p : P) : Bool := (within G n p).1
def winW (n : Nat) (p : P) : Bool := (within G n p).2

theorem winW_succ (n : Nat) (p : P) : winW G (n+1) p = (G.moves p).any (fun q => lossW G n q) := by
  simp [winW, lossW, within]

theorem lossW_zero (p : P) : lossW G 0 p = ((G.moves p).isEmpty && G.inCheck p) := by
  simp [lossW, within]

theorem lossW_succ (n : Nat) (p : P) :
    lossW G (n+1) p = (((G.moves p).isEmpty && G.inCheck p) ||
      (!(G.moves p).isEmpty && (G.moves p).all (fun q => winW G (n+1) q))) := by
  simp [lossW, winW, within]

end Cert

namespace Cert
variable {P : Type} (G : Game P)

def lossVal : Val → Option Nat | .loss n => some n | _ => none
def winVal : Val → Option Nat | .win n => some n | _ => none

/-- minimum n such that some q in l has T q = loss n -/
def minLoss (T : P → Val) : List P → Option Nat
  | [] => none
  | q :: l => match lossVal (T q), minLoss T l with
    | some a, some b => some (min a b)
    | some a, none => some a
    | none, r => r

/-- if every q in l is labelled win k, the maximum k (0 for the empty list) -/
def allWinMax (T : P → Val) : List P → Option Nat
  | [] => some 0
  | q :: l => match winVal (T q), allWinMax T l with
    | some a, some b => some (max a b)
    | _, _ => none

def expected (T : P → Val) (p : P) : Val :=
  match minLoss T (G.moves p) with
  | some n => .win (n+1)
  | none =>
    if (G.moves p).isEmpty then (if G.inCheck p then .loss 0 else .draw)
    else match allWinMax T (G.moves p) with
      | some m => if m = 0 then .draw else .loss m     -- m = 0 would need a successor labelled `win 0`, never valid
      | none => .draw

theorem allWinMax_none_of (T : P → Val) : ∀ (l : List P), (∃ q ∈ l, winVal (T q) = none) → allWinMax T l = none
  | [], h => by obtain ⟨q, hq, _⟩ := h; cases hq
  | a :: l, h => by
    unfold allWinMax
    obtain ⟨q, hq, hn⟩ := h
    rcases List.mem_cons.1 hq with e | hq'
    · subst e; rw [hn]
    · rw [allWinMax_none_of T l ⟨q, hq', hn⟩]
      cases winVal (T a) <;> rfl

theorem exp_win (Gm : Game P) (V : P → Val) (p : P) (m : Nat) (h : minLoss V (Gm.moves p) = some m) :
    expected Gm V p = .win (m + 1) := by
  unfold expected; rw [h]

theorem exp_nomoves (Gm : Game P) (V : P → Val) (p : P) (h : Gm.moves p = []) :
    expected Gm V p = if Gm.inCheck p then .loss 0 else .draw := by
  unfold expected; rw [h]; simp [minLoss]

theorem exp_loss (Gm : Game P) (V : P → Val) (p : P) (m : Nat) (h1 : minLoss V (Gm.moves p) = none)
    (h2 : Gm.moves p ≠ []) (h3 : allWinMax V (Gm.moves p) = some (m + 1)) : expected Gm V p = .loss (m + 1) := by
  unfold expected; rw [h1, h3]
  have : (Gm.moves p).isEmpty = false := by simpa using h2
  simp [this]

theorem exp_draw (Gm : Game P) (V : P → Val) (p : P) (h1 : minLoss V (Gm.moves p) = none)
    (h2 : Gm.moves p ≠ []) (h3 : allWinMax V (Gm.moves p) = none) : expected Gm V p = .draw := by
  unfold expected; rw [h1, h3]
  have : (Gm.moves p).isEmpty = false := by simpa using h2
  simp [this]

theorem expected_cases (T : P → Val) (p : P) :
    (∃ m, minLoss T (G.moves p) = some m ∧ expected G T p = .win (m+1)) ∨
    (minLoss T (G.moves p) = none ∧ (G.moves p).isEmpty = true ∧
      expected G T p = if G.inCheck p then .loss 0 else .draw) ∨
    (minLoss T (G.moves p) = none ∧ (G.moves p).isEmpty = false ∧
      ∃ m, allWinMax T (G.moves p) = some (m+1) ∧ expected G T p = .loss (m+1)) ∨
    (minLoss T (G.moves p) = none ∧ (G.moves p).isEmpty = false ∧ expected G T p = .draw) := by
  unfold expected
  cases hm : minLoss T (G.moves p) with
  | some m => exact Or.inl ⟨m, rfl, rfl⟩
  | none =>
    cases he : (G.moves p).isEmpty with
    | true => exact Or.inr (Or.inl ⟨rfl, rfl, rfl⟩)
    | false =>
      cases ha : allWinMax T (G.moves p) with
      | none => exact Or.inr (Or.inr (Or.inr ⟨rfl, rfl, rfl⟩))
      | some a =>
        cases a with
        | zero => exact Or.inr (Or.inr (Or.inr ⟨rfl, rfl, rfl⟩))
        | succ m => exact Or.inr (Or.inr (Or.inl ⟨rfl, rfl, m, rfl, rfl⟩))

theorem expected_ne_win0 (T : P → Val) (p : P) : expected G T p ≠ .win 0 := by
  intro h
  rcases expected_cases G T p with ⟨m, _, e⟩ | ⟨_, _, e⟩ | ⟨_, _, m, _, e⟩ | ⟨_, _, e⟩ <;> rw [e] at h
  · cases h
  · split at h <;> cases h
  · cases h
  · cases h

theorem expected_eq_win (T : P → Val) (p : P) (m : Nat) :
    expected G T p = .win (m+1) ↔ minLoss T (G.moves p) = some m := by
  refine ⟨fun h => ?_, exp_win G T p m⟩
  rcases expected_cases G T p with ⟨m', hm, e⟩ | ⟨_, _, e⟩ | ⟨_, _, m', _, e⟩ | ⟨_, _, e⟩ <;> rw [e] at h
  · injection h with h; rw [hm, Nat.succ.inj h]
  · split at h <;> cases h
  · cases h
  · cases h

theorem expected_eq_loss0 (T : P → Val) (p : P) :
    expected G T p = .loss 0 ↔ ((G.moves p).isEmpty = true ∧ G.inCheck p = true) := by
  constructor
  · intro h
    rcases expected_cases G T p with ⟨m, _, e⟩ | ⟨_, he, e⟩ | ⟨_, _, m, _, e⟩ | ⟨_, _, e⟩ <;> rw [e] at h
    · cases h
    · split at h
      · next hc => exact ⟨he, hc⟩
      · cases h
    · cases h
    · cases h
  · rintro ⟨he, hc⟩
    rw [exp_nomoves G T p (List.isEmpty_iff.1 he), hc]
    rfl

theorem expected_eq_loss (T : P → Val) (p : P) (m : Nat) : expected G T p = .loss (m+1) ↔
    (minLoss T (G.moves p) = none ∧ (G.moves p).isEmpty = false ∧ allWinMax T (G.moves p) = some (m+1)) := by
  constructor
  · intro h
    rcases expected_cases G T p with ⟨m', _, e⟩ | ⟨_, _, e⟩ | ⟨hn, he, m', hm, e⟩ | ⟨_, _, e⟩ <;> rw [e] at h
    · cases h
    · split at h <;> cases h
    · injection h with h; rw [hm, h]; exact ⟨hn, he, rfl⟩
    · cases h
  · rintro ⟨h1, h2, h3⟩
    exact exp_loss G T p m h1 (fun e => by rw [e] at h2; cases h2) h3

theorem minLoss_none (T : P → Val) (l : List P) : minLoss T l = none ↔ ∀ q ∈ l, ∀ n, T q ≠ .loss n := by
  induction l with
  | nil => simp [minLoss]
  | cons q l ih =>
    simp only [minLoss, List.mem_cons, forall_eq_or_imp]
    cases h : T q <;> simp [lossVal, ih]
    · cases h2 : minLoss T l <;> simp

theorem minLoss_some (T : P → Val) (l : List P) (m : Nat) : minLoss T l = some m ↔
    (∃ q ∈ l, T q = .loss m) ∧ (∀ q ∈ l, ∀ n, T q = .loss n → m ≤ n) := by
  induction l generalizing m with
  | nil => simp [minLoss]
  | cons q l ih =>
    simp only [minLoss, List.mem_cons, forall_eq_or_imp, exists_eq_or_imp]
    cases h : T q with
    | loss a =>
      simp only [lossVal]
      cases h2 : minLoss T l with
      | none =>
        have hn := (minLoss_none T l).1 h2
        simp only [Option.some.injEq, Val.loss.injEq]
        constructor
        · rintro rfl
          exact ⟨Or.inl rfl, fun n hn' => by omega, fun q hq n hqn => absurd hqn (hn q hq n)⟩
        · rintro ⟨h3 | ⟨q', hq', hq''⟩, h4, _⟩
          · exact h3
          · exact absurd hq'' (hn q' hq' m)
      | some b =>
        have hb := (ih b).1 h2
        simp only [Option.some.injEq, Val.loss.injEq]
        constructor
        · rintro rfl
          refine ⟨?_, fun n hn' => by omega, fun q' hq' n hqn => ?_⟩
          · by_cases hab : a ≤ b
            · left; omega
            · right; obtain ⟨q', hq', hq''⟩ := hb.1; exact ⟨q', hq', by rw [hq'']; congr 1; omega⟩
          · have := hb.2 q' hq' n hqn; omega
        · rintro ⟨h3, h4, h5⟩
          have h4' := h4 a rfl
          obtain ⟨q', hq', hq''⟩ := hb.1
          have h5' := h5 q' hq' b hq''
          rcases h3 with h3 | ⟨q2, hq2, hq2'⟩
          · omega
          · have := hb.2 q2 hq2 m hq2'; omega
    | win a => simp [lossVal, ih]
    | draw => simp [lossVal, ih]

end Cert

namespace Cert
variable {P : Type} (G : Game P)

theorem allWinMax_isSome (T : P → Val) (l : List P) (m : Nat)
    (h3 : ∀ q ∈ l, ∃ k, k ≤ m ∧ T q = .win k) : ∃ b, allWinMax T l = some b := by
  induction l with
  | nil => exact ⟨0, rfl⟩
  | cons q' l' ih' =>
    obtain ⟨k, _, hk⟩ := h3 q' (List.mem_cons_self ..)
    obtain ⟨b, hb⟩ := ih' (fun q'' hq'' => h3 q'' (List.mem_cons_of_mem _ hq''))
    exact ⟨max k b, by simp [allWinMax, hk, winVal, hb]⟩

theorem allWinMax_some (T : P → Val) (l : List P) (m : Nat) : allWinMax T l = some m ↔
    (∀ q ∈ l, ∃ k, k ≤ m ∧ T q = .win k) ∧ (l = [] ∧ m = 0 ∨ ∃ q ∈ l, T q = .win m) := by
  induction l generalizing m with
  | nil => simp [allWinMax]; omega
  | cons q l ih =>
    simp only [allWinMax, List.mem_cons, forall_eq_or_imp, exists_eq_or_imp]
    cases h : T q with
    | win a =>
      simp only [winVal]
      cases h2 : allWinMax T l with
      | none =>
        simp only [reduceCtorEq, false_iff]
        rintro ⟨⟨_, h3⟩, _⟩
        obtain ⟨b, hb⟩ := allWinMax_isSome T l m h3
        rw [hb] at h2; cases h2
      | some b =>
        have hb := (ih b).1 h2
        simp only [Option.some.injEq, Val.win.injEq, reduceCtorEq, false_and, false_or]
        constructor
        · rintro rfl
          refine ⟨⟨⟨a, by omega, rfl⟩, fun q' hq' => ?_⟩, ?_⟩
          · obtain ⟨k, hk, hk'⟩ := hb.1 q' hq'; exact ⟨k, by omega, hk'⟩
          · by_cases hab : b ≤ a
            · left; omega
            · right
              rcases hb.2 with ⟨rfl, rfl⟩ | ⟨q', hq', hq''⟩
              · omega
              · exact ⟨q', hq', by rw [hq'']; congr 1; omega⟩
        · rintro ⟨⟨⟨k, hk, hk'⟩, h3⟩, h4⟩
          subst hk'
          have hbm : b ≤ m := by
            rcases hb.2 with ⟨_, rfl⟩ | ⟨q', hq', hq''⟩
            · omega
            · obtain ⟨k', hk1, hk2⟩ := h3 q' hq'; rw [hq''] at hk2; injection hk2 with e; omega
          rcases h4 with h4 | ⟨q', hq', hq''⟩
          · omega
          · obtain ⟨k', hk1, hk2⟩ := hb.1 q' hq'; rw [hq''] at hk2; injection hk2 with e; omega
    | loss a => simp [winVal]
    | draw => simp [winVal]

end Cert

namespace Cert
variable {P : Type} (G : Game P)

/-- Main theorem, relative to a move-closed set `S` of positions (for chess: the legal positions):
    a table that satisfies the local rule `T p = expected T p` on `S` agrees on `S` with the
    bounded-recursion ground truth, and never holds the impossible label `win 0` there. -/
theorem fixedpoint_exact_on (S : P → Prop) (hS : ∀ p, S p → ∀ q ∈ G.moves p, S q)
    (T : P → Val) (hT : ∀ p, S p → T p = expected G T p) :
    (∀ p, S p → T p ≠ .win 0) ∧
    ∀ n p, S p → (lossW G n p = true ↔ ∃ k, k ≤ n ∧ T p = .loss k) ∧
           (winW G n p = true ↔ ∃ k, 1 ≤ k ∧ k ≤ n ∧ T p = .win k) := by
  have hwin : ∀ p, S p → ∀ m, T p = .win (m+1) ↔ minLoss T (G.moves p) = some m :=
    fun p hp m => by rw [hT p hp]; exact expected_eq_win G T p m
  have hwin0 : ∀ p, S p → T p ≠ .win 0 := fun p hp => by rw [hT p hp]; exact expected_ne_win0 G T p
  have hloss0 : ∀ p, S p → (T p = .loss 0 ↔ ((G.moves p).isEmpty = true ∧ G.inCheck p = true)) :=
    fun p hp => by rw [hT p hp]; exact expected_eq_loss0 G T p
  have hlossS : ∀ p, S p → ∀ m, T p = .loss (m+1) ↔
      (minLoss T (G.moves p) = none ∧ (G.moves p).isEmpty = false ∧ allWinMax T (G.moves p) = some (m+1)) :=
    fun p hp m => by rw [hT p hp]; exact expected_eq_loss G T p m
  refine ⟨hwin0, ?_⟩
  intro n
  induction n with
  | zero =>
    intro p hp
    refine ⟨?_, ?_⟩
    · rw [lossW_zero]
      simp only [Bool.and_eq_true, Nat.le_zero_eq, exists_eq_left]
      exact (hloss0 p hp).symm
    · simp [winW, within]; intro k h1 h2; omega
  | succ n ih =>
    -- first the win part at n+1 (uses loss part at n), then the loss part at n+1 (uses win part at n+1)
    have hW : ∀ p, S p → (winW G (n+1) p = true ↔ ∃ k, 1 ≤ k ∧ k ≤ n+1 ∧ T p = .win k) := by
      intro p hp
      rw [winW_succ, List.any_eq_true]
      constructor
      · rintro ⟨q, hq, hql⟩
        obtain ⟨k, hk, hk'⟩ := ((ih q (hS p hp q hq)).1).1 hql
        -- some successor labelled loss k ≤ n ⇒ minLoss = some m with m ≤ k
        cases hm : minLoss T (G.moves p) with
        | none => exact absurd hk' ((minLoss_none T _).1 hm q hq k)
        | some m =>
          have := ((minLoss_some T _ m).1 hm).2 q hq k hk'
          exact ⟨m+1, by omega, by omega, (hwin p hp m).2 hm⟩
      · rintro ⟨k, hk1, hk2, hk3⟩
        obtain ⟨m, rfl⟩ : ∃ m, k = m+1 := ⟨k-1, by omega⟩
        have hm := (hwin p hp m).1 hk3
        obtain ⟨q, hq, hq'⟩ := ((minLoss_some T _ m).1 hm).1
        exact ⟨q, hq, ((ih q (hS p hp q hq)).1).2 ⟨m, by omega, hq'⟩⟩
    intro p hp
    refine ⟨?_, hW p hp⟩
    rw [lossW_succ]
    constructor
    · intro h
      simp only [Bool.or_eq_true, Bool.and_eq_true, Bool.not_eq_true', List.all_eq_true] at h
      rcases h with ⟨he, hc⟩ | ⟨hne, hall⟩
      · exact ⟨0, by omega, (hloss0 p hp).2 ⟨he, hc⟩⟩
      · -- every successor labelled win k with 1 ≤ k ≤ n+1
        have hall' : ∀ q ∈ G.moves p, ∃ k, k ≤ n+1 ∧ T q = .win k := by
          intro q hq
          obtain ⟨k, _, hk2, hk3⟩ := (hW q (hS p hp q hq)).1 (hall q hq)
          exact ⟨k, hk2, hk3⟩
        obtain ⟨b, hb⟩ := allWinMax_isSome T _ (n+1) hall'
        have hb' := (allWinMax_some T _ b).1 hb
        have hnone : minLoss T (G.moves p) = none := by
          rw [minLoss_none]; intro q hq k hk
          obtain ⟨k', _, hk'⟩ := hall' q hq; rw [hk] at hk'; cases hk'
        have hne' : G.moves p ≠ [] := by intro e; rw [e] at hne; simp at hne
        rcases hb'.2 with ⟨e, _⟩ | ⟨q, hq, hq'⟩
        · exact absurd e hne'
        · obtain ⟨k', hk1, hk2⟩ := hall' q hq
          rw [hq'] at hk2; injection hk2 with e; subst e
          have hb1 : 1 ≤ b := by
            rcases Nat.eq_zero_or_pos b with h0 | h0
            · subst h0; exact absurd hq' (hwin0 q (hS p hp q hq))
            · exact h0
          obtain ⟨m, rfl⟩ : ∃ m, b = m+1 := ⟨b-1, by omega⟩
          exact ⟨m+1, hk1, (hlossS p hp m).2 ⟨hnone, hne, hb⟩⟩
    · rintro ⟨k, hk, hk'⟩
      simp only [Bool.or_eq_true, Bool.and_eq_true, Bool.not_eq_true', List.all_eq_true]
      rcases Nat.eq_zero_or_pos k with h0 | h0
      · subst h0; left; exact (hloss0 p hp).1 hk'
      · obtain ⟨m, rfl⟩ : ∃ m, k = m+1 := ⟨k-1, by omega⟩
        obtain ⟨h1, h2, h3⟩ := (hlossS p hp m).1 hk'
        right
        refine ⟨h2, fun q hq => ?_⟩
        obtain ⟨k', hk1, hk2⟩ := ((allWinMax_some T _ (m+1)).1 h3).1 q hq
        have : 1 ≤ k' := by
          rcases Nat.eq_zero_or_pos k' with h0 | h0
          · subst h0; exact absurd hk2 (hwin0 q (hS p hp q hq))
          · exact h0
        exact (hW q (hS p hp q hq)).2 ⟨k', this, by omega, hk2⟩

/-- The unrelativised form: a fixed point of `expected` on all positions. -/
theorem fixedpoint_exact (T : P → Val) (hT : ∀ p, T p = expected G T p) :
    ∀ n p, (lossW G n p = true ↔ ∃ k, k ≤ n ∧ T p = .loss k) ∧
           (winW G n p = true ↔ ∃ k, 1 ≤ k ∧ k ≤ n ∧ T p = .win k) :=
  fun n p => (fixedpoint_exact_on G (fun _ => True) (fun _ _ _ _ => trivial) T (fun p _ => hT p)).2 n p trivial

/-! ### The local rule on a list of successor values (what the executable checker evaluates) -/

/-- `expected` computed from the successors' table values -/
def expectedV (vals : List Val) (chk : Bool) : Val :=
  match minLoss id vals with
  | some n => .win (n+1)
  | none =>
    if vals.isEmpty then (if chk then .loss 0 else .draw)
    else match allWinMax id vals with
      | some m => if m = 0 then .draw else .loss m
      | none => .draw

theorem minLoss_map (T : P → Val) (l : List P) : minLoss id (l.map T) = minLoss T l := by
  induction l with
  | nil => rfl
  | cons q l ih => simp only [List.map, minLoss, ih, id]

theorem allWinMax_map (T : P → Val) (l : List P) : allWinMax id (l.map T) = allWinMax T l := by
  induction l with
  | nil => rfl
  | cons q l ih => simp only [List.map, allWinMax, ih, id]

theorem expected_eq_expectedV (T : P → Val) (p : P) :
    expected G T p = expectedV ((G.moves p).map T) (G.inCheck p) := by
  unfold expected expectedV
  rw [minLoss_map, allWinMax_map]
  simp only [List.isEmpty_map]

/-! ### The exact value as a function -/

theorem exists_least (Q : Nat → Prop) (h : ∃ n, Q n) : ∃ n, Q n ∧ ∀ m, m < n → ¬ Q m := by
  obtain ⟨n, hn⟩ := h
  induction n using Nat.strongRecOn with
  | _ n ih =>
    by_cases hex : ∃ m, m < n ∧ Q m
    · obtain ⟨m, hm, hq⟩ := hex; exact ih m hm hq
    · exact ⟨n, hn, fun m hm hq => hex ⟨m, hm, hq⟩⟩

noncomputable def least (Q : Nat → Prop) (h : ∃ n, Q n) : Nat := Classical.choose (exists_least Q h)

theorem least_spec (Q : Nat → Prop) (h : ∃ n, Q n) : Q (least Q h) ∧ ∀ m, m < least Q h → ¬ Q m :=
  Classical.choose_spec (exists_least Q h)

open Classical in
/-- Exact distance to mate in the move metric of `PositionValue`: `win n` iff the side to move can force mate in
    `n` of its own moves and not in fewer, `loss n` iff it is mated in `n` moves at best (0 = is checkmated) and
    cannot hold out longer, `draw` iff neither side can force mate in any number of moves. -/
noncomputable def DTM (p : P) : Val :=
  if h : ∃ n, winW G n p = true then .win (least _ h)
  else if h : ∃ n, lossW G n p = true then .loss (least _ h)
  else .draw

/-- A table that satisfies the local rule on a move-closed set equals the exact distance to mate there. -/
theorem fixedpoint_is_dtm (S : P → Prop) (hS : ∀ p, S p → ∀ q ∈ G.moves p, S q)
    (T : P → Val) (hT : ∀ p, S p → T p = expected G T p) : ∀ p, S p → T p = DTM G p := by
  obtain ⟨h0, hx⟩ := fixedpoint_exact_on G S hS T hT
  intro p hp
  have nowin : (∀ k, T p ≠ .win k) → ¬ ∃ n, winW G n p = true := by
    rintro hne ⟨n, hn⟩
    obtain ⟨k, _, _, hk⟩ := ((hx n p hp).2).1 hn
    exact hne k hk
  have noloss : (∀ k, T p ≠ .loss k) → ¬ ∃ n, lossW G n p = true := by
    rintro hne ⟨n, hn⟩
    obtain ⟨k, _, hk⟩ := ((hx n p hp).1).1 hn
    exact hne k hk
  cases hv : T p with
  | win k =>
    have hk1 : 1 ≤ k := by
      rcases Nat.eq_zero_or_pos k with h | h
      · subst h; exact absurd hv (h0 p hp)
      · exact h
    have hw : winW G k p = true := ((hx k p hp).2).2 ⟨k, hk1, Nat.le_refl _, hv⟩
    have hex : ∃ n, winW G n p = true := ⟨k, hw⟩
    unfold DTM; rw [dif_pos hex]
    obtain ⟨hl1, hl2⟩ := least_spec _ hex
    obtain ⟨k', _, hk', hk''⟩ := ((hx _ p hp).2).1 hl1
    rw [hv] at hk''; injection hk'' with e; subst e
    have : ¬ k < least _ hex := fun hlt => hl2 k hlt hw
    congr 1; omega
  | loss k =>
    have hnw : ¬ ∃ n, winW G n p = true := nowin (by intro k' h; rw [hv] at h; cases h)
    have hl : lossW G k p = true := ((hx k p hp).1).2 ⟨k, Nat.le_refl _, hv⟩
    have hex : ∃ n, lossW G n p = true := ⟨k, hl⟩
    unfold DTM; rw [dif_neg hnw, dif_pos hex]
    obtain ⟨hl1, hl2⟩ := least_spec _ hex
    obtain ⟨k', hk', hk''⟩ := ((hx _ p hp).1).1 hl1
    rw [hv] at hk''; injection hk'' with e; subst e
    have : ¬ k < least _ hex := fun hlt => hl2 k hlt hl
    congr 1; omega
  | draw =>
    have hnw : ¬ ∃ n, winW G n p = true := nowin (by intro k' h; rw [hv] at h; cases h)
    have hnl : ¬ ∃ n, lossW G n p = true := noloss (by intro k' h; rw [hv] at h; cases h)
    unfold DTM; rw [dif_neg hnw, dif_neg hnl]

end Cert
