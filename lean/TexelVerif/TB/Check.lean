import TexelVerif.TB.Index
/-!
# The executable certificate checker for a dumped on-demand table (property C12)

`checkUnit c sh T k1 k2` examines **every** position of class `c` whose first two slots (white king and the next
man) stand on `k1`, `k2`, both sides to move: if the position is legal, Texel's own index mapping must place it
inside the table, the byte found there must be a game value, and that value must equal the local rule
`Cert.expectedV` applied to the values the table holds for the legal successors.  The 65 × 65 units together
cover every legal position (`checkUnits_cover`), so by `Cert.fixedpoint_is_dtm` an accepted table is exact.
-/
namespace TB
open Cert

/-- the value the table gives for a position, read through Texel's index mapping -/
def tableVal (c : CC) (sh : Shape) (T : ByteArray) (q : Pos) : Val :=
  match indexOf sh q with
  | some i => (decodeByte (readByte T i)).getD .draw
  | none => .draw

/-- the local condition at one position -/
def checkPos (c : CC) (sh : Shape) (T : ByteArray) (p : Pos) : Bool :=
  match indexOf sh p with
  | none => false
  | some i =>
    i < T.size &&
    match decodeByte (readByte T i) with
    | none => false
    | some v => decide (v = expectedV ((moves c p).map (tableVal c sh T)) (inCheck c p))

/-- `f` holds for all lists of length `n` over 0..64, without materialising them -/
def allLists : Nat → (List Nat → Bool) → Bool
  | 0, f => f []
  | n+1, f => (List.range 65).all fun x => allLists n fun l => f (x :: l)

def checkAt (c : CC) (sh : Shape) (T : ByteArray) (sq : List Nat) : Bool :=
  [true, false].all fun w => !legal c ⟨w, sq⟩ || checkPos c sh T ⟨w, sq⟩

def checkUnit (c : CC) (sh : Shape) (T : ByteArray) (k1 k2 : Nat) : Bool :=
  allLists (c.n - 2) fun l => checkAt c sh T (k1 :: k2 :: l)

/-- the whole certificate: table size and all 65 × 65 units -/
def checkTable (c : CC) (sh : Shape) (T : ByteArray) : Bool :=
  T.size == sh.nPos &&
  (List.range 65).all fun k1 => (List.range 65).all fun k2 => checkUnit c sh T k1 k2

/-! ## The index-level audit: entries that are not positions are never answered -/

/-- for one index: not canonical / overlapping men ⇒ INVALID; the side to move can take the king ⇒ MATE_IN_0;
    otherwise some game value -/
def auxAt (c : CC) (sh : Shape) (T : ByteArray) (i : Nat) : Bool :=
  let b := readByte T i
  if !sh.indexValid i.toUInt64 then b == 0xFF
  else if canTakeKing c (posOfIndex sh i.toUInt64) then b == 64
  else (decodeByte b).isSome

def checkAux (c : CC) (sh : Shape) (T : ByteArray) (lo hi : Nat) : Bool :=
  (List.range' lo (hi - lo)).all (auxAt c sh T)

/-! ## Soundness -/

theorem allLists_spec (n : Nat) (f : List Nat → Bool) (h : allLists n f = true) :
    ∀ l : List Nat, l.length = n → (∀ x ∈ l, x ≤ 64) → f l = true := by
  induction n generalizing f with
  | zero =>
    intro l hl _
    have : l = [] := List.eq_nil_of_length_eq_zero hl
    subst this; exact h
  | succ n ih =>
    intro l hl hx
    cases l with
    | nil => simp at hl
    | cons a l =>
      simp only [allLists, List.all_eq_true, List.mem_range] at h
      have ha : a < 65 := by have := hx a (List.mem_cons_self ..); omega
      exact ih (fun l => f (a :: l)) (h a ha) l (by simpa using hl) (fun x hx' => hx x (List.mem_cons_of_mem _ hx'))

theorem legal_shape (c : CC) (p : Pos) (h : legal c p = true) :
    p.sq.length = c.n ∧ ∀ x ∈ p.sq, x ≤ 64 := by
  simp only [legal, wellFormed, Bool.and_eq_true, beq_iff_eq, List.all_eq_true, decide_eq_true_eq] at h
  exact ⟨h.1.1.1.1.1, h.1.1.1.1.2⟩

/-- the scheme of `checkUnit` and `Retro.homUnit` covers every legal position -/
theorem units_cover (c : CC) (hn2 : 2 ≤ c.n) (f : Pos → Bool)
    (h : ∀ k1, k1 ≤ 64 → ∀ k2, k2 ≤ 64 → allLists (c.n - 2) (fun l =>
      [true, false].all fun w => !legal c ⟨w, k1 :: k2 :: l⟩ || f ⟨w, k1 :: k2 :: l⟩) = true) :
    ∀ p, legal c p = true → f p = true := by
  intro p hp
  obtain ⟨hlen, hle⟩ := legal_shape c p hp
  obtain ⟨w, sq⟩ := p
  match sq, hlen, hle with
  | k1 :: k2 :: l, hlen, hle =>
    have h1 := h k1 (hle k1 (by simp)) k2 (hle k2 (by simp))
    have hl : l.length = c.n - 2 := by simp only [List.length_cons] at hlen; omega
    have := allLists_spec _ _ h1 l hl (fun x hx => hle x (by simp [hx]))
    simp only [List.all_cons, List.all_nil, Bool.and_true, Bool.and_eq_true, Bool.or_eq_true,
      Bool.not_eq_true'] at this
    cases w with
    | true => rcases this.1 with h' | h'
              · rw [hp] at h'; cases h'
              · exact h'
    | false => rcases this.2 with h' | h'
               · rw [hp] at h'; cases h'
               · exact h'
  | [], hlen, _ => simp only [List.length_nil] at hlen; omega
  | [_], hlen, _ => simp only [List.length_cons, List.length_nil] at hlen; omega

theorem checkUnits_cover (c : CC) (sh : Shape) (T : ByteArray) (hn2 : 2 ≤ c.n)
    (h : ∀ k1, k1 ≤ 64 → ∀ k2, k2 ≤ 64 → checkUnit c sh T k1 k2 = true) :
    ∀ p, legal c p = true → checkPos c sh T p = true :=
  units_cover c hn2 (checkPos c sh T) h

/-- what `checkPos` establishes at a position -/
theorem checkPos_spec (c : CC) (sh : Shape) (T : ByteArray) (p : Pos) (h : checkPos c sh T p = true) :
    ∃ i, indexOf sh p = some i ∧ i < T.size ∧
      decodeByte (readByte T i) = some (tableVal c sh T p) ∧
      tableVal c sh T p = expected (game c) (tableVal c sh T) p := by
  unfold checkPos at h
  split at h
  · cases h
  · next i hi =>
    simp only [Bool.and_eq_true, decide_eq_true_eq] at h
    obtain ⟨hlt, h⟩ := h
    split at h
    · cases h
    · next v hv =>
      have hv' : v = expectedV ((moves c p).map (tableVal c sh T)) (inCheck c p) := by simpa using h
      have htv : tableVal c sh T p = v := by simp only [tableVal, hi, hv, Option.getD_some]
      refine ⟨i, hi, hlt, by rw [htv]; exact hv, ?_⟩
      rw [htv, expected_eq_expectedV]
      exact hv'

/-- **Certificate soundness.**  If all units of the checker accept the table, then for every legal position of the
    class — every placement of the men, captured or not, either side to move — Texel's index mapping finds an entry
    inside the table, and the byte stored there decodes to the exact distance to mate. -/
theorem units_sound (c : CC) (sh : Shape) (T : ByteArray) (hn2 : 2 ≤ c.n)
    (h : ∀ k1, k1 ≤ 64 → ∀ k2, k2 ≤ 64 → checkUnit c sh T k1 k2 = true) :
    ∀ p, legal c p = true →
      ∃ i, indexOf sh p = some i ∧ i < T.size ∧ decodeByte (readByte T i) = some (DTM (game c) p) := by
  have hall := checkUnits_cover c sh T hn2 h
  have hfix : ∀ p, legal c p = true → tableVal c sh T p = expected (game c) (tableVal c sh T) p := by
    intro p hp
    obtain ⟨_, _, _, _, h4⟩ := checkPos_spec c sh T p (hall p hp)
    exact h4
  have hdtm := fixedpoint_is_dtm (game c) (fun p => legal c p = true)
    (fun p _ q hq => moves_legal c p q hq) (tableVal c sh T) hfix
  intro p hp
  obtain ⟨i, h1, h2, h3, _⟩ := checkPos_spec c sh T p (hall p hp)
  exact ⟨i, h1, h2, by rw [h3, hdtm p hp]⟩

theorem checkTable_units (c : CC) (sh : Shape) (T : ByteArray) (h : checkTable c sh T = true) :
    T.size = sh.nPos ∧ ∀ k1, k1 ≤ 64 → ∀ k2, k2 ≤ 64 → checkUnit c sh T k1 k2 = true := by
  simp only [checkTable, Bool.and_eq_true, beq_iff_eq, List.all_eq_true, List.mem_range] at h
  exact ⟨h.1, fun k1 h1 k2 h2 => h.2 k1 (by omega) k2 (by omega)⟩

/-! ## Score conversion -/

/-- the engine's score, at search ply `ply`, of a position with exact value `v` (search.cpp returns
    `-(MATE0 - (ply+1))` for the side that is checkmated at `ply`; each ply towards the root negates) -/
def scoreOf (v : Val) (ply : Int) : Int :=
  match v with
  | .win n => MATE0 - ply - 2 * n
  | .loss n => -(MATE0 - ply - 2 * n - 1)
  | .draw => 0

theorem convert_decode (s : Int) (v : Val) (ply : Int) (h : decodeS s = some v) :
    convertS s ply = some (scoreOf v ply) := by
  unfold decodeS at h
  unfold convertS
  split at h
  · next h1 =>
    injection h with h; subst h
    simp only [h1, if_true, scoreOf]
    congr 1
    have : ((s - 64).toNat : Int) = s - 64 := Int.toNat_of_nonneg (by omega)
    omega
  · next h1 =>
    split at h
    · next h2 =>
      injection h with h; subst h
      simp only [h1, if_false, h2, and_self, if_true, scoreOf]
      congr 1
      have : ((63 - s).toNat : Int) = 63 - s := Int.toNat_of_nonneg (by omega)
      omega
    · next h2 =>
      split at h
      · next h3 =>
        injection h with h; subst h; subst h3
        simp [scoreOf]
      · cases h

/-- `s8` stays in the range of the C++ `S8` -/
theorem s8_range (b : UInt8) : -128 ≤ s8 b ∧ s8 b ≤ 127 := by
  have := b.toNat_lt
  unfold s8; split <;> omega

end TB
