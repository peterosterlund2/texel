import TexelVerif.TB.RetroLemmas
import TexelVerif.TB.IndexLemmas
/-!
# The retrograde generator computes the exact distance to mate (property C12)

`TB/Retro.lean` is `TBGenerator::generate` over an abstract index graph `IG`.  Here: under the hypotheses `OK`
(chiefly: `getUnMoves` is the converse of `getMoves` on the indices that denote legal positions), if the run needs
at most 63 scans, the table it leaves satisfies at every legal index the local rule `Cert.expected` of the
certificate checker for the game "legal index → successor indices that are not king captures" — hence
(`Cert.fixedpoint_is_dtm`) holds the exact distance to mate; and the loop always terminates.

Proof: an invariant `Inv T a b` on the table ("every MATE_IN_k has a MATED_IN_(k-1) successor; every REMAINING_c has
exactly c successors that are not yet MATE_IN; every MATED_IN_k has only MATE_IN_≤k successors, one of them
MATE_IN_k; every predecessor of a MATED_IN_m entry with m < b is MATE_IN_≤(m+1); values ≤ a") that holds between
any two executions of the atomic step "an index becomes MATE_IN_n and its predecessors are decremented".
-/
namespace TB.Retro
open Cert

variable (G : IG)

/-- the indices the retrograde loops work with: a valid index whose side to move cannot take the king -/
def legalI (i : Nat) : Prop := i < G.nPos ∧ G.valid i = true ∧ G.takeK i = false

/-- legal successors: distinct successor indices that are not king captures (phase 2 counts exactly these) -/
def lm (i : Nat) : List Nat := (dedupAdj (G.moves i)).filter fun j => !G.takeK j

/-- "in check": with the other side to move the king could be taken (phase 2 tests `table[swapSide] == MATE_IN_0`) -/
def inCheckI (i : Nat) : Bool := G.valid (G.swap i) && G.takeK (G.swap i)

def gameI : Cert.Game Nat := { moves := lm G, inCheck := inCheckI G }

structure OK : Prop where
  h64 : G.nPos % 64 = 0
  moves_lt : ∀ i j, legalI G i → j ∈ G.moves i → j < G.nPos
  moves_valid : ∀ i j, legalI G i → j ∈ G.moves i → G.valid j = true
  moves_sorted : ∀ i, legalI G i → (G.moves i).Pairwise (· ≤ ·)
  unmoves_lt : ∀ i j, legalI G i → j ∈ G.unmoves i → j < G.nPos
  unmoves_sorted : ∀ i, legalI G i → (G.unmoves i).Pairwise (· ≤ ·)
  /-- predecessor generation is sound and complete w.r.t. forward moves, on legal indices -/
  conv : ∀ i j, legalI G i → legalI G j → (i ∈ G.unmoves j ↔ j ∈ G.moves i)
  swap_lt : ∀ i, legalI G i → G.swap i < G.nPos

/-- number of successors that are not (yet) MATE_IN_k -/
def cnt (T : Tab) (i : Nat) : Nat := ((lm G i).filter fun j => decide (rd T j ≤ 64)).length

variable {G}

theorem lm_legal (hG : OK G) {i j : Nat} (hi : legalI G i) (hj : j ∈ lm G i) : legalI G j := by
  simp only [lm, List.mem_filter, mem_dedupAdj, Bool.not_eq_true'] at hj
  exact ⟨hG.moves_lt i j hi hj.1, hG.moves_valid i j hi hj.1, hj.2⟩

theorem lm_nodup (hG : OK G) {i : Nat} (hi : legalI G i) : (lm G i).Nodup :=
  (nodup_dedupAdj _ (hG.moves_sorted i hi)).filter _

theorem mem_lm {i j : Nat} (hj : legalI G j) : j ∈ lm G i ↔ j ∈ G.moves i := by
  simp only [lm, List.mem_filter, mem_dedupAdj, hj.2.2, Bool.not_false, and_true]

theorem un_nodup (hG : OK G) {i : Nat} (hi : legalI G i) : (dedupAdj (G.unmoves i)).Nodup :=
  nodup_dedupAdj _ (hG.unmoves_sorted i hi)

variable (G)

structure Inv (T : Tab) (a b : Nat) : Prop where
  size : T.size = G.nPos
  inval : ∀ i, i < G.nPos → G.valid i = false → rd T i = -1
  take : ∀ i, i < G.nPos → G.valid i = true → G.takeK i = true → rd T i = 64
  shape : ∀ i, legalI G i →
    (∃ k : Nat, 1 ≤ k ∧ k ≤ a ∧ rd T i = 64 + (k : Int)) ∨ (∃ k : Nat, k ≤ a ∧ rd T i = 63 - (k : Int)) ∨
    rd T i = 0 ∨ (∃ c : Nat, 1 ≤ c ∧ rd T i = -3 - (c : Int))
  win : ∀ i (k : Nat), legalI G i → 1 ≤ k → rd T i = 64 + (k : Int) → ∃ j ∈ lm G i, rd T j = 64 - (k : Int)
  rem : ∀ i (c : Nat), legalI G i → 1 ≤ c → rd T i = -3 - (c : Int) → cnt G T i = c
  -- `k ≤ 62`: MATED_IN_63 would be the cell value 0 = DRAW
  loss : ∀ i (k : Nat), legalI G i → 1 ≤ k → k ≤ 62 → rd T i = 63 - (k : Int) →
    (∀ j ∈ lm G i, 64 < rd T j ∧ rd T j ≤ 64 + (k : Int)) ∧ (∃ j ∈ lm G i, rd T j = 64 + (k : Int))
  loss0 : ∀ i, legalI G i → rd T i = 63 → lm G i = [] ∧ inCheckI G i = true
  draw : ∀ i, legalI G i → rd T i = 0 → lm G i = [] ∧ inCheckI G i = false
  done : ∀ j (m : Nat), legalI G j → m < b → rd T j = 63 - (m : Int) →
    ∀ i, legalI G i → j ∈ lm G i → 64 < rd T i ∧ rd T i ≤ 64 + (m : Int) + 1

/-- the invariant while scan `n` is in progress; `S` = the indices visited so far -/
structure PInv (n : Nat) (T : Tab) (F : Flags) (S : List Nat) : Prop where
  inv : Inv G T n (n - 1)
  fsize : F.size = G.nPos / 64
  fl : ∀ i, i < G.nPos → rd T i = 63 - (n : Int) → flag F (i / 64) = true
  doneS : ∀ j, j ∈ S → legalI G j → rd T j = 64 - (n : Int) →
    ∀ i, legalI G i → j ∈ lm G i → 64 < rd T i ∧ rd T i ≤ 64 + (n : Int)

/-- what never changes during scan `n`: computed entries, and the set of MATED_IN_(n-1) entries -/
def Ext (n : Nat) (T T' : Tab) : Prop :=
  (∀ k, -1 ≤ rd T k → rd T' k = rd T k) ∧ (∀ k, rd T' k = 64 - (n : Int) → rd T k = 64 - (n : Int))

variable {G}

theorem Ext.refl (n : Nat) (T : Tab) : Ext n T T := ⟨fun _ _ => rfl, fun _ h => h⟩

theorem Ext.trans {n : Nat} {T1 T2 T3 : Tab} (h12 : Ext n T1 T2) (h23 : Ext n T2 T3) : Ext n T1 T3 :=
  ⟨fun k hk => by rw [h23.1 k (by rw [h12.1 k hk]; exact hk), h12.1 k hk], fun k hk => h12.2 k (h23.2 k hk)⟩

theorem legal_of_lt {a b : Nat} {T : Tab} (h : Inv G T a b) {i : Nat} (hi : i < G.nPos)
    (h1 : rd T i ≠ -1) (h2 : rd T i ≠ 64) : legalI G i := by
  refine ⟨hi, ?_, ?_⟩
  · cases hv : G.valid i
    · exact absurd (h.inval i hi hv) h1
    · rfl
  · cases hv : G.valid i
    · exact absurd (h.inval i hi hv) h1
    · cases ht : G.takeK i
      · rfl
      · exact absurd (h.take i hi hv ht) h2

/-- a computed cell with a successor that is no MATE_IN is itself a MATE_IN -/
theorem pred_is_win {a b : Nat} {T : Tab} (h : Inv G T a b) (ha : a ≤ 62) {i j : Nat} (hi : legalI G i)
    (hj : j ∈ lm G i) (hc : -1 ≤ rd T i) (hjv : rd T j ≤ 64) : 64 < rd T i ∧ rd T i ≤ 64 + (a : Int) := by
  rcases h.shape i hi with ⟨k, hk1, hk, e⟩ | ⟨k, hk, e⟩ | e | ⟨c, hc', e⟩
  · omega
  · by_cases hk0 : k = 0
    · subst hk0
      have := (h.loss0 i hi (by omega)).1
      rw [this] at hj; cases hj
    · have := (h.loss i k hi (by omega) (by omega) e).1 j hj
      omega
  · have := (h.draw i hi e).1
    rw [this] at hj; cases hj
  · omega

/-- the atomic step: an index that is not yet computed and has a MATED_IN_(n-1) successor becomes MATE_IN_n -/
theorem label_inv (hG : OK G) (n : Nat) (hn1 : 1 ≤ n) (hn : n ≤ 62) (T : Tab) (F : Flags) (S : List Nat)
    (h : PInv G n T F S) (idx W : Nat) (hidx : legalI G idx) (hv : rd T idx = 64 - (n : Int))
    (hW : W ∈ G.unmoves idx) (hlt : rd T W < -1) :
    PInv G n (labelWin G n T F W).1 (labelWin G n T F W).2 S ∧ Ext n T (labelWin G n T F W).1 ∧
      rd (labelWin G n T F W).1 W = 64 + (n : Int) := by
  have hI := h.inv
  have hWn : W < G.nPos := hG.unmoves_lt idx W hidx hW
  have hWleg : legalI G W := legal_of_lt hI hWn (by omega) (by omega)
  have hidxW : idx ∈ lm G W := (mem_lm hidx).2 ((hG.conv W idx hWleg hidx).1 hW)
  obtain ⟨s1, s2, s3, s4, s5, s6⟩ := labelWin_spec G n T F W (by rw [hI.size]; exact hWn) (un_nodup hG hWleg)
  have hcell := labelWin_cell G n T F W (by rw [hI.size]; exact hWn) (un_nodup hG hWleg)
  generalize (labelWin G n T F W).1 = T' at *
  generalize (labelWin G n T F W).2 = F' at *
  -- computed cells keep their value, and the MATED_IN_(n-1) cells are the old ones
  have hExt : Ext n T T' := by
    constructor
    · intro k hk
      have hkW : k ≠ W := by intro e; subst e; omega
      rw [s4 k hkW]
      have : ¬ (k ∈ G.unmoves W ∧ rd T k < -3) := by intro hc; omega
      rw [if_neg this]
    · intro k hk
      by_cases hkW : k = W
      · subst hkW; omega
      · rcases hcell k hkW with e | ⟨_, h3, h4 | h4⟩ <;> omega
  -- no other cell crosses the MATE_IN threshold, so only `W` leaves the counts
  have hside : ∀ k, k ≠ W → (decide (rd T' k ≤ 64)) = (decide (rd T k ≤ 64)) := by
    intro k hkW
    rcases hcell k hkW with e | ⟨_, h3, h4⟩
    · rw [e]
    · rw [decide_eq_true (show rd T' k ≤ 64 by omega), decide_eq_true (show rd T k ≤ 64 by omega)]
  have hpred : ∀ k, legalI G k → (k ∈ G.unmoves W ↔ W ∈ lm G k) := by
    intro k hk
    rw [mem_lm hWleg]
    exact hG.conv k W hk hWleg
  have hcnt : ∀ i, legalI G i → cnt G T' i + (if W ∈ lm G i then 1 else 0) = cnt G T i := by
    intro i hi
    unfold cnt
    exact length_filter_flip (fun j => decide (rd T j ≤ 64)) (fun j => decide (rd T' j ≤ 64)) W
      (by simp only [decide_eq_true_eq]; omega) (by simp only [decide_eq_false_iff_not]; omega)
      (fun y hy => hside y hy) (lm G i) (lm_nodup hG hi)
  have hshape : ∀ i, legalI G i →
      (∃ k : Nat, 1 ≤ k ∧ k ≤ n ∧ rd T' i = 64 + (k : Int)) ∨ (∃ k : Nat, k ≤ n ∧ rd T' i = 63 - (k : Int)) ∨
      rd T' i = 0 ∨ (∃ c : Nat, 1 ≤ c ∧ rd T' i = -3 - (c : Int)) := by
    intro i hi
    by_cases hiW : i = W
    · subst hiW; left; exact ⟨n, hn1, Nat.le_refl _, s3⟩
    · rcases hcell i hiW with e | ⟨_, h3, h4 | h4⟩
      · rw [e]; exact hI.shape i hi
      · right; left; exact ⟨n, Nat.le_refl _, h4.2⟩
      · rcases hI.shape i hi with ⟨k, _, _, e⟩ | ⟨k, _, e⟩ | e | ⟨c, hc, e⟩
        · omega
        · omega
        · omega
        · right; right; right
          exact ⟨c - 1, by omega, by omega⟩
  have hinv : Inv G T' n (n - 1) := by
    refine { size := by rw [s1, hI.size], shape := hshape, inval := ?inval, take := ?take, win := ?win, rem := ?rem,
             loss := ?loss, loss0 := ?loss0, draw := ?draw, done := ?done }
    case inval => intro i hi hv; rw [hExt.1 i (by rw [hI.inval i hi hv]; omega)]; exact hI.inval i hi hv
    case take => intro i hi hv ht; rw [hExt.1 i (by rw [hI.take i hi hv ht]; omega)]; exact hI.take i hi hv ht
    case win =>
      intro i k hi hk e
      by_cases hiW : i = W
      · subst hiW
        have : k = n := by omega
        subst this
        exact ⟨idx, hidxW, by rw [hExt.1 idx (by omega)]; exact hv⟩
      · have e' : rd T i = 64 + (k : Int) := by
          rcases hcell i hiW with e2 | ⟨_, h3, h4 | h4⟩ <;> omega
        obtain ⟨j, hj, hje⟩ := hI.win i k hi hk e'
        have hkn : k ≤ n := by
          rcases hI.shape i hi with ⟨k', _, hk', e2⟩ | ⟨k', _, e2⟩ | e2 | ⟨c, hc, e2⟩ <;> omega
        exact ⟨j, hj, by rw [hExt.1 j (by omega)]; exact hje⟩
    case rem =>
      intro i c hi hc e
      have hiW : i ≠ W := by intro e2; subst e2; omega
      have hk := hcnt i hi
      rcases hcell i hiW with e2 | ⟨hu, h3, h4 | h4⟩
      · -- unchanged: i is REMAINING in T, so not a predecessor of W
        have hnu : ¬ i ∈ G.unmoves W := by
          intro hu
          have := s4 i hiW
          rw [if_pos ⟨hu, by omega⟩] at this
          by_cases h4 : rd T i = -4
          · rw [h4, dec_last] at this; omega
          · rw [dec_of_ne n _ h4] at this; omega
        have : ¬ W ∈ lm G i := fun hm => hnu ((hpred i hi).2 hm)
        rw [if_neg this] at hk
        rw [Nat.add_zero] at hk
        rw [hk]; exact hI.rem i c hi hc (by omega)
      · omega
      · have hm : W ∈ lm G i := (hpred i hi).1 hu
        rw [if_pos hm] at hk
        have := hI.rem i (c + 1) hi (by omega) (by omega)
        omega
    case loss =>
      intro i k hi hk1 hk62 e
      have hiW : i ≠ W := by intro e2; subst e2; omega
      rcases hcell i hiW with e2 | ⟨hu, h3, h4 | h4⟩
      · obtain ⟨l1, j, hj, hje⟩ := hI.loss i k hi hk1 hk62 (by omega)
        refine ⟨fun j hj => ?_, j, hj, by rw [hExt.1 j (by omega)]; exact hje⟩
        have := l1 j hj
        rw [hExt.1 j (by omega)]; exact this
      · -- REMAINING_1 became MATED_IN_n
        have hkn : k = n := by omega
        subst hkn
        have hm : W ∈ lm G i := (hpred i hi).1 hu
        have hk := hcnt i hi
        rw [if_pos hm] at hk
        have h1 := hI.rem i 1 hi (Nat.le_refl _) (by omega)
        have h0 : cnt G T' i = 0 := by omega
        refine ⟨fun j hj => ?_, W, hm, s3⟩
        have hgt : 64 < rd T' j := by
          unfold cnt at h0
          have := List.eq_nil_of_length_eq_zero h0
          have hf := List.filter_eq_nil_iff.1 this j hj
          simp only [decide_eq_true_eq] at hf
          omega
        refine ⟨hgt, ?_⟩
        rcases hshape j (lm_legal hG hi hj) with ⟨k', _, hk', e3⟩ | ⟨k', _, e3⟩ | e3 | ⟨c, hc, e3⟩ <;> omega
      · omega
    case loss0 =>
      intro i hi e
      have hiW : i ≠ W := by intro e2; subst e2; omega
      rcases hcell i hiW with e2 | ⟨hu, h3, h4 | h4⟩
      · exact hI.loss0 i hi (by omega)
      · omega
      · omega
    case draw =>
      intro i hi e
      have hiW : i ≠ W := by intro e2; subst e2; omega
      rcases hcell i hiW with e2 | ⟨hu, h3, h4 | h4⟩
      · exact hI.draw i hi (by omega)
      · omega
      · omega
    case done =>
      intro j m hj hm e i hi hji
      have hjW : j ≠ W := by intro e2; subst e2; omega
      have e' : rd T j = 63 - (m : Int) := by
        rcases hcell j hjW with e2 | ⟨hu, h3, h4 | h4⟩ <;> omega
      have := hI.done j m hj hm e' i hi hji
      rw [hExt.1 i (by omega)]; exact this
  refine ⟨{ inv := hinv, fsize := by rw [s2, h.fsize], fl := ?fl, doneS := ?doneS }, hExt, s3⟩
  case fl =>
    intro i hi e
    by_cases hiW : i = W
    · subst hiW; omega
    · rcases hcell i hiW with e2 | ⟨hu, h3, h4 | h4⟩
      · exact s5 _ (h.fl i hi (by omega))
      · apply s6 i hiW hu h4.1
        rw [h.fsize]
        have := hG.h64
        omega
      · omega
  case doneS =>
    intro j hjS hj e i hi hji
    have := h.doneS j hjS hj (hExt.2 j e) i hi hji
    rw [hExt.1 i (by omega)]; exact this


theorem mid_fold (hG : OK G) (n : Nat) (hn1 : 1 ≤ n) (hn : n ≤ 62) (idx : Nat) (hidx : legalI G idx) (S : List Nat) :
    ∀ (l : List Nat) (st : PSt), (∀ x ∈ l, x ∈ G.unmoves idx) → PInv G n st.tab st.new S →
      rd st.tab idx = 64 - (n : Int) →
      PInv G n (l.foldl (midStep G n) st).tab (l.foldl (midStep G n) st).new S ∧
      Ext n st.tab (l.foldl (midStep G n) st).tab ∧ st.modified ≤ (l.foldl (midStep G n) st).modified ∧
      (∀ i ∈ l, legalI G i → idx ∈ lm G i →
        64 < rd (l.foldl (midStep G n) st).tab i ∧ rd (l.foldl (midStep G n) st).tab i ≤ 64 + (n : Int))
  | [], st, _, h, _ => ⟨h, Ext.refl _ _, Nat.le_refl _, fun _ hi => by cases hi⟩
  | x :: l, st, hl, h, hv => by
    simp only [List.foldl_cons]
    have hx : x ∈ G.unmoves idx := hl x (List.mem_cons_self ..)
    have hl' : ∀ y ∈ l, y ∈ G.unmoves idx := fun y hy => hl y (List.mem_cons_of_mem _ hy)
    by_cases hlt : rd st.tab x < -1
    · obtain ⟨p1, p2, p3⟩ := label_inv hG n hn1 hn st.tab st.new S h idx x hidx hv hx hlt
      have hst : midStep G n st x =
          ⟨(labelWin G n st.tab st.new x).1, (labelWin G n st.tab st.new x).2, st.modified + 1⟩ := by
        simp only [midStep, hlt, if_true]
      rw [hst]
      have hv' : rd (labelWin G n st.tab st.new x).1 idx = 64 - (n : Int) := by rw [p2.1 idx (by omega)]; exact hv
      obtain ⟨q1, q2, q3, q4⟩ := mid_fold hG n hn1 hn idx hidx S l
        ⟨(labelWin G n st.tab st.new x).1, (labelWin G n st.tab st.new x).2, st.modified + 1⟩ hl' p1 hv'
      refine ⟨q1, p2.trans q2, by simp only at q3; omega, ?_⟩
      intro i hi hil hm
      rcases List.mem_cons.1 hi with e | hi'
      · subst e
        have := q2.1 i (by rw [p3]; omega)
        simp only at this
        rw [this, p3]; omega
      · exact q4 i hi' hil hm
    · have hst : midStep G n st x = st := by simp only [midStep, hlt, if_false]
      rw [hst]
      obtain ⟨q1, q2, q3, q4⟩ := mid_fold hG n hn1 hn idx hidx S l st hl' h hv
      refine ⟨q1, q2, q3, ?_⟩
      intro i hi hil hm
      rcases List.mem_cons.1 hi with e | hi'
      · subst e
        have hwin := pred_is_win h.inv hn hil hm (by omega) (by rw [hv]; omega)
        rw [q2.1 i (by omega)]; exact hwin
      · exact q4 i hi' hil hm

theorem visit_inv (hG : OK G) (n : Nat) (hn1 : 1 ≤ n) (hn : n ≤ 62) (st : PSt) (S : List Nat) (idx : Nat)
    (hlt : idx < G.nPos) (h : PInv G n st.tab st.new S) :
    PInv G n (visit G n st idx).tab (visit G n st idx).new (idx :: S) ∧ Ext n st.tab (visit G n st idx).tab ∧
      st.modified ≤ (visit G n st idx).modified := by
  by_cases hv : rd st.tab idx = 64 - (n : Int)
  · have hidx : legalI G idx := legal_of_lt h.inv hlt (by omega) (by omega)
    have hvis : visit G n st idx = (dedupAdj (G.unmoves idx)).foldl (midStep G n) st := by
      simp only [visit, hv, if_true]
    rw [hvis]
    obtain ⟨q1, q2, q3, q4⟩ := mid_fold hG n hn1 hn idx hidx S (dedupAdj (G.unmoves idx)) st
      (fun x hx => (mem_dedupAdj x _).1 hx) h hv
    refine ⟨⟨q1.inv, q1.fsize, q1.fl, ?_⟩, q2, q3⟩
    intro j hj hjl e i hi hji
    rcases List.mem_cons.1 hj with e2 | hj'
    · subst e2
      have : i ∈ G.unmoves j := (hG.conv i j hi hjl).2 ((mem_lm hjl).1 hji)
      exact q4 i ((mem_dedupAdj i _).2 this) hi hji
    · exact q1.doneS j hj' hjl e i hi hji
  · have hvis : visit G n st idx = st := by simp only [visit, hv, if_false]
    rw [hvis]
    refine ⟨⟨h.inv, h.fsize, h.fl, ?_⟩, Ext.refl _ _, Nat.le_refl _⟩
    intro j hj hjl e i hi hji
    rcases List.mem_cons.1 hj with e2 | hj'
    · subst e2; exact absurd e hv
    · exact h.doneS j hj' hjl e i hi hji

theorem pass_fold (hG : OK G) (n : Nat) (hn1 : 1 ≤ n) (hn : n ≤ 62) :
    ∀ (L : List Nat) (st : PSt) (S : List Nat), (∀ x ∈ L, x < G.nPos) → PInv G n st.tab st.new S →
      PInv G n (L.foldl (visit G n) st).tab (L.foldl (visit G n) st).new (L.reverse ++ S) ∧
      Ext n st.tab (L.foldl (visit G n) st).tab ∧ st.modified ≤ (L.foldl (visit G n) st).modified
  | [], st, S, _, h => ⟨by simpa using h, Ext.refl _ _, Nat.le_refl _⟩
  | x :: L, st, S, hL, h => by
    simp only [List.foldl_cons]
    obtain ⟨p1, p2, p3⟩ := visit_inv hG n hn1 hn st S x (hL x (List.mem_cons_self ..)) h
    obtain ⟨q1, q2, q3⟩ := pass_fold hG n hn1 hn L _ (x :: S) (fun y hy => hL y (List.mem_cons_of_mem _ hy)) p1
    refine ⟨?_, p2.trans q2, by omega⟩
    have : (x :: L).reverse ++ S = L.reverse ++ (x :: S) := by simp
    rw [this]; exact q1


theorem pass_eq (h64 : G.nPos % 64 = 0) (n : Nat) (T : Tab) (F : Flags) :
    pass G n T F = ((List.range' 0 G.nPos).filter (fun i => flag F (i / 64))).foldl (visit G n)
      ⟨T, Array.replicate (G.nPos / 64) false, 0⟩ := by
  unfold pass
  rw [scan_eq G n F h64 (G.nPos - 0) 0 _ rfl (Or.inl rfl), Nat.sub_zero]

theorem pass_inv (hG : OK G) (n : Nat) (hn1 : 1 ≤ n) (hn : n ≤ 62) (T : Tab) (F : Flags)
    (hI : Inv G T (n - 1) (n - 1))
    (hfl : ∀ i, i < G.nPos → rd T i = 64 - (n : Int) → flag F (i / 64) = true) :
    Inv G (pass G n T F).tab n n ∧ (pass G n T F).new.size = G.nPos / 64 ∧
    (∀ i, i < G.nPos → rd (pass G n T F).tab i = 63 - (n : Int) → flag (pass G n T F).new (i / 64) = true) := by
  rw [pass_eq hG.h64]
  have h0 : PInv G n T (Array.replicate (G.nPos / 64) false) [] := by
    refine ⟨{ hI with shape := ?_ }, by simp, ?_, ?_⟩
    · intro i hi
      rcases hI.shape i hi with ⟨k, hk1, hk, e⟩ | ⟨k, hk, e⟩ | e | ⟨c, hc, e⟩
      · left; exact ⟨k, hk1, by omega, e⟩
      · right; left; exact ⟨k, by omega, e⟩
      · right; right; left; exact e
      · right; right; right; exact ⟨c, hc, e⟩
    · intro i hi e
      exfalso
      by_cases hl : legalI G i
      · rcases hI.shape i hl with ⟨k, hk1, hk, e2⟩ | ⟨k, hk, e2⟩ | e2 | ⟨c, hc, e2⟩ <;> omega
      · by_cases hv : G.valid i = true
        · by_cases ht : G.takeK i = true
          · have := hI.take i hi hv ht; omega
          · exact hl ⟨hi, hv, by simpa using ht⟩
        · have := hI.inval i hi (by simpa using hv); omega
    · intro j hj; cases hj
  obtain ⟨p1, p2, _⟩ := pass_fold hG n hn1 hn ((List.range' 0 G.nPos).filter (fun i => flag F (i / 64)))
    ⟨T, Array.replicate (G.nPos / 64) false, 0⟩ [] (fun x hx => by
      have := List.mem_range'_1.1 (List.mem_filter.1 hx).1; omega) h0
  generalize (List.foldl (visit G n) _ _) = r at *
  have hI' := p1.inv
  refine ⟨{ hI' with done := ?_ }, p1.fsize, p1.fl⟩
  intro j m hj hm e i hi hji
  by_cases hm' : m < n - 1
  · exact hI'.done j m hj hm' e i hi hji
  · have hmn : m = n - 1 := by omega
    have e' : rd r.tab j = 64 - (n : Int) := by omega
    have e0 : rd T j = 64 - (n : Int) := p2.2 j e'
    have hjS : j ∈ ((List.range' 0 G.nPos).filter (fun i => flag F (i / 64))).reverse ++ [] := by
      simp only [List.append_nil, List.mem_reverse, List.mem_filter, List.mem_range'_1]
      exact ⟨⟨by omega, by have := hj.1; omega⟩, hfl j hj.1 e0⟩
    have := p1.doneS j hjS hj e' i hi hji
    omega


theorem midStep_mono (n : Nat) (st : PSt) (x : Nat) : st.modified ≤ (midStep G n st x).modified := by
  unfold midStep; split <;> simp

theorem midStep_noop (n : Nat) (st : PSt) (x : Nat) (h : (midStep G n st x).modified = st.modified) :
    midStep G n st x = st ∧ -1 ≤ rd st.tab x := by
  unfold midStep at h ⊢
  by_cases hlt : rd st.tab x < -1
  · simp only [hlt, if_true] at h; omega
  · simp only [hlt, if_false]; exact ⟨trivial, by omega⟩

theorem mid_fold_mono (n : Nat) (l : List Nat) (st : PSt) : st.modified ≤ (l.foldl (midStep G n) st).modified :=
  foldl_rel (fun a b : PSt => a.modified ≤ b.modified) (fun _ => Nat.le_refl _) (fun _ _ _ => Nat.le_trans) _
    (midStep_mono n) l st

theorem visit_mono (n : Nat) (st : PSt) (idx : Nat) : st.modified ≤ (visit G n st idx).modified := by
  unfold visit; split
  · exact mid_fold_mono n _ st
  · exact Nat.le_refl _

theorem visit_noop (n : Nat) (st : PSt) (idx : Nat) (h : (visit G n st idx).modified = st.modified) :
    visit G n st idx = st ∧ (rd st.tab idx = 64 - (n : Int) → ∀ x ∈ G.unmoves idx, -1 ≤ rd st.tab x) := by
  unfold visit at h ⊢
  by_cases hv : rd st.tab idx = 64 - (n : Int)
  · simp only [hv, if_true] at h ⊢
    obtain ⟨e, hl⟩ := foldl_noop PSt.modified (midStep G n) (fun st x => -1 ≤ rd st.tab x) (midStep_mono n)
      (midStep_noop n) _ st h
    exact ⟨e, fun _ x hx => hl x ((mem_dedupAdj x _).2 hx)⟩
  · simp only [hv, if_false]; exact ⟨trivial, fun e => e.elim⟩

theorem pass_noop (hG : OK G) (n : Nat) (T : Tab) (F : Flags) (h : (pass G n T F).modified = 0) :
    (pass G n T F).tab = T ∧
    ∀ idx, idx < G.nPos → flag F (idx / 64) = true → rd T idx = 64 - (n : Int) → ∀ x ∈ G.unmoves idx, -1 ≤ rd T x := by
  rw [pass_eq hG.h64] at h ⊢
  obtain ⟨e, hl⟩ := foldl_noop PSt.modified (visit G n)
    (fun st idx => rd st.tab idx = 64 - (n : Int) → ∀ x ∈ G.unmoves idx, -1 ≤ rd st.tab x) (visit_mono n) (visit_noop n)
    _ ⟨T, Array.replicate (G.nPos / 64) false, 0⟩ h
  rw [e]
  refine ⟨rfl, fun idx hi hf hv x hx => ?_⟩
  exact hl idx (by simp only [List.mem_filter, List.mem_range'_1]; exact ⟨⟨by omega, by omega⟩, hf⟩) hv x hx

/-- after a scan that modified nothing, the MATED_IN_(n-1) entries are closed too -/
theorem close_inv (hG : OK G) (n : Nat) (hn1 : 1 ≤ n) (hn : n ≤ 63) (T : Tab) (F : Flags)
    (hI : Inv G T (n - 1) (n - 1))
    (hfl : ∀ i, i < G.nPos → rd T i = 64 - (n : Int) → flag F (i / 64) = true)
    (h : (pass G n T F).modified = 0) : Inv G T (n - 1) n := by
  obtain ⟨_, hno⟩ := pass_noop hG n T F h
  refine { hI with done := ?_ }
  intro j m hj hm e i hi hji
  by_cases hm' : m < n - 1
  · exact hI.done j m hj hm' e i hi hji
  · have e' : rd T j = 64 - (n : Int) := by omega
    have hiu : i ∈ G.unmoves j := (hG.conv i j hi hj).2 ((mem_lm hj).1 hji)
    have hc := hno j hj.1 (hfl j hj.1 e') e' i hiu
    have := pred_is_win hI (by omega) hi hji hc (by omega)
    omega

theorem loop_passes_ge : ∀ (fuel n : Nat) (T : Tab) (F : Flags), (loop G fuel n T F).finished = true →
    n ≤ (loop G fuel n T F).passes
  | 0, _, _, _, h => by simp [loop] at h
  | fuel + 1, n, T, F, h => by
    unfold loop at h ⊢
    by_cases hm : (pass G n T F).modified = 0
    · simp only [hm, if_true]; exact Nat.le_refl _
    · simp only [hm, if_false] at h ⊢
      have := loop_passes_ge fuel (n + 1) _ _ h
      omega

theorem loop_spec (hG : OK G) : ∀ (fuel n : Nat) (T : Tab) (F : Flags), 1 ≤ n → Inv G T (n - 1) (n - 1) →
    (∀ i, i < G.nPos → rd T i = 64 - (n : Int) → flag F (i / 64) = true) →
    (loop G fuel n T F).finished = true → (loop G fuel n T F).passes ≤ 63 →
    ∃ T0 a, Inv G T0 a (a + 1) ∧ a ≤ 62 ∧ (loop G fuel n T F).tab = finalize T0
  | 0, _, _, _, _, _, _, h, _ => by simp [loop] at h
  | fuel + 1, n, T, F, hn1, hI, hfl, hfin, hp => by
    unfold loop at hfin hp ⊢
    by_cases hm : (pass G n T F).modified = 0
    · simp only [hm, if_true] at hp ⊢
      have hc := close_inv hG n hn1 hp T F hI hfl hm
      refine ⟨T, n - 1, ?_, by omega, by rw [(pass_noop hG n T F hm).1]⟩
      have : n - 1 + 1 = n := by omega
      rw [this]; exact hc
    · simp only [hm, if_false] at hfin hp ⊢
      have hge := loop_passes_ge fuel (n + 1) _ _ hfin
      obtain ⟨p1, _, p3⟩ := pass_inv hG n hn1 (by omega) T F hI hfl
      exact loop_spec hG fuel (n + 1) _ _ (by omega) (by simpa using p1)
        (fun i hi e => p3 i hi (by omega)) hfin hp


theorem phase1_aux (G : IG) : ∀ k, k ≤ G.nPos →
    ((List.range k).foldl (fun T idx => T.setIfInBounds idx (classify G idx)) (Array.replicate G.nPos (-2))).size = G.nPos ∧
    ∀ i, rd ((List.range k).foldl (fun T idx => T.setIfInBounds idx (classify G idx)) (Array.replicate G.nPos (-2))) i =
      if i < k then classify G i else if i < G.nPos then -2 else -1
  | 0, _ => by
    simp only [List.range_zero, List.foldl_nil, Array.size_replicate, true_and]
    intro i; rw [rd_replicate]; simp
  | k + 1, hk => by
    obtain ⟨h1, h2⟩ := phase1_aux G k (by omega)
    rw [List.range_succ, List.foldl_append]
    simp only [List.foldl_cons, List.foldl_nil]
    refine ⟨by rw [Array.size_setIfInBounds, h1], fun i => ?_⟩
    rw [rd_set, h2 i, h1]
    by_cases hik : k = i
    · subst hik
      have : k < G.nPos := by omega
      simp [this]
    · have : ¬ (k = i ∧ k < G.nPos) := fun h => hik h.1
      rw [if_neg this]
      by_cases h3 : i < k
      · have : i < k + 1 := by omega
        simp [h3, this]
      · have : ¬ i < k + 1 := by omega
        simp [h3, this]

theorem phase1_spec (G : IG) : (phase1 G).size = G.nPos ∧ ∀ i, i < G.nPos → rd (phase1 G) i = classify G i := by
  obtain ⟨h1, h2⟩ := phase1_aux G G.nPos (Nat.le_refl _)
  refine ⟨h1, fun i hi => ?_⟩
  unfold phase1
  rw [h2 i, if_pos hi]

/-- the value phase 2 gives to index `i`, computed from the table phase 1 left -/
def cell2 (G : IG) (T1 : Tab) (i : Nat) : Int :=
  if rd T1 i != -3 then rd T1 i
  else if nLegal G T1 i > 0 then -3 - (nLegal G T1 i : Int)
  else if rd T1 (G.swap i) == 64 then 63 else 0

theorem cell2_64 (G : IG) (T1 : Tab) (j : Nat) : cell2 G T1 j = 64 ↔ rd T1 j = 64 := by
  unfold cell2
  by_cases h : rd T1 j = -3
  · simp only [h, bne_self_eq_false, Bool.false_eq_true, if_false]
    split
    · omega
    · split <;> omega
  · have : (rd T1 j != -3) = true := by simpa using h
    simp only [this, if_true]

/-- one step of phase 2 writes `cell2` at `k` and nothing else -/
theorem step2_spec (G : IG) (T1 : Tab) (st : Tab × Flags) (k : Nat) (hks : k < st.1.size) (hkf : k / 64 < st.2.size)
    (h64 : ∀ j, rd st.1 j = 64 ↔ rd T1 j = 64) (hk : rd st.1 k = rd T1 k) :
    (step2 G st k).1.size = st.1.size ∧ (step2 G st k).2.size = st.2.size ∧
    (∀ i, rd (step2 G st k).1 i = if k = i then cell2 G T1 k else rd st.1 i) ∧
    (∀ b, flag st.2 b = true → flag (step2 G st k).2 b = true) ∧
    (cell2 G T1 k = 63 → rd T1 k = -3 → flag (step2 G st k).2 (k / 64) = true) := by
  have hbne : ∀ j, (rd st.1 j != 64) = (rd T1 j != 64) := fun j => by
    rw [Bool.eq_iff_iff]
    simp only [bne_iff_ne, ne_eq, h64 j]
  have hnl : nLegal G st.1 k = nLegal G T1 k := by
    unfold nLegal
    rw [List.filter_congr (fun j _ => hbne j)]
  have hsw : (rd st.1 (G.swap k) == 64) = (rd T1 (G.swap k) == 64) := Bool.not_inj (hbne (G.swap k))
  have hset : ∀ v i, rd (st.1.setIfInBounds k v) i = if k = i then v else rd st.1 i := fun v i => by
    rw [rd_set]
    by_cases h : k = i
    · rw [if_pos ⟨h, hks⟩, if_pos h]
    · rw [if_neg (fun c => h c.1), if_neg h]
  unfold step2 cell2
  rw [hk, hnl, hsw]
  by_cases hu : rd T1 k = -3
  · rw [hu]
    simp only [bne_self_eq_false, Bool.false_eq_true, if_false]
    by_cases hn : nLegal G T1 k > 0
    · simp only [hn, if_true]
      exact ⟨Array.size_setIfInBounds, trivial, hset _, fun _ h => h, fun h => by omega⟩
    · simp only [hn, if_false]
      by_cases hs : (rd T1 (G.swap k) == 64) = true
      · simp only [hs, if_true]
        refine ⟨Array.size_setIfInBounds, Array.size_setIfInBounds, hset _, fun b hb => ?_, fun _ _ => ?_⟩
        · rw [flag_set]; split
          · rfl
          · exact hb
        · rw [flag_set, if_pos ⟨rfl, hkf⟩]
      · simp only [hs, Bool.false_eq_true, if_false]
        exact ⟨Array.size_setIfInBounds, trivial, hset _, fun _ h => h, fun h => by omega⟩
  · have hc : (rd T1 k != -3) = true := bne_iff_ne.2 hu
    simp only [hc, if_true]
    refine ⟨trivial, trivial, fun i => ?_, fun _ h => h, fun _ h => absurd h hu⟩
    by_cases h : k = i
    · rw [if_pos h, ← h, hk]
    · rw [if_neg h]

theorem phase2_aux (G : IG) (hG : G.nPos % 64 = 0) (T1 : Tab) (h1 : T1.size = G.nPos) : ∀ k, k ≤ G.nPos →
    ((List.range k).foldl (step2 G) (T1, Array.replicate (G.nPos / 64) false)).1.size = G.nPos ∧
    ((List.range k).foldl (step2 G) (T1, Array.replicate (G.nPos / 64) false)).2.size = G.nPos / 64 ∧
    (∀ i, rd ((List.range k).foldl (step2 G) (T1, Array.replicate (G.nPos / 64) false)).1 i =
      if i < k then cell2 G T1 i else rd T1 i) ∧
    (∀ i, i < k → rd T1 i = -3 → cell2 G T1 i = 63 →
      flag ((List.range k).foldl (step2 G) (T1, Array.replicate (G.nPos / 64) false)).2 (i / 64) = true)
  | 0, _ => by
    simp only [List.range_zero, List.foldl_nil, h1, Array.size_replicate, true_and]
    exact ⟨fun i => by simp, fun i hi => by omega⟩
  | k + 1, hk => by
    obtain ⟨p1, p2, p3, p4⟩ := phase2_aux G hG T1 h1 k (by omega)
    rw [List.range_succ, List.foldl_append]
    simp only [List.foldl_cons, List.foldl_nil]
    generalize (List.foldl (step2 G) (T1, Array.replicate (G.nPos / 64) false) (List.range k)) = r at *
    have h64 : ∀ j, (rd r.1 j = 64) ↔ (rd T1 j = 64) := by
      intro j; rw [p3 j]
      by_cases hj : j < k
      · rw [if_pos hj]; exact cell2_64 G T1 j
      · rw [if_neg hj]
    obtain ⟨q1, q2, q3, q4, q5⟩ := step2_spec G T1 r k (by omega) (by omega) h64 (by rw [p3 k, if_neg (Nat.lt_irrefl k)])
    refine ⟨by rw [q1, p1], by rw [q2, p2], fun i => ?_, fun i hi hi3 hi63 => ?_⟩
    · rw [q3 i, p3 i]
      by_cases hik : k = i
      · rw [if_pos hik, if_pos (by omega), hik]
      · rw [if_neg hik]
        by_cases h3 : i < k
        · rw [if_pos h3, if_pos (by omega)]
        · rw [if_neg h3, if_neg (by omega)]
    · by_cases hik : i = k
      · rw [hik]; exact q5 (hik ▸ hi63) (hik ▸ hi3)
      · exact q4 _ (p4 i (by omega) hi3 hi63)

theorem phase2_inv (hG : OK G) :
    Inv G (phase2 G (phase1 G)).1 0 0 ∧
    (∀ i, i < G.nPos → rd (phase2 G (phase1 G)).1 i = 63 → flag (phase2 G (phase1 G)).2 (i / 64) = true) := by
  obtain ⟨s1, s2⟩ := phase1_spec G
  obtain ⟨p1, p2, p3, p4⟩ := phase2_aux G hG.h64 (phase1 G) s1 G.nPos (Nat.le_refl _)
  unfold phase2
  generalize (List.foldl (step2 G) (phase1 G, Array.replicate (G.nPos / 64) false) (List.range G.nPos)) = r at *
  have hc : ∀ i, i < G.nPos → rd r.1 i = cell2 G (phase1 G) i := fun i hi => by rw [p3 i, if_pos hi]
  have hinv : ∀ i, i < G.nPos → G.valid i = false → rd r.1 i = -1 := by
    intro i hi hv
    rw [hc i hi]; unfold cell2
    have : rd (phase1 G) i = -1 := by rw [s2 i hi]; simp [classify, hv]
    rw [this]; rfl
  have htake : ∀ i, i < G.nPos → G.valid i = true → G.takeK i = true → rd r.1 i = 64 := by
    intro i hi hv ht
    rw [hc i hi]; unfold cell2
    have : rd (phase1 G) i = 64 := by rw [s2 i hi]; simp [classify, hv, ht]
    rw [this]; rfl
  have hnl : ∀ i, legalI G i → nLegal G (phase1 G) i = (lm G i).length := by
    intro i hi
    unfold nLegal lm
    congr 1
    apply List.filter_congr
    intro j hj
    have hj' := (mem_dedupAdj j _).1 hj
    have hjn := hG.moves_lt i j hi hj'
    have hjv := hG.moves_valid i j hi hj'
    rw [s2 j hjn]
    cases ht : G.takeK j <;> simp [classify, hjv, ht]
  have hsw : ∀ i, legalI G i → (rd (phase1 G) (G.swap i) == 64) = inCheckI G i := by
    intro i hi
    rw [s2 _ (hG.swap_lt i hi)]
    unfold inCheckI classify
    cases hv : G.valid (G.swap i) <;> cases ht : G.takeK (G.swap i) <;> simp
  have hleg : ∀ i, legalI G i → rd r.1 i = if (lm G i).length > 0 then -3 - ((lm G i).length : Int)
      else if inCheckI G i then 63 else 0 := by
    intro i hi
    rw [hc i hi.1]; unfold cell2
    have : rd (phase1 G) i = -3 := by rw [s2 i hi.1]; simp [classify, hi.2.1, hi.2.2]
    rw [this, hnl i hi, hsw i hi]
    simp
  have hle : ∀ i, legalI G i → rd r.1 i ≤ 63 := by
    intro i hi
    rw [hleg i hi]
    split
    · omega
    · split <;> omega
  have hcnt : ∀ i, legalI G i → cnt G r.1 i = (lm G i).length := by
    intro i hi
    unfold cnt
    congr 1
    apply List.filter_eq_self.2
    intro j hj
    have := hle j (lm_legal hG hi hj)
    simp only [decide_eq_true_eq]; omega
  refine ⟨{ size := p1, inval := hinv, take := htake, shape := ?shape, win := ?win, rem := ?rem, loss := ?loss,
            loss0 := ?loss0, draw := ?draw, done := ?done }, ?flags⟩
  case shape =>
    intro i hi
    have := hleg i hi
    by_cases hl : (lm G i).length > 0
    · rw [if_pos hl] at this
      right; right; right; exact ⟨(lm G i).length, hl, this⟩
    · rw [if_neg hl] at this
      cases hch : inCheckI G i
      · rw [hch] at this; right; right; left; simpa using this
      · rw [hch] at this; right; left; exact ⟨0, Nat.le_refl _, by simpa using this⟩
  case win =>
    intro i k hi hk e
    have := hle i hi; omega
  case rem =>
    intro i c hi hc' e
    rw [hcnt i hi]
    have := hleg i hi
    by_cases hl : (lm G i).length > 0
    · rw [if_pos hl] at this; omega
    · rw [if_neg hl] at this
      split at this <;> omega
  case loss =>
    intro i k hi hk1 hk62 e
    exfalso
    have := hleg i hi
    by_cases hl : (lm G i).length > 0
    · rw [if_pos hl] at this; omega
    · rw [if_neg hl] at this
      split at this <;> omega
  case loss0 =>
    intro i hi e
    have := hleg i hi
    by_cases hl : (lm G i).length > 0
    · rw [if_pos hl] at this; omega
    · rw [if_neg hl] at this
      refine ⟨List.eq_nil_of_length_eq_zero (by omega), ?_⟩
      cases hch : inCheckI G i
      · rw [hch] at this; simp at this; omega
      · rfl
  case draw =>
    intro i hi e
    have := hleg i hi
    by_cases hl : (lm G i).length > 0
    · rw [if_pos hl] at this; omega
    · rw [if_neg hl] at this
      refine ⟨List.eq_nil_of_length_eq_zero (by omega), ?_⟩
      cases hch : inCheckI G i
      · rfl
      · rw [hch] at this; simp at this; omega
  case done =>
    intro j m hj hm; omega
  case flags =>
    intro i hi e
    by_cases hl : legalI G i
    · apply p4 i hi
      · rw [s2 i hi]; simp [classify, hl.2.1, hl.2.2]
      · rw [← hc i hi]; exact e
    · exfalso
      by_cases hv : G.valid i = true
      · by_cases ht : G.takeK i = true
        · have := htake i hi hv ht; omega
        · exact hl ⟨hi, hv, by simpa using ht⟩
      · have := hinv i hi (by simpa using hv); omega


/-- the game value a final cell denotes (`draw` for cells that are not game values) -/
def valT (T : Tab) (j : Nat) : Val := (decodeS (rd T j)).getD .draw

theorem valT_of_decode {T : Tab} {j : Nat} {v : Val} (h : decodeS (rd T j) = some v) : valT T j = v := by
  unfold valT
  rw [h]
  rfl

theorem rd_finalize (T : Tab) (i : Nat) (hi : i < T.size) : rd (finalize T) i = if rd T i < -3 then 0 else rd T i := by
  unfold finalize; rw [rd_map T _ i hi]

/-- **the closed invariant gives the local rule**: after the last scan (every MATED_IN entry closed) and phase 4 -/
theorem final_spec (hG : OK G) (T : Tab) (a : Nat) (ha : a ≤ 62) (hI : Inv G T a (a + 1)) :
    (finalize T).size = G.nPos ∧
    ∀ i, i < G.nPos →
      (G.valid i = false → rd (finalize T) i = -1) ∧
      (G.valid i = true → G.takeK i = true → rd (finalize T) i = 64) ∧
      (legalI G i → ∃ v, decodeS (rd (finalize T) i) = some v ∧ v = expected (gameI G) (valT (finalize T)) i) ∧
      (-1 ≤ rd (finalize T) i ∧ rd (finalize T) i ≤ 126) := by
  have hsz : (finalize T).size = G.nPos := by unfold finalize; rw [Array.size_map, hI.size]
  have hrf : ∀ i, i < G.nPos → rd (finalize T) i = if rd T i < -3 then 0 else rd T i :=
    fun i hi => rd_finalize T i (by rw [hI.size]; exact hi)
  have vwin : ∀ j (k : Nat), legalI G j → 1 ≤ k → rd T j = 64 + (k : Int) → valT (finalize T) j = .win k := by
    intro j k hj hk e
    unfold valT; rw [hrf j hj.1, e]
    have : ¬ (64 + (k : Int) < -3) := by omega
    rw [if_neg this, decodeS_win k hk]; rfl
  have vloss : ∀ j (k : Nat), legalI G j → k ≤ 62 → rd T j = 63 - (k : Int) → valT (finalize T) j = .loss k := by
    intro j k hj hk e
    unfold valT; rw [hrf j hj.1, e]
    have : ¬ (63 - (k : Int) < -3) := by omega
    rw [if_neg this, decodeS_loss k hk]; rfl
  have vdraw : ∀ j, legalI G j → (rd T j = 0 ∨ rd T j < -3) → valT (finalize T) j = .draw := by
    intro j hj e
    unfold valT; rw [hrf j hj.1]
    rcases e with e | e
    · rw [e]; simp [decodeS_zero]
    · rw [if_pos e]; simp [decodeS_zero]
  have of_loss : ∀ j (m : Nat), legalI G j → valT (finalize T) j = .loss m → rd T j = 63 - (m : Int) ∧ m ≤ a := by
    intro j m hj e
    rcases hI.shape j hj with ⟨k, hk1, hk, e2⟩ | ⟨k, hk, e2⟩ | e2 | ⟨c, hc, e2⟩
    · rw [vwin j k hj hk1 e2] at e; cases e
    · rw [vloss j k hj (by omega) e2] at e; injection e with e; subst e; exact ⟨e2, hk⟩
    · rw [vdraw j hj (Or.inl e2)] at e; cases e
    · rw [vdraw j hj (Or.inr (by omega))] at e; cases e
  refine ⟨hsz, fun i hi => ⟨?_, ?_, ?_, ?_⟩⟩
  · intro hv
    rw [hrf i hi, hI.inval i hi hv]; rfl
  · intro hv ht
    rw [hrf i hi, hI.take i hi hv ht]; rfl
  -- the range first, the local rule last
  rotate_left
  · rw [hrf i hi]
    by_cases hl : legalI G i
    · rcases hI.shape i hl with ⟨k, hk1, hk, e⟩ | ⟨k, hk, e⟩ | e | ⟨c, hc, e⟩
      · rw [e]; split <;> omega
      · rw [e]; split <;> omega
      · rw [e]; split <;> omega
      · rw [e]; split <;> omega
    · by_cases hv : G.valid i = true
      · by_cases ht : G.takeK i = true
        · rw [hI.take i hi hv ht]; split <;> omega
        · exact absurd ⟨hi, hv, by simpa using ht⟩ hl
      · rw [hI.inval i hi (by simpa using hv)]; split <;> omega
  · intro hl
    have hmoves : (gameI G).moves i = lm G i := rfl
    have hchk : (gameI G).inCheck i = inCheckI G i := rfl
    rcases hI.shape i hl with ⟨k, hk1, hk, e⟩ | ⟨k, hk, e⟩ | e | ⟨c, hc, e⟩
    · -- MATE_IN_k
      refine ⟨.win k, ?_, ?_⟩
      · rw [hrf i hi, e]
        have : ¬ (64 + (k : Int) < -3) := by omega
        rw [if_neg this, decodeS_win k hk1]
      · obtain ⟨j, hj, hje⟩ := hI.win i k hl hk1 e
        have hjl := lm_legal hG hl hj
        have hm : minLoss (valT (finalize T)) ((gameI G).moves i) = some (k - 1) := by
          rw [minLoss_some, hmoves]
          refine ⟨⟨j, hj, vloss j (k - 1) hjl (by omega) (by omega)⟩, ?_⟩
          intro q hq m' hqe
          have hql := lm_legal hG hl hq
          obtain ⟨e3, hm'⟩ := of_loss q m' hql hqe
          have := hI.done q m' hql (by omega) e3 i hl hq
          omega
        rw [exp_win _ _ _ _ hm]
        congr 1; omega
    · by_cases hk0 : k = 0
      · -- MATED_IN_0
        subst hk0
        obtain ⟨h1, h2⟩ := hI.loss0 i hl (by omega)
        refine ⟨.loss 0, ?_, ?_⟩
        · rw [hrf i hi, e]; decide
        · rw [exp_nomoves _ _ _ (by rw [hmoves]; exact h1), hchk, h2]; rfl
      · -- MATED_IN_k
        obtain ⟨l1, j, hj, hje⟩ := hI.loss i k hl (by omega) (by omega) e
        refine ⟨.loss k, ?_, ?_⟩
        · rw [hrf i hi, e]
          have : ¬ (63 - (k : Int) < -3) := by omega
          rw [if_neg this, decodeS_loss k (by omega)]
        · have hwin : ∀ q ∈ lm G i, ∃ k', 1 ≤ k' ∧ k' ≤ k ∧ valT (finalize T) q = .win k' := by
            intro q hq
            have hql := lm_legal hG hl hq
            have h2 := l1 q hq
            rcases hI.shape q hql with ⟨k', hk1', _, e2⟩ | ⟨k', _, e2⟩ | e2 | ⟨c, hc, e2⟩
            · exact ⟨k', hk1', by omega, vwin q k' hql hk1' e2⟩
            · omega
            · omega
            · omega
          have hne : (gameI G).moves i ≠ [] := by
            rw [hmoves]; intro h; rw [h] at hj; cases hj
          have h1 : minLoss (valT (finalize T)) ((gameI G).moves i) = none := by
            rw [minLoss_none, hmoves]
            intro q hq m' hqe
            obtain ⟨k', _, _, e2⟩ := hwin q hq
            rw [e2] at hqe; cases hqe
          have h3 : allWinMax (valT (finalize T)) ((gameI G).moves i) = some (k - 1 + 1) := by
            rw [allWinMax_some, hmoves]
            refine ⟨fun q hq => ?_, Or.inr ⟨j, hj, ?_⟩⟩
            · obtain ⟨k', _, hk', e2⟩ := hwin q hq
              exact ⟨k', by omega, e2⟩
            · have : k - 1 + 1 = k := by omega
              rw [this]
              exact vwin j k (lm_legal hG hl hj) (by omega) hje
          rw [exp_loss _ _ _ (k - 1) h1 hne h3]
          congr 1; omega
    · -- stalemate
      obtain ⟨h1, h2⟩ := hI.draw i hl e
      refine ⟨.draw, ?_, ?_⟩
      · rw [hrf i hi, e]; decide
      · rw [exp_nomoves _ _ _ (by rw [hmoves]; exact h1), hchk, h2]; rfl
    · -- REMAINING_c: a draw
      refine ⟨.draw, ?_, ?_⟩
      · rw [hrf i hi, if_pos (by omega)]; decide
      · have hcn := hI.rem i c hl hc e
        have h1 : minLoss (valT (finalize T)) ((gameI G).moves i) = none := by
          rw [minLoss_none, hmoves]
          intro q hq m' hqe
          have hql := lm_legal hG hl hq
          obtain ⟨e3, hm'⟩ := of_loss q m' hql hqe
          have := hI.done q m' hql (by omega) e3 i hl hq
          omega
        -- some successor is not a win
        have hex : ∃ q ∈ lm G i, rd T q ≤ 64 := by
          unfold cnt at hcn
          have hpos : 0 < ((lm G i).filter fun j => decide (rd T j ≤ 64)).length := by omega
          obtain ⟨q, hq⟩ := List.exists_mem_of_length_pos hpos
          have := List.mem_filter.1 hq
          exact ⟨q, this.1, by simpa using this.2⟩
        obtain ⟨q, hq, hqle⟩ := hex
        have hql := lm_legal hG hl hq
        have hne : (gameI G).moves i ≠ [] := by
          rw [hmoves]; intro h; rw [h] at hq; cases hq
        have h3 : allWinMax (valT (finalize T)) ((gameI G).moves i) = none := by
          apply allWinMax_none_of
          rw [hmoves]
          refine ⟨q, hq, ?_⟩
          rcases hI.shape q hql with ⟨k', hk1', _, e2⟩ | ⟨k', hk', e2⟩ | e2 | ⟨c', hc', e2⟩
          · omega
          · rw [vloss q k' hql (by omega) e2]; rfl
          · rw [vdraw q hql (Or.inl e2)]; rfl
          · rw [vdraw q hql (Or.inr (by omega))]; rfl
        rw [exp_draw _ _ _ h1 hne h3]


/-! ### termination: every scan that modifies something computes at least one more entry -/

/-- number of entries that are not computed -/
def mu (T : Tab) : Nat := T.countP fun s => decide (s < -1)

theorem rd_eq_getElem (T : Tab) (i : Nat) (h : i < T.size) : rd T i = T[i] := by
  unfold rd; simp [Array.getD_eq_getD_getElem?, h]

theorem mu_set_le (T : Tab) (i : Nat) (v : Int) (h : v < -1 → rd T i < -1) : mu (T.setIfInBounds i v) ≤ mu T := by
  rw [Array.setIfInBounds_def]
  by_cases hi : i < T.size
  · rw [dif_pos hi]
    unfold mu
    rw [Array.countP_set hi]
    have hb := Array.boole_getElem_le_countP (p := fun s => decide (s < -1)) (xs := T) (i := i) hi
    rw [rd_eq_getElem T i hi] at h
    by_cases hv : v < -1
    · have := h hv
      simp only [hv, this, decide_true, if_true] at hb ⊢
      omega
    · simp only [hv, decide_false, Bool.false_eq_true, if_false]
      omega
  · rw [dif_neg hi]; exact Nat.le_refl _

theorem mu_set_lt (T : Tab) (i : Nat) (v : Int) (h1 : rd T i < -1) (h2 : ¬ v < -1) :
    mu (T.setIfInBounds i v) + 1 ≤ mu T := by
  have hi : i < T.size := rd_lt_size T i (by omega)
  rw [Array.setIfInBounds_def, dif_pos hi]
  unfold mu
  rw [Array.countP_set hi]
  have hb := Array.boole_getElem_le_countP (p := fun s => decide (s < -1)) (xs := T) (i := i) hi
  rw [rd_eq_getElem T i hi] at h1
  simp only [h1, h2, decide_true, decide_false, if_true, Bool.false_eq_true, if_false] at hb ⊢
  omega

theorem mu_decStep (n : Nat) (st : Tab × Flags) (x : Nat) : mu (decStep n st x).1 ≤ mu st.1 := by
  unfold decStep
  by_cases hv : rd st.1 x < -3
  · simp only [hv, if_true]
    split
    · exact mu_set_le _ _ _ (fun _ => by omega)
    · exact mu_set_le _ _ _ (fun _ => by omega)
  · simp only [hv, if_false]; exact Nat.le_refl _

theorem mu_decFold (n : Nat) (l : List Nat) (st : Tab × Flags) : mu (l.foldl (decStep n) st).1 ≤ mu st.1 :=
  foldl_rel (fun a b : Tab × Flags => mu b.1 ≤ mu a.1) (fun _ => Nat.le_refl _) (fun _ _ _ h1 h2 => Nat.le_trans h2 h1) _
    (mu_decStep n) l st

/-- entries not yet computed plus modifications made: never grows -/
def muMod (st : PSt) : Nat := mu st.tab + st.modified

theorem mu_midStep (n : Nat) (st : PSt) (x : Nat) : muMod (midStep G n st x) ≤ muMod st := by
  unfold muMod midStep
  by_cases hlt : rd st.tab x < -1
  · simp only [hlt, if_true]
    unfold labelWin
    have h1 := mu_decFold n (dedupAdj (G.unmoves x)) (st.tab.setIfInBounds x (64 + (n : Int)), st.new)
    have h2 := mu_set_lt st.tab x (64 + (n : Int)) hlt (by omega)
    simp only at h1
    omega
  · simp only [hlt, if_false]; exact Nat.le_refl _

theorem mu_midFold (n : Nat) (l : List Nat) (st : PSt) : muMod (l.foldl (midStep G n) st) ≤ muMod st :=
  foldl_rel (fun a b : PSt => muMod b ≤ muMod a) (fun _ => Nat.le_refl _) (fun _ _ _ h1 h2 => Nat.le_trans h2 h1) _
    (mu_midStep n) l st

theorem mu_visit (n : Nat) (st : PSt) (idx : Nat) : muMod (visit G n st idx) ≤ muMod st := by
  unfold visit; split
  · exact mu_midFold n _ st
  · exact Nat.le_refl _

theorem mu_vfold (n : Nat) (L : List Nat) (st : PSt) : muMod (L.foldl (visit G n) st) ≤ muMod st :=
  foldl_rel (fun a b : PSt => muMod b ≤ muMod a) (fun _ => Nat.le_refl _) (fun _ _ _ h1 h2 => Nat.le_trans h2 h1) _
    (mu_visit n) L st

theorem mu_pass (h64 : G.nPos % 64 = 0) (n : Nat) (T : Tab) (F : Flags) :
    mu (pass G n T F).tab + (pass G n T F).modified ≤ mu T := by
  rw [pass_eq h64]
  exact mu_vfold n _ _

theorem loop_finished (h64 : G.nPos % 64 = 0) : ∀ (fuel n : Nat) (T : Tab) (F : Flags), mu T < fuel →
    (loop G fuel n T F).finished = true
  | 0, _, _, _, h => by omega
  | fuel + 1, n, T, F, h => by
    unfold loop
    by_cases hm : (pass G n T F).modified = 0
    · simp only [hm, if_true]
    · simp only [hm, if_false]
      have := mu_pass h64 n T F
      exact loop_finished h64 fuel (n + 1) _ _ (by omega)

/-- **termination**: the loop `for (n = 1; ; n++)` is always left through `if (modified == 0) break;` -/
theorem generate_finished (h64 : G.nPos % 64 = 0) : (generate G).finished = true := by
  unfold generate
  apply loop_finished h64
  have hsz : (phase2 G (phase1 G)).1.size = G.nPos :=
    (phase2_aux G h64 (phase1 G) (phase1_spec G).1 G.nPos (Nat.le_refl _)).1
  have : mu (phase2 G (phase1 G)).1 ≤ (phase2 G (phase1 G)).1.size := Array.countP_le_size
  omega

theorem generate_spec (hG : OK G) (hp : (generate G).passes ≤ 63) :
    (generate G).tab.size = G.nPos ∧
    ∀ i, i < G.nPos →
      (G.valid i = false → rd (generate G).tab i = -1) ∧
      (G.valid i = true → G.takeK i = true → rd (generate G).tab i = 64) ∧
      (legalI G i → ∃ v, decodeS (rd (generate G).tab i) = some v ∧
        v = expected (gameI G) (valT (generate G).tab) i) ∧
      (-1 ≤ rd (generate G).tab i ∧ rd (generate G).tab i ≤ 126) := by
  have hfin := generate_finished hG.h64
  obtain ⟨h2, h2f⟩ := phase2_inv hG
  unfold generate at hfin hp ⊢
  obtain ⟨T0, a, hI, ha, e⟩ := loop_spec hG (G.nPos + 1) 1 _ _ (Nat.le_refl _) h2
    (fun i hi e => h2f i hi (by simpa using e)) hfin hp
  rw [e]
  exact final_spec hG T0 a ha hI

theorem legal_closed (hG : OK G) : ∀ p, legalI G p → ∀ q ∈ (gameI G).moves p, legalI G q :=
  fun _ hp _ hq => lm_legal hG hp hq

theorem generate_exact (hG : OK G) (hp : (generate G).passes ≤ 63) (i : Nat) (hi : legalI G i) :
    decodeS (rd (generate G).tab i) = some (DTM (gameI G) i) := by
  obtain ⟨_, hs⟩ := generate_spec hG hp
  have hfix : ∀ p, legalI G p → valT (generate G).tab p = expected (gameI G) (valT (generate G).tab) p := by
    intro p hpl
    obtain ⟨v, hv, he⟩ := (hs p hpl.1).2.2.1 hpl
    rw [← he]; exact valT_of_decode hv
  have hd := fixedpoint_is_dtm (gameI G) (legalI G) (legal_closed hG) (valT (generate G).tab) hfix i hi
  obtain ⟨v, hv, he⟩ := (hs i hi.1).2.2.1 hi
  rw [hv, ← hd, valT_of_decode hv]


end TB.Retro
