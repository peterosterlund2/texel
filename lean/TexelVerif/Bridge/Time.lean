import TexelVerif.Generated.Time
import TexelVerif.Time.Alloc
/-!
# Bridge: the integer parts of `EngineControl::computeTimeLimit` (clock branch), regenerated from enginecontrol.cpp

`computeTimeLimit` mixes `int` and `double` arithmetic, so the translator takes two *slices* of the clock branch:

* `Gen.Time.timeLimit_base`  — from `int moves = sPar.movesToGo;` up to (not including) the ponder-bonus `if`
  (outputs `moves, time, margin, timeLimit` and the receiver with `minTimeLimit = timeLimit`);
* `Gen.Time.timeLimit_clamp` — the two final `clamp(…, 1, time - margin)` assignments.

The floating-point statements in between (`minTimeLimit += (int)(…)`, `maxTimeLimit = (int)(minTimeLimit * clamp(…))`)
are abstracted exactly as in the hand model `Tm.alloc`: an arbitrary integer `bonus` and an arbitrary function `scale`.
The theorem composes the two slices around that abstraction and shows the result is `Tm.alloc`, which `Tm.alloc_eq_clock`
identifies with the clock branch of `Tm.compute`.  No upper ranges: that 32-bit `int` computes the same is the `OBLIGATIONS`
list of the generated definitions, met on the domain named in `Time/Alloc.lean`.
-/
set_option linter.unusedSimpArgs false   -- some simp arguments fire only for other spellings of the C++
namespace Bridge.Time
open Gen.Time

theorem clamp_eq (v lo hi : Int) : clamp v lo hi = Tm.clamp v lo hi := by
  -- `rfl` for the present spelling; `grind` also takes one with comparisons
  unfold clamp Tm.clamp
  grind

/-- the base slice for one colour (`time`, `inc` = that colour's clock and increment) -/
theorem base_eq (self : EngineControl) (time inc movesToGo buffer maxRem : Int)
    (ht : 0 ≤ time) (hi : 0 ≤ inc) (hmtg : 0 ≤ movesToGo) (hrem : 1 ≤ maxRem)
    (b : Int × Int × Int × Int × EngineControl)
    (hb : b = timeLimit_base self inc time movesToGo inc time buffer true maxRem ∨
          b = timeLimit_base self inc time movesToGo inc time buffer false maxRem) :
    let moves := min (if movesToGo = 0 then 999 else movesToGo) maxRem
    let margin := min buffer (time * 9 / 10)
    let tl := (time + inc * (moves - 1) - margin) / moves
    b = (moves, time, margin, tl, { self with minTimeLimit := tl }) := by
  -- `hb`: one proof for both colours (the caller passes the mover's clock for white and black alike).
  -- Each projection: truncating `/` is `Int`'s `/` because the dividend is ≥ 0 (`hprod`, `hmar`).
  intro moves margin tl
  have hmoves : 1 ≤ moves := by simp only [moves]; split <;> omega
  have hprod : 0 ≤ inc * (moves - 1) := Int.mul_nonneg hi (by omega)
  have hmar : margin ≤ time := by simp only [margin]; omega
  -- Gen's `moves`, whatever its spelling, is the model's
  have g1 : b.1 = moves := by
    rcases hb with rfl | rfl <;> simp only [timeLimit_base, beq_iff_eq, moves] <;> (repeat' split) <;> omega
  have g2 : b.2.1 = time := by
    rcases hb with rfl | rfl <;> simp [timeLimit_base]
  have g3 : b.2.2.1 = margin := by
    rcases hb with rfl | rfl <;>
      simp (disch := omega) [timeLimit_base, margin, Int.tdiv_eq_ediv_of_nonneg]
  have g4 : b.2.2.2.1 = tl := by
    rcases hb with rfl | rfl <;> (
      simp only [timeLimit_base, beq_iff_eq, Bool.false_eq_true, if_true, if_false] at g1 g3 ⊢
      simp only [g1, g3]
      exact Int.tdiv_eq_ediv_of_nonneg (by omega))
  have g5 : b.2.2.2.2 = { self with minTimeLimit := b.2.2.2.1 } := by
    rcases hb with rfl | rfl <;> simp only [timeLimit_base]
  rw [g4] at g5
  obtain ⟨b1, b2, b3, b4, b5⟩ := b
  simp only at g1 g2 g3 g4 g5
  rw [g1, g2, g3, g4, g5]

/-- Clock branch of `computeTimeLimit`: regenerated integer slices + abstracted floating-point middle = `Tm.alloc`. -/
theorem computeTimeLimit_eq (self : EngineControl) (bInc bTime movesToGo wInc wTime buffer maxRem : Int) (white : Bool)
    (bonus : Int) (scale : Int → Int)
    (hw : 0 ≤ wTime) (hb : 0 ≤ bTime) (hwi : 0 ≤ wInc) (hbi : 0 ≤ bInc) (hmtg : 0 ≤ movesToGo) (hrem : 1 ≤ maxRem) :
    let b := timeLimit_base self bInc bTime movesToGo wInc wTime buffer white maxRem
    let time := if white then wTime else bTime
    let inc := if white then wInc else bInc
    let mid : EngineControl := { b.2.2.2.2 with minTimeLimit := b.2.2.2.2.minTimeLimit + bonus,
                                                 maxTimeLimit := scale (b.2.2.2.2.minTimeLimit + bonus) }
    let r := timeLimit_clamp mid b.2.1 b.2.2.1
    r.minTimeLimit = (Tm.alloc time inc movesToGo maxRem buffer bonus scale).soft ∧
    r.maxTimeLimit = (Tm.alloc time inc movesToGo maxRem buffer bonus scale).hard := by
  intro b time inc mid r
  have hbase : b = _ := base_eq self time inc movesToGo buffer maxRem
    (by simp only [time]; split <;> assumption) (by simp only [inc]; split <;> assumption) hmtg hrem b
    (by cases white <;> simp [b, time, inc, timeLimit_base])
  simp only [r, mid, timeLimit_clamp, clamp_eq, hbase, Tm.alloc, and_self]
end Bridge.Time
