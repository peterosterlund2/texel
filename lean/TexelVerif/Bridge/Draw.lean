import TexelVerif.Generated.Draw
import TexelVerif.Draw.RepScan
/-!
# Bridge: `Search::canClaimDrawRep` / `canClaimDraw50` regenerated from search.hpp ≍ `TexelVerif/Draw/RepScan.lean`

The generated definitions take the position's observers (`pos.getHalfMoveClock()`, `pos.zobristHash()`) and the hash
list (`Nat → BitVec 64`) as explicit parameters.  The loop helper is proved equal to the hand model's `Rep.loop` by
induction on the fuel, for every fuel that covers the distance from `i` to `stop`; hence termination of the C++ loop.
-/
set_option linter.unusedSimpArgs false   -- some simp arguments fire only for other spellings of the C++
namespace Bridge.Draw
open Gen.Draw

/-- `posHashList[i]`: the `int` index converted to `size_t` is the index itself when `0 ≤ i` -/
theorem ofInt_toNat (i : Int) (h0 : 0 ≤ i) (h1 : i < 2^63) : (BitVec.ofInt 64 i).toNat = i.toNat := by
  simp only [BitVec.toNat_ofInt]
  omega

/-- `f0`: the translator's unused record of the initial fuel.  `fuel` (generated loop) and `fm` (hand model) each only have
    to cover the way from `i` down to `stop` in steps of 2. -/
theorem loop_eq (f0 : Nat) (zh : BitVec 64) (hl : Nat → BitVec 64) (firstNew stop : Int) (hstop : 0 ≤ stop) :
    ∀ (fuel fm : Nat) (i : Int) (r : Nat), 1 ≤ fuel → i + 2 < stop + 2 * fuel → i < stop + 2 * fm → i < 2^63 →
      canClaimDrawRep.loop1 f0 zh hl firstNew stop fuel (r : Int) i
        = some (Rep.loop (fun j => (hl j).toNat) stop firstNew zh.toNat fm i r) := by
  intro fuel
  induction fuel with
  | zero => intro fm i r h; omega
  | succ k ih =>
    intro fm i r _ hf hm hi
    unfold canClaimDrawRep.loop1
    by_cases hlt : i < stop
    · cases fm <;> simp [Rep.loop, hlt] <;> omega
    · obtain ⟨m, rfl⟩ : ∃ m, fm = m + 1 := ⟨fm - 1, by omega⟩
      have hk : 1 ≤ k := by omega
      have e := ofInt_toNat i (by omega) hi
      have ih1 := ih m (i - 2) r hk (by omega) (by omega) (by omega)
      have ih2 := ih m (i - 2) (r + 1) hk (by omega) (by omega) (by omega)
      have ec : ((r + 1 : Nat) : Int) = (r : Int) + 1 := by omega
      rw [ec] at ih2
      have ez : ((hl i.toNat).toNat = zh.toNat) ↔ (zh = hl i.toNat) := by
        rw [BitVec.toNat_inj]; exact eq_comm
      simp only [Rep.loop, e, ih1, ih2, ez]
      grind

/-- `Search::canClaimDrawRep`, regenerated from the source, terminates within `size + 1` iterations and computes the
    hand model `Rep.canClaimDrawRep` (about which `Rep.loop_eq` gives the declarative characterisation). -/
theorem canClaimDrawRep_eq (fuel : Nat) (hmc : Int) (zh : BitVec 64) (hl : Nat → BitVec 64) (size firstNew : Int)
    (hsize : size < 2^31) (hfuel : size.toNat + 1 ≤ fuel) :
    canClaimDrawRep fuel hmc zh hl size firstNew
      = some (Rep.canClaimDrawRep (fun j => (hl j).toNat) size hmc firstNew zh.toNat) := by
  have hstop : (0 : Int) ≤ max 0 (size - hmc) := Int.le_max_left _ _
  have := loop_eq fuel zh hl firstNew (max 0 (size - hmc)) hstop fuel (size.toNat + 1) (size - 4) 0
    (by omega) (by omega) (by omega) (by omega)
  simpa [canClaimDrawRep, Rep.canClaimDrawRep] using this

/-- `Search::canClaimDraw50`: the half-move clock has reached 100 -/
theorem canClaimDraw50_eq (hmc : Int) : canClaimDraw50 hmc = decide (100 ≤ hmc) := by
  simp [canClaimDraw50]

end Bridge.Draw
