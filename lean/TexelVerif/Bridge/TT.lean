import TexelVerif.Generated.TT
import TexelVerif.TT.Table
import TexelVerif.Util.BitVecLemmas
/-!
# Bridge: transposition-table kernels regenerated from the C++ source ≍ the hand models of `TexelVerif/TT`

`Gen.TT.*` (file `Generated/TT.lean`) is rewritten by `tools/cxx2lean.py` from /repo's current
`transpositionTable.hpp/.cpp` + `constants.hpp` on every run of the check.  Every theorem below states that a
generated kernel computes the same function as the hand model the C08 theorems are about, so a semantic change of a
kernel in the C++ source makes this file fail to compile (no sampling involved).

The proofs unfold both sides and leave the comparison to automation (`simp`, `omega`, `split`, `grind`), so renamings,
`x += 1` vs `x = x + 1`, reordered independent statements etc. do not break them.

The equations hold for all arguments of the *generated* definitions; the generated definitions are faithful to the
C++ only where the `OBLIGATIONS` listed in their doc comments hold (shift amounts in range, no signed overflow):
for the field kernels `0 ≤ first`, `0 ≤ size`, `first + size ≤ 64`; for the score kernels `|score|,|ply| < 2^30`.
-/
set_option linter.unusedSimpArgs false   -- some simp arguments fire only for other spellings of the C++
namespace Bridge.TT
open Gen.TT

theorem getBits_eq (self : TTEntry) (first size : Int) :
    getBits self first size = TT.getBits self.data first.toNat size.toNat := by
  simp only [getBits, TT.getBits, TT.fieldMask, Util.one_shl_sub_one]

theorem setBits_eq (self : TTEntry) (first size : Int) (v : BitVec 32) :
    setBits self first size v = { self with data := TT.setBits self.data first.toNat size.toNat v } := by
  simp only [setBits, TT.setBits, TT.mask, TT.fieldMask, Util.one_shl_sub_one]

theorem isWinScore_eq (s : Int) : isWinScore s = TT.isWinScore s := by
  simp [isWinScore, TT.isWinScore]

theorem isLoseScore_eq (s : Int) : isLoseScore s = TT.isLoseScore s := by
  simp [isLoseScore, TT.isLoseScore]

theorem getScore_eq (self : TTEntry) (ply : Int) : getScore self ply = TT.getScore self.data ply := by
  simp only [getScore, TT.getScore, TT.fromStored, TT.rawScore, getBits_eq, isWinScore_eq, isLoseScore_eq]
  split <;> simp_all

theorem setScore_eq (self : TTEntry) (score ply : Int) :
    setScore self score ply = { self with data := TT.setScore self.data score ply } := by
  simp only [setScore, TT.setScore, TT.toStored, setBits_eq, isWinScore_eq, isLoseScore_eq]
  split <;> simp_all

/-! ### field getters used by `isCutOff` / `betterThan` (translated because the kernels call them) -/

/-- a field of at most 31 bits read through `getBits` is the same number as C `int` and as `Nat` -/
theorem field_toInt (d : BitVec 64) (f s : Nat) (hs : s < 32) :
    (TT.getBits d f s).toInt = ((TT.getBits d f s).toNat : Int) := by
  have hlt : (TT.getBits d f s).toNat < 2^s := by
    simp only [TT.getBits, TT.fieldMask, BitVec.toNat_setWidth, BitVec.toNat_and, BitVec.toNat_ofNat]
    have h1 : (2^s - 1) % 2^64 = 2^s - 1 := Nat.mod_eq_of_lt (by
      have : 2^s < 2^64 := Nat.pow_lt_pow_right (by omega) (by omega)
      omega)
    rw [h1]
    have h2 : (d >>> f).toNat &&& (2^s - 1) ≤ 2^s - 1 := Nat.and_le_right
    have h0 : 0 < 2^s := Nat.two_pow_pos s
    have : ((d >>> f).toNat &&& (2^s - 1)) % 2^32 ≤ (d >>> f).toNat &&& (2^s - 1) := Nat.mod_le _ _
    omega
  have h31 : 2^s ≤ 2^31 := Nat.pow_le_pow_right (by omega) (by omega)
  simp only [BitVec.toInt_eq_toNat_bmod]
  exact Int.bmod_eq_of_le (by omega) (by omega)

theorem getDepth_eq (self : TTEntry) : getDepth self = (TT.getDepth self.data : Int) := by
  simp [getDepth, TT.getDepth, getBits_eq, field_toInt]

theorem getType_eq (self : TTEntry) : getType self = (TT.getType self.data : Int) := by
  simp [getType, TT.getType, getBits_eq, field_toInt]

theorem getGeneration_eq (self : TTEntry) : getGeneration self = (TT.getGeneration self.data : Int) := by
  simp [getGeneration, TT.getGeneration, getBits_eq, field_toInt]

theorem isCutOff_eq (self : TTEntry) (alpha beta ply depth : Int) :
    isCutOff self alpha beta ply depth = TT.isCutOff self.data alpha beta ply depth := by
  simp only [isCutOff, TT.isCutOff, getScore_eq, getDepth_eq, getType_eq, isWinScore_eq, isLoseScore_eq,
    TT.T_EXACT, TT.T_GE, TT.T_LE]
  rw [Bool.eq_iff_iff]
  grind

theorem betterThan_eq (self other : TTEntry) (currGen : Nat) :
    betterThan self other currGen = TT.betterThan self.data other.data currGen := by
  simp only [betterThan, TT.betterThan, getDepth_eq, getType_eq, getGeneration_eq, TT.T_EXACT]
  rw [Bool.eq_iff_iff]
  grind

/-- Under the invariant `setUsedSize` establishes (`top < 256`, `top * 2^shift < 2^64`) the C++ 64-bit computation
    never wraps and equals the hand model on naturals. -/
theorem getIndex_eq (self : TranspositionTable) (key : BitVec 64) (t s : Nat)
    (ht : self.usedSizeTopBits = t) (hs : self.usedSizeShift = s) (htop : t < 256) (hfit : t * 2 ^ s < 2^64) :
    (getIndex self key).toNat = TT.getIndex ⟨t, s, self.usedSizeMask.toNat⟩ key.toNat := by
  have hk : key.toNat >>> 48 < 2^16 := by
    have := key.isLt
    rw [Nat.shiftRight_eq_div_pow]; omega
  have hprod : (key.toNat >>> 48) * t < 2^24 := by
    calc (key.toNat >>> 48) * t < 2^16 * 256 := Nat.mul_lt_mul'' hk htop
      _ = 2^24 := by decide
  have hr : ((key.toNat >>> 48) * t) >>> 16 ≤ t := by
    rw [Nat.shiftRight_eq_div_pow]
    apply Nat.div_le_of_le_mul
    exact Nat.mul_le_mul_right t (Nat.le_of_lt hk)
  have e2 : ((t : Int) % ((2^64 : Nat) : Int)).toNat = t := by
    have : ((2^64 : Nat) : Int) = 18446744073709551616 := by simp
    rw [this]; omega
  have e3 : (key.toNat >>> 48 * t) % 2^64 = key.toNat >>> 48 * t := Nat.mod_eq_of_lt (by omega)
  have e4 : ((key.toNat >>> 48 * t) >>> 16 <<< s) % 2^64 = (key.toNat >>> 48 * t) >>> 16 <<< s := by
    apply Nat.mod_eq_of_lt
    rw [Nat.shiftLeft_eq]
    calc _ ≤ t * 2^s := Nat.mul_le_mul_right _ hr
      _ < 2^64 := hfit
  simp only [getIndex, TT.getIndex, ht, hs, BitVec.toNat_or, BitVec.toNat_and, BitVec.toNat_shiftLeft, BitVec.toNat_ushiftRight,
    BitVec.toNat_mul, BitVec.toNat_ofInt, Int.toNat_natCast, Int.reduceSub, Int.reduceToNat, e2, e3, e4]

/-- the record `setUsedSize` leaves behind, in terms of the hand model's loop result `(top, shift)` -/
def usedOf (self : TranspositionTable) (r : Nat × Nat) : TranspositionTable :=
  { self with usedSizeShift := (r.2 : Int), usedSizeTopBits := (r.1 : Int), usedSizeMask := BitVec.ofNat 64 (TT.lowMask r.2) }

theorem mask_eq (s : Nat) : ((1#64 <<< s) - 1#64) &&& ~~~3#64 = BitVec.ofNat 64 (TT.lowMask s) := by
  rw [Util.one_shl_sub_one]
  apply BitVec.eq_of_toNat_eq
  simp only [TT.lowMask, BitVec.toNat_and, BitVec.toNat_ofNat, BitVec.toNat_not]
  have e : 2 ^ 64 - 1 - 3 % 2 ^ 64 = (2^64 - 1 - 3) % 2^64 := by decide
  rw [e, ← Nat.and_mod_two_pow]

theorem setUsedSize_loop (f0 : Nat) : ∀ (fuel : Nat) (self : TranspositionTable) (tb : BitVec 64) (sh : Nat),
    self.usedSizeShift = sh → tb.toNat < 2^(fuel+8) →
    setUsedSize.loop1 f0 (fuel+1) self tb = some (usedOf self (TT.topBitsLoop fuel tb.toNat sh)) := by
  intro fuel
  induction fuel with
  | zero =>
    intro self tb sh hs hlt
    have h256 : ¬ (256 ≤ tb.toNat) := by omega
    have hm := mask_eq sh
    simp [setUsedSize.loop1, TT.topBitsLoop, usedOf, BitVec.le_def, h256, hs] at hm ⊢
    exact ⟨hm, Int.bmod_eq_of_le (by omega) (by omega)⟩
  | succ n ih =>
    intro self tb sh hs hlt
    have hpow : 2^(n+1+8) = 2 * 2^(n+8) := by rw [show n+1+8 = (n+8)+1 by omega, Nat.pow_succ]; omega
    unfold setUsedSize.loop1 TT.topBitsLoop
    by_cases h : 256 ≤ tb.toNat
    · simp only [ge_iff_le, BitVec.le_def, BitVec.toNat_ofNat, Nat.reducePow, Nat.reduceMod, h, decide_true, if_true]
      rw [ih _ _ (sh+1) (by simp [hs]) (by simp [Nat.shiftRight_eq_div_pow]; omega)]
      simp [usedOf, Nat.shiftRight_eq_div_pow]
    · have hm := mask_eq sh
      simp [usedOf, BitVec.le_def, h, hs] at hm ⊢
      exact ⟨hm, Int.bmod_eq_of_le (by omega) (by omega)⟩

/-- `setUsedSize` terminates (65 units of fuel suffice for every 64-bit size) and leaves exactly the hand model's
    `Used` record; `usedSize` is the argument, every other field is untouched. -/
theorem setUsedSize_eq (self : TranspositionTable) (s : BitVec 64) :
    setUsedSize 65 self s =
      some { self with usedSize := s, usedSizeShift := ((TT.setUsedSize s.toNat).shift : Int),
                       usedSizeTopBits := ((TT.setUsedSize s.toNat).top : Int),
                       usedSizeMask := BitVec.ofNat 64 (TT.setUsedSize s.toNat).mask } := by
  have hlt : s.toNat < 2^(64+8) := by have := s.isLt; omega
  have := setUsedSize_loop 65 64 { self with usedSize := s, usedSizeShift := 0 } s 0 rfl hlt
  simp only [setUsedSize, this, usedOf, TT.setUsedSize]

/-- Composition: the index computed by the regenerated `getIndex` on the state left by the regenerated
    `setUsedSize n` is the hand model's index, hence (Props.C08.index_ok) 4-aligned and in range for `n ≥ 512`. -/
theorem getIndex_after_setUsedSize (self self' : TranspositionTable) (n key : BitVec 64) (hn : 512 ≤ n.toNat)
    (h : setUsedSize 65 self n = some self') :
    (getIndex self' key).toNat = TT.getIndex (TT.setUsedSize n.toNat) key.toNat ∧
    (getIndex self' key).toNat % 4 = 0 ∧ (getIndex self' key).toNat + 3 < n.toNat := by
  rw [setUsedSize_eq] at h
  injection h with h
  subst h
  have hmax : n.toNat < 2^72 := by have := n.isLt; omega
  have ls := TT.loop_spec 64 n.toNat 0 (by simpa using hmax)
  obtain ⟨h1, _, h3, _, _, _⟩ := ls
  simp only [Nat.sub_zero] at h3
  have hm : TT.lowMask (TT.topBitsLoop 64 n.toNat 0).2 < 2^64 := by
    unfold TT.lowMask
    exact Nat.lt_of_le_of_lt Nat.and_le_right (by decide)
  have e := getIndex_eq
    { self with usedSize := n, usedSizeShift := ((TT.setUsedSize n.toNat).shift : Int),
                usedSizeTopBits := ((TT.setUsedSize n.toNat).top : Int),
                usedSizeMask := BitVec.ofNat 64 (TT.setUsedSize n.toNat).mask } key
    (TT.setUsedSize n.toNat).top (TT.setUsedSize n.toNat).shift rfl rfl
    (by simpa [TT.setUsedSize] using h1)
    (by have := n.isLt; simp only [TT.setUsedSize]; omega)
  have e' : (BitVec.ofNat 64 (TT.setUsedSize n.toNat).mask).toNat = (TT.setUsedSize n.toNat).mask := by
    simp only [TT.setUsedSize, BitVec.toNat_ofNat]; exact Nat.mod_eq_of_lt hm
  simp only [e'] at e
  have ok := TT.index_ok n.toNat key.toNat hn hmax key.isLt
  exact ⟨e, by rw [e]; exact ok.1, by rw [e]; exact ok.2⟩

/-- `TranspositionTable::updateTB` hosts an on-demand tablebase only if at least 2 MiB of hash table remain: the size guard
    regenerated from the source (`ttSize < tbSize + 2*1024*1024` ⇒ no table) leaves, when it lets the generation through,
    `(ttSize − tbSize) / 16 ≥ 131072` entries for ordinary hash entries — in particular more than the 512 entries that
    `index_ok` needs, so hash entries and table bytes never share a bucket. -/
theorem updateTB_leaves_room (ttSize : BitVec 64)
    (h : updateTB_tooSmall ttSize updateTB_tbSize = false) :
    updateTB_tbSize = 5242880 ∧ 5242880 + 2097152 ≤ ttSize.toNat ∧ 131072 ≤ (ttSize.toNat - 5242880) / 16 := by
  have ht : updateTB_tbSize = 5242880 := by decide
  refine ⟨ht, ?_⟩
  rw [ht] at h
  simp only [updateTB_tooSmall, decide_eq_false_iff_not, BitVec.not_lt] at h
  have h2 : (BitVec.ofInt 64 ((5242880 : Int) + (((2 : Int) * (1024 : Int)) * (1024 : Int)))).toNat = 7340032 := by decide
  have h3 : 7340032 ≤ ttSize.toNat := by
    have := BitVec.le_def.mp h
    omega
  exact ⟨by omega, by omega⟩

end Bridge.TT
