import TexelVerif.Generated.Bits
/-!
# Bridge: `BitUtil::firstBit` / `BitUtil::lastBit` (bitBoard.hpp, the table-driven variant compiled when `USE_CTZ` is
off, i.e. the `plain` build) and `Piece::isWhite / makeWhite / makeBlack`, regenerated from the source

The de-Bruijn tables `trailingZ` / `lastBitTable` are extracted from their initialisers in bitBoard.cpp.  The theorems
are functional correctness for **every** 64-bit mask: `firstBit m` is the index of the lowest set bit, `lastBit m` the
index of the highest one.  Proof: `m & -m` (resp. the or-shift chain) depends only on that index (bit-level lemmas),
and the 64 possible indices are checked by `decide` on the generated definitions.
(`Csp.lowest_spec` / `Csp.highest`-style hypotheses have exactly the shape required here.)
-/
set_option linter.unusedSimpArgs false   -- some simp arguments fire only for other spellings of the C++
namespace Bridge.Bits
open Gen.Bits

/-! ### `BitUtil::firstBit`: isolate the lowest set bit with `m & -m`, multiply, look up -/

theorem and_neg_eq_twoPow (m : BitVec 64) (i : Nat) (hi : i < 64) (hset : m.getLsbD i = true)
    (hlow : ∀ j, j < i → m.getLsbD j = false) : m &&& -m = BitVec.twoPow 64 i := by
  apply BitVec.eq_of_getLsbD_eq
  intro j hj
  simp only [BitVec.getLsbD_and, BitVec.getLsbD_neg, BitVec.getLsbD_twoPow, hj, hi, decide_true, Bool.true_and]
  rcases Nat.lt_trichotomy j i with h | h | h
  · have : ¬ i = j := by omega
    simp [hlow j h, this]
  · subst h
    have : ¬ ∃ k, k < j ∧ m.getLsbD k = true := by
      rintro ⟨k, hk, hk'⟩; rw [hlow k hk] at hk'; cases hk'
    simp [hset, this]
  · have : ∃ k, k < j ∧ m.getLsbD k = true := ⟨i, h, hset⟩
    have ne : ¬ i = j := by omega
    simp [this, ne]

theorem firstBit_twoPow : ∀ i : Fin 64, firstBit (BitVec.twoPow 64 i.val) = (i.val : Int) := by decide +kernel

/-- `BitUtil::firstBit` returns the index of the lowest set bit, for every non-zero 64-bit mask. -/
theorem firstBit_eq (m : BitVec 64) (i : Nat) (hi : i < 64) (hset : m.getLsbD i = true)
    (hlow : ∀ j, j < i → m.getLsbD j = false) : firstBit m = (i : Int) := by
  have e1 := and_neg_eq_twoPow m i hi hset hlow
  have e2 := and_neg_eq_twoPow (BitVec.twoPow 64 i) i hi (by simp [BitVec.getLsbD_twoPow, hi])
    (by intro j hj; simp [BitVec.getLsbD_twoPow]; omega)
  have t := firstBit_twoPow ⟨i, hi⟩
  simp only [firstBit, e1, e2] at t ⊢
  exact t

/-! ### `BitUtil::lastBit`: smear the highest set bit downwards, multiply, look up -/
def Cover (m : BitVec 64) (n j : Nat) : Prop := ∃ k, j ≤ k ∧ k < j + n ∧ m.getLsbD k = true

theorem cover_one (m : BitVec 64) (j : Nat) : m.getLsbD j = true ↔ Cover m 1 j := by
  unfold Cover
  constructor
  · intro h; exact ⟨j, by omega, by omega, h⟩
  · rintro ⟨k, h1, h2, h3⟩
    have : k = j := by omega
    subst this; exact h3

theorem cover_step (m x : BitVec 64) (n : Nat) (hx : ∀ j, x.getLsbD j = true ↔ Cover m n j) :
    ∀ j, (x ||| (x >>> n)).getLsbD j = true ↔ Cover m (n + n) j := by
  intro j
  simp only [BitVec.getLsbD_or, BitVec.getLsbD_ushiftRight, Bool.or_eq_true, hx, Cover]
  constructor
  · rintro (⟨k, h1, h2, h3⟩ | ⟨k, h1, h2, h3⟩)
    · exact ⟨k, h1, by omega, h3⟩
    · exact ⟨k, by omega, by omega, h3⟩
  · rintro ⟨k, h1, h2, h3⟩
    by_cases hk : k < j + n
    · exact Or.inl ⟨k, h1, hk, h3⟩
    · exact Or.inr ⟨k, by omega, by omega, h3⟩

/-- the smearing chain of `lastBit`, as it is spelled in the C++ -/
def smear (m : BitVec 64) : BitVec 64 :=
  let m := m ||| (m >>> 1)
  let m := m ||| (m >>> 2)
  let m := m ||| (m >>> 4)
  let m := m ||| (m >>> 8)
  let m := m ||| (m >>> 16)
  m ||| (m >>> 32)

theorem smear_bits (m : BitVec 64) (j : Nat) : (smear m).getLsbD j = true ↔ Cover m 64 j := by
  have s1 := cover_step m _ 1 (cover_one m)
  have s2 := cover_step m _ 2 s1
  have s3 := cover_step m _ 4 s2
  have s4 := cover_step m _ 8 s3
  have s5 := cover_step m _ 16 s4
  have s6 := cover_step m _ 32 s5
  exact s6 j

theorem lastBit_twoPow : ∀ i : Fin 64, lastBit (BitVec.twoPow 64 i.val) = (i.val : Int) := by decide +kernel

theorem cover_top (m : BitVec 64) (h : Nat) (hh : h < 64) (hset : m.getLsbD h = true)
    (hhigh : ∀ j, h < j → m.getLsbD j = false) (j : Nat) : Cover m 64 j ↔ j ≤ h := by
  unfold Cover
  constructor
  · rintro ⟨k, h1, _, h3⟩
    by_cases hk : h < k
    · rw [hhigh k hk] at h3; cases h3
    · omega
  · intro hj
    exact ⟨h, hj, by omega, hset⟩

/-- `BitUtil::lastBit` returns the index of the highest set bit, for every non-zero 64-bit mask. -/
theorem lastBit_eq (m : BitVec 64) (h : Nat) (hh : h < 64) (hset : m.getLsbD h = true)
    (hhigh : ∀ j, h < j → m.getLsbD j = false) : lastBit m = (h : Int) := by
  have e : smear m = smear (BitVec.twoPow 64 h) := by
    apply BitVec.eq_of_getLsbD_eq
    intro j _
    rw [Bool.eq_iff_iff, smear_bits, smear_bits, cover_top m h hh hset hhigh,
      cover_top (BitVec.twoPow 64 h) h hh (by simp [BitVec.getLsbD_twoPow, hh])
        (by intro j hj; simp [BitVec.getLsbD_twoPow]; omega)]
  have t := lastBit_twoPow ⟨h, hh⟩
  have shr_or : ∀ (x y : BitVec 64) (n : Nat), (x >>> n) ||| y = y ||| (x >>> n) := fun x y n => BitVec.or_comm _ _
  have u : ∀ x, lastBit x = BitUtil_lastBitTable.getD ((smear x * 285870213051386505#64) >>> 58).toNat 0 := by
    intro x; simp only [lastBit, smear, shr_or]
  rw [u] at t ⊢
  rw [e]; exact t

/-! ### `Piece` colour arithmetic (enumerators of `Piece::Type` taken from piece.hpp) -/

theorem isWhite_eq (p : Int) : isWhite p = decide (p < 7) := by
  simp [isWhite]

/-- white piece codes are 1..6, black ones 7..12; `makeBlack`/`makeWhite` shift by 6 and are mutually inverse there -/
theorem makeBlack_white (p : Int) (h1 : 1 ≤ p) (h2 : p ≤ 6) : makeBlack p = p + 6 ∧ makeWhite (makeBlack p) = p := by
  simp only [makeBlack, makeWhite]
  constructor <;> (repeat' split) <;> simp_all <;> omega

theorem makeWhite_black (p : Int) (h1 : 7 ≤ p) (h2 : p ≤ 12) : makeWhite p = p - 6 ∧ makeBlack (makeWhite p) = p := by
  simp only [makeBlack, makeWhite]
  constructor <;> (repeat' split) <;> simp_all <;> omega

theorem makeWhite_white (p : Int) (h2 : p ≤ 6) : makeWhite p = p := by
  simp only [makeWhite]; split <;> simp_all <;> omega

theorem makeBlack_black_or_empty (p : Int) (h : p ≤ 0 ∨ 7 ≤ p) : makeBlack p = p := by
  simp only [makeBlack]; split <;> simp_all <;> omega

end Bridge.Bits
