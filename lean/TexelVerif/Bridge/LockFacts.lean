import TexelVerif.Conc.LockPairs
import TexelVerif.Generated.LockFacts
/-! Property C09, static tie: the protection discipline that `Conc/Access.lean` assigns to the shared locations of the thread
    layer holds at every access site of the CURRENT C++ source.  `Gen.LockFacts.*` is regenerated from the source by
    tools/locktie.py on every run of `./check C09`; each theorem is a `decide` over those finite tables (the quantifier
    "every access site" is the generated list).  What the extractor computes and what stays trusted: notes/C09.md. -/
namespace Bridge.LockFacts
open Conc Conc.LockTie Gen.LockFacts

/-- (i) every access site respects the discipline of its location: `guarded M` — M (of the same object) is held;
    `wguarded M` — every write holds M; `owned` / `setup` / `quiesced` — the site is in one of the functions the table lists. -/
theorem lock_discipline_guarded : badDiscipline groups = [] := by decide +kernel

/-- (iii) every location the model treats as atomic (`Loc.atomic`: regs, ttData; plus `WorkerThread::terminate`) is declared
    `std::atomic<…>` / `RelaxedShared<…>` and has that type at every access site. -/
theorem atomics_are_atomic : badAtomic groups = [] := by decide +kernel

/-- (iv) the table and the source list the same members: every non-const data member of Notifier / Communicator /
    ThreadCommunicator / WorkerThread / EngineMainThread / ThreadPool has a row, every row is a member of the source, every
    access site belongs to a row, every lexically checked row has at least one site, and every location constructor of
    `Conc.Loc` is realised by at least one row. -/
theorem access_table_complete :
    tableGaps groups completeClasses = [] ∧ staleRows groups = [] ∧ uncoveredKinds = [] ∧
    classesWithoutMembers groups completeClasses = [] := by decide +kernel

/-- the kinds of the table cover `Conc.Loc`, with the same atomicity, for every number of threads -/
theorem loc_kinds_cover {n : Nat} (l : Loc n) :
    SKind.ofLoc l ∈ modelKinds ∧
    (l.atomic = true ↔ ∀ r ∈ rows, r.kind = SKind.ofLoc l → r.disc = .atomic) := by
  cases l <;> simp only [Loc.atomic, SKind.ofLoc] <;> decide

/-- every locked access in the model's access lists (`Conc.acc`) is one of six (location kind, mutex) pairs -/
theorem acc_locked_pairs {n : Nat} (r : Fin n) (s : St n) (e : Ev n) :
    ∀ a ∈ acc r s e, ∀ k, a.lock = some k → (SKind.ofLoc a.loc, lockName k) ∈ lockedPairs :=
  acc_lockOk r s e

/-- the mutex that the model's access list names for a location is the mutex the table demands at the C++ sites of every
    member realising that location (so `lock_discipline_guarded` is about the model's lock, not merely about some lock) -/
theorem model_lock_is_table_lock {n : Nat} (r : Fin n) (s : St n) (e : Ev n) (a : Acc n) (k : Conc.Lock n)
    (ha : a ∈ acc r s e) (hk : a.lock = some k) :
    ∀ row ∈ rows, row.kind = SKind.ofLoc a.loc → row.mutex? = none ∨ row.mutex? = some (lockName k) := by
  have h := acc_locked_pairs r s e a ha k hk
  have all : ∀ p ∈ lockedPairs, ∀ row ∈ rows, row.kind = p.1 → row.mutex? = none ∨ row.mutex? = some p.2 := by decide +kernel
  exact all _ h

end Bridge.LockFacts
