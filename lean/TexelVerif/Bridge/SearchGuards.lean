import TexelVerif.Generated.SearchGuards
import TexelVerif.Score.Claims
/-!
# Bridge: the guards and score clamps of `Search::negaScout` / `Search::quiesce`, regenerated from search.cpp

`Generated/SearchGuards.lean` holds, for every pruning / override / terminal site of the two search functions, the
*condition expression* of the `if` that guards it and (where it is straight-line code) the value and bound type it
returns, as Lean definitions over the free variables of that code (tools/kernels.json, entries with `"site"`).
This file proves, for each site whose rule has a side condition, that the regenerated guard (or returned value) implies the
side condition under which the matching rule of the claim calculus (`Score/Claims.lean`) is sound.  The inner tests
`razorRetCond`, `revFutRetCond`, `nullCutCond`, `futPruneCond` have no theorem: they only decide *whether* the site returns.  The data flow *between* sites (that `normalBound` is computed
from the α, β of the node, that the value returned by `quiesce` outside check is ≥ its stand-pat value, which moves
reach the loop body) stays by reading (DESIGN.md Appendix A).

Hypotheses that are not guards of the code are explicit: `¬ isWin eval`, `¬ isLose eval` (static evaluations are not
mate scores) and `0 ≤ margin`.  `ply < 1000` stands for "a ply of the search stack"; any bound below `MATE0/2` would do.
-/
namespace Bridge.SearchGuards
open Gen.SearchGuards

theorem isWinScore_iff (s : Int) : isWinScore s = true ↔ Cl.isWin s := by
  simp [isWinScore, Cl.isWin, Cl.MATE0]

theorem isLoseScore_iff (s : Int) : isLoseScore s = true ↔ Cl.isLose s := by
  simp [isLoseScore, Cl.isLose, Cl.MATE0]

/-- `TType::T_EXACT / T_GE / T_LE` as bounds of the calculus -/
def boundOf (t : Int) : Option Cl.Bound :=
  if t = 1 then some .exact else if t = 2 then some .lower else if t = 3 then some .upper else none

theorem boundOf_exact : boundOf 1 = some .exact := by decide
theorem boundOf_lower : boundOf 2 = some .lower := by decide
theorem boundOf_upper : boundOf 3 = some .upper := by decide

theorem mdp_beta_le (beta ply : Int) :
    mdpBeta (beta := beta) (ply := ply) ≤ beta ∧ mdpBeta (beta := beta) (ply := ply) ≤ Cl.MATE0 - ply - 1 := by
  simp only [mdpBeta, Cl.MATE0]; omega

/-- the mate-distance cut returns α only when α is at least the best score any mate found from this ply could have:
    α is then a correct upper bound and, being a win score returned below the window, claims nothing -/
theorem mdp_sound (alpha beta : Int) (ply : Nat) (hab : alpha < beta)
    (h : mdpCut (alpha := alpha) (beta := mdpBeta (beta := beta) (ply := ply)) = true) :
    mdpRet (alpha := alpha) ≥ Cl.MATE0 - ply - 1 ∧
    ∀ s : Int, ∀ k : Nat, 1 ≤ k → (k : Int) = Cl.MATE0 - s - ply - 1 → s < mdpRet (alpha := alpha) := by
  have hc : alpha ≥ min beta (Cl.MATE0 - ply - 1) := by
    show alpha ≥ min beta ((32000 : Int) - ply - 1)
    simpa [mdpCut, mdpBeta] using h
  have := Cl.mdp_upper_correct alpha beta ply hab hc
  exact ⟨this.2, this.1⟩

theorem mdp_rule {P} (G : Cl.Game P) (p : P) (alpha beta : Int) (ply : Nat) (hply : ply < 1000) (hab : alpha < beta)
    (h : mdpCut (alpha := alpha) (beta := mdpBeta (beta := beta) (ply := ply)) = true) :
    Cl.Sound G p ply (mdpRet (alpha := alpha)) .upper ∧ Cl.NoClaim (-(mdpRet (alpha := alpha))) .lower :=
  Cl.sound_mdp G p ply _ (mdp_sound alpha beta ply hab h).1 hply

/-- the score of a node without legal moves that is in check, as the calculus' terminal rule wants it -/
theorem mated_score (ply : Int) : illegalScore (ply := ply) = -(Cl.MATE0 - (ply + 1)) := by simp [illegalScore, Cl.MATE0]

theorem bestScoreInit_eq (s : Int) : bestScoreInit (illegalScore := s) = s := rfl

theorem draw50_mated_ret (ply : Int) :
    (draw50MatedRet (ply := ply)).1 = -(Cl.MATE0 - (ply + 1)) ∧ boundOf (draw50MatedRet (ply := ply)).2 = some .exact := by
  simp [draw50MatedRet, Cl.MATE0, boundOf]

theorem mated_rule {P} (G : Cl.Game P) (p : P) (ply : Nat) (b : Cl.Bound) (hm : Cl.mated G p = true) (hply : ply < 1000) :
    Cl.Sound G p ply (illegalScore (ply := ply)) b ∧ Cl.Sound G p ply (draw50MatedRet (ply := ply)).1 b := by
  rw [mated_score, (draw50_mated_ret ply).1]
  have h := Cl.sound_mated_any G p ply b hm hply
  exact ⟨h, h⟩

/-- stalemate: only reached without legal moves and outside check; the score 0 claims nothing.  (Inside a singular
    search the site returns α as an upper bound; singular results never leave the node.) -/
theorem stale_sound (inCheck haveLegalMoves : Bool) (alpha : Int) (h : staleCond (inCheck := inCheck) (haveLegalMoves := haveLegalMoves) = true) :
    haveLegalMoves = false ∧ inCheck = false ∧ staleRet (alpha := alpha) (singularSearch := false) = (0, 1) ∧ staleRet (alpha := alpha) (singularSearch := true) = (alpha, 3) := by
  cases inCheck <;> cases haveLegalMoves <;> simp_all [staleCond, staleRet]

theorem stale_rule {P} (G : Cl.Game P) (p : P) (ply : Nat) (alpha : Int) :
    boundOf (staleRet (alpha := alpha) (singularSearch := false)).2 = some .exact ∧ Cl.Sound G p ply (staleRet (alpha := alpha) (singularSearch := false)).1 .exact := by
  refine ⟨by simp [staleRet, boundOf], ?_⟩
  exact Cl.sound_noClaim G p ply _ _ (Cl.noClaim_normal _ _ (by simp [staleRet, Cl.isWin, Cl.MATE0]) (by simp [staleRet, Cl.isLose, Cl.MATE0]))

theorem normalBound_iff (alpha beta : Int) : normalBound (alpha := alpha) (beta := beta) = true ↔ ¬ Cl.isLose alpha ∧ ¬ Cl.isWin beta := by
  rw [← isLoseScore_iff, ← isWinScore_iff]
  cases h1 : isLoseScore alpha <;> cases h2 : isWinScore beta <;> simp [normalBound, h1, h2]

theorem razor_guard_sound (alpha beta depth : Int) (inCheck singularSearch nb : Bool)
    (h : razorCond (alpha := alpha) (beta := beta) (depth := depth) (inCheck := inCheck) (singularSearch := singularSearch) (normalBound := nb) = true) :
    nb = true ∧ inCheck = false ∧ singularSearch = false ∧ beta = alpha + 1 := by
  cases nb <;> cases inCheck <;> cases singularSearch <;> simp_all [razorCond]

theorem razor_ret (score : Int) : (razorRet (score := score)).1 = score ∧ boundOf (razorRet (score := score)).2 = some .upper := by
  simp [razorRet, boundOf]

/-- …which claims nothing provided it is not a lose score (outside check `quiesce` returns at least its stand-pat
    value; `inCheck = false` is part of the guard) -/
theorem razor_rule {P} (G : Cl.Game P) (p : P) (ply : Nat) (score : Int) (hs : ¬ Cl.isLose score) :
    ∃ b, boundOf (razorRet (score := score)).2 = some b ∧ Cl.Sound G p ply (razorRet (score := score)).1 b :=
  ⟨.upper, (razor_ret score).2, by rw [(razor_ret score).1]; exact Cl.sound_razor G p ply score hs⟩

theorem revfut_guard_sound (depth : Int) (inCheck singularSearch nb : Bool) (h : revFutCond (depth := depth) (inCheck := inCheck) (singularSearch := singularSearch) (normalBound := nb) = true) :
    nb = true ∧ inCheck = false ∧ singularSearch = false := by
  cases nb <;> cases inCheck <;> cases singularSearch <;> simp_all [revFutCond]

theorem revfut_ret_not_win (evalScore margin : Int) (he : ¬ Cl.isWin evalScore) (hm : 0 ≤ margin) :
    ¬ Cl.isWin (revFutRet (evalScore := evalScore) (margin := margin)).1 ∧ boundOf (revFutRet (evalScore := evalScore) (margin := margin)).2 = some .lower := by
  simp only [revFutRet, boundOf, Cl.isWin, Cl.MATE0] at *
  exact ⟨by omega, boundOf_lower⟩

theorem revfut_rule {P} (G : Cl.Game P) (p : P) (ply : Nat) (evalScore margin : Int) (he : ¬ Cl.isWin evalScore) (hm : 0 ≤ margin) :
    ∃ b, boundOf (revFutRet (evalScore := evalScore) (margin := margin)).2 = some b ∧ Cl.Sound G p ply (revFutRet (evalScore := evalScore) (margin := margin)).1 b :=
  ⟨.lower, (revfut_ret_not_win evalScore margin he hm).2, Cl.sound_revfut G p ply _ (revfut_ret_not_win evalScore margin he hm).1⟩

/-- the null-move search is entered only when β is not a win score (and outside check, in a zero window) -/
theorem null_entry_sound (alpha beta depth : Int) (inCheck allowNull singularSearch : Bool)
    (h : nullEntryCond (alpha := alpha) (beta := beta) (depth := depth) (inCheck := inCheck) (sti_allowNullMove := allowNull) (singularSearch := singularSearch) = true) :
    ¬ Cl.isWin beta ∧ inCheck = false ∧ allowNull = true ∧ singularSearch = false ∧ beta = alpha + 1 := by
  rw [← isWinScore_iff]
  simp only [nullEntryCond] at h
  generalize isWinScore beta = w at h ⊢
  cases inCheck <;> cases allowNull <;> cases singularSearch <;> cases w <;> simp_all

theorem nullRet_eq_clamp (beta score : Int) : nullRet (beta := beta) (score := score) = (Cl.nullClamp score beta, 2) := by
  simp only [nullRet, Cl.nullClamp, isWinScore, Cl.MATE0]
  by_cases h : score > 16000 <;> simp [h]

/-- **the returned null-move score is never a win score** (given the entry guard) -/
theorem null_return_not_win (beta score : Int) (hb : ¬ Cl.isWin beta) : ¬ Cl.isWin (nullRet (beta := beta) (score := score)).1 := by
  rw [nullRet_eq_clamp]; exact Cl.nullClamp_not_win score beta hb

theorem null_rule {P} (G : Cl.Game P) (p : P) (ply : Nat) (alpha beta depth score : Int) (inCheck allowNull singularSearch : Bool)
    (h : nullEntryCond (alpha := alpha) (beta := beta) (depth := depth) (inCheck := inCheck) (sti_allowNullMove := allowNull) (singularSearch := singularSearch) = true) :
    ∃ b, boundOf (nullRet (beta := beta) (score := score)).2 = some b ∧ Cl.Sound G p ply (nullRet (beta := beta) (score := score)).1 b := by
  refine ⟨.lower, by rw [nullRet_eq_clamp]; exact boundOf_lower, ?_⟩
  rw [nullRet_eq_clamp]
  exact Cl.sound_null G p ply score beta (null_entry_sound alpha beta depth inCheck allowNull singularSearch h).1

/-- (why dropping `!isWinScore(beta)` alone changes nothing: the static-evaluation veto already excludes win β) -/
theorem null_beta_bounded_by_eval (beta evalScore : Int) (h : nullEvalVeto (beta := beta) (evalScore := evalScore) = false) (he : ¬ Cl.isWin evalScore) :
    ¬ Cl.isWin beta := by
  simp only [nullEvalVeto, decide_eq_false_iff_not, Cl.isWin, Cl.MATE0] at *; omega

theorem fut_guard_sound (depth : Int) (inCheck singularSearch nb : Bool) (h : futCond (depth := depth) (inCheck := inCheck) (singularSearch := singularSearch) (normalBound := nb) = true) :
    nb = true ∧ inCheck = false ∧ singularSearch = false := by
  cases nb <;> cases inCheck <;> cases singularSearch <;> simp_all [futCond]

theorem fut_score_not_lose (evalScore fs margin : Int) (he : ¬ Cl.isLose evalScore) (hm : 0 ≤ margin) :
    ¬ Cl.isLose (futScore (evalScore := evalScore) (futilityScore := fs) (margin := margin)) := by
  simp only [futScore, Cl.isLose, Cl.MATE0] at *; omega

theorem futMoveScore_eq (fs score : Int) : futMoveScore (futilityScore := fs) (score := score) = fs := rfl

theorem futSelect_spec (fp df : Bool) : futSelect (futilityPrune := fp) (doFutility := df) = (fp || df) := by cases fp <;> cases df <;> rfl

/-- moves are pruned (LMP or futility) only in pass 0 and only after a legal move has been searched: a node that
    reaches the end of the loop with `haveLegalMoves = false` really has no legal move -/
theorem prune_gate_sound (haveLegalMoves : Bool) (pass : Int) (mayReduce givesCheck ppp : Bool)
    (h : pruneGate (haveLegalMoves := haveLegalMoves) (pass := pass) (mayReduce := mayReduce) (givesCheck := givesCheck) (opq_passedPawnPush := ppp) = true) : haveLegalMoves = true ∧ pass = 0 ∧ givesCheck = false := by
  cases haveLegalMoves <;> cases givesCheck <;> cases mayReduce <;> simp_all [pruneGate]

/-- **late-move pruning skips a move only while `bestScore` is not a lose score** -/
theorem lmp_guard_sound (nb : Bool) (limit bestScore mi : Int) (h : lmpCond (normalBound := nb) (lmpMoveCountLimit := limit) (bestScore := bestScore) (mi := mi) = true) :
    nb = true ∧ ¬ Cl.isLose bestScore := by
  rw [← isLoseScore_iff]
  simp only [lmpCond] at h
  generalize isLoseScore bestScore = w at h ⊢
  cases nb <;> cases w <;> simp_all

theorem lmp_guard_sound_unfolded (alpha beta limit bestScore mi : Int) (h : lmpCond (normalBound := normalBound (alpha := alpha) (beta := beta)) (lmpMoveCountLimit := limit) (bestScore := bestScore) (mi := mi) = true) :
    ¬ Cl.isLose bestScore ∧ ¬ Cl.isLose alpha ∧ ¬ Cl.isWin beta := by
  have := lmp_guard_sound _ _ _ _ h
  exact ⟨this.2, (normalBound_iff alpha beta).1 this.1⟩

theorem lmp_event_guarded (nb : Bool) (limit bestScore mi : Int) (h : lmpCond (normalBound := nb) (lmpMoveCountLimit := limit) (bestScore := bestScore) (mi := mi) = true) :
    Cl.MoveEv.Guarded bestScore .lmp := (lmp_guard_sound nb limit bestScore mi h).2

theorem fut_event_guarded (bestScore evalScore fs margin score : Int) (he : ¬ Cl.isLose evalScore) (hm : 0 ≤ margin) :
    Cl.MoveEv.Guarded bestScore (.fut (futMoveScore (futilityScore := futScore (evalScore := evalScore) (futilityScore := fs) (margin := margin)) (score := score))) :=
  fut_score_not_lose evalScore fs margin he hm

theorem bestScoreStep_eq (bestScore score : Int) : bestScoreStep (bestScore := bestScore) (score := score) = Cl.MoveEv.step bestScore (.searched score) := rfl

theorem haveLegalStep_spec (illegal : Int) (hl : Bool) (score : Int) : haveLegalStep (illegalScore := illegal) (haveLegalMoves := hl) (score := score) = (hl || score != illegal) := by
  simp only [haveLegalStep]; cases hl <;> by_cases h : score = illegal <;> simp [h]

/-- the move loop of a node whose pruning decisions all passed the regenerated guards: a final lose score means that
    every move was searched (so the all-moves rule applies) -/
theorem loop_rule (best : Int) (es : List Cl.MoveEv) (hg : Cl.GuardedRun best es) (hl : Cl.isLose (Cl.runLoop best es)) :
    ∀ e ∈ es, ∃ s, e = .searched s ∧ s ≤ Cl.runLoop best es := Cl.guarded_lose_all_searched best es hg hl

/-- with a normal window the singular search is only started from a hash score that is not a mate score, and never
    from an upper-bound entry -/
theorem singular_guard (ply depth entDepth : Int) (entScore : Int → Int) (entType : Int) (singularSearch nb hms : Bool)
    (ext : Int) (legal : Bool) (h : singularCond (ply := ply) (depth := depth) (ent_getDepth := entDepth) (ent_getScore := entScore) (ent_getType := entType) (singularSearch := singularSearch) (normalBound := nb) (hashMoveSelected := hms) (opq_getMoveExtend := ext) (opq_isLegal := legal) = true) :
    entType ≠ 3 ∧ singularSearch = false ∧ (nb = true → ¬ Cl.isWin (entScore ply) ∧ ¬ Cl.isLose (entScore ply)) := by
  simp only [singularCond, Bool.and_eq_true, Bool.or_eq_true, Bool.not_eq_true', bne_iff_ne, ne_eq, decide_eq_true_eq] at h
  obtain ⟨⟨⟨⟨⟨⟨⟨-, hss⟩, hty⟩, -⟩, hws⟩, -⟩, -⟩, -⟩ := h
  refine ⟨hty, hss, fun hnb => ?_⟩
  have hw : isWinScore ((entScore ply).natAbs : Int) = false := by
    rcases hws with h' | h'
    · exact h'
    · rw [hnb] at h'; cases h'
  have hw' : ¬ ((entScore ply).natAbs : Int) > 16000 := by simpa [isWinScore] using hw
  simp only [Cl.isWin, Cl.isLose, Cl.MATE0]
  rcases Int.natAbs_eq (entScore ply) with h1 | h1 <;> omega

/-- fail high, but the table holds a lose score below it as an exact value or upper bound: the table's claim is returned
    (as an upper bound) instead -/
theorem fail_high_override_spec (ply : Int) (entScore : Int → Int) (entType score tType : Int) :
    (failHighOverrideCond (ply := ply) (ent_getScore := entScore) (ent_getType := entType) (score := score) = true →
        failHighOverride (ply := ply) (ent_getScore := entScore) (ent_getType := entType) (score := score) (tType := tType) = (entScore ply, 3) ∧ Cl.isLose (entScore ply) ∧ (entType = 1 ∨ entType = 3)) ∧
    (failHighOverrideCond (ply := ply) (ent_getScore := entScore) (ent_getType := entType) (score := score) = false → failHighOverride (ply := ply) (ent_getScore := entScore) (ent_getType := entType) (score := score) (tType := tType) = (score, 2)) := by
  constructor
  · intro h
    have h' := h
    simp only [failHighOverrideCond, Bool.and_eq_true, Bool.or_eq_true, beq_iff_eq, decide_eq_true_eq] at h'
    refine ⟨?_, (isLoseScore_iff _).1 h'.2, h'.1.1⟩
    simp only [failHighOverride]; simp only [failHighOverrideCond] at h; rw [if_pos h]
  · intro h
    simp only [failHighOverride]; simp only [failHighOverrideCond] at h; rw [if_neg (by simp [h])]

theorem fail_high_override_rule {P} (G : Cl.Game P) (p : P) (ply : Nat) (entScore : Int → Int) (entType score tType : Int)
    (hent : ∀ b, boundOf entType = some b → Cl.Sound G p ply (entScore ply) b)
    (hsc : Cl.Sound G p ply score .lower) :
    ∃ b, boundOf (failHighOverride (ply := ply) (ent_getScore := entScore) (ent_getType := entType) (score := score) (tType := tType)).2 = some b ∧
         Cl.Sound G p ply (failHighOverride (ply := ply) (ent_getScore := entScore) (ent_getType := entType) (score := score) (tType := tType)).1 b := by
  have sp := fail_high_override_spec ply entScore entType score tType
  cases hc : failHighOverrideCond (ply := ply) (ent_getScore := entScore) (ent_getType := entType) (score := score)
  · rw [sp.2 hc]; exact ⟨.lower, boundOf_lower, hsc⟩
  · obtain ⟨he, hl, ht⟩ := sp.1 hc
    rw [he]
    refine ⟨.upper, boundOf_upper, fun _ hb => absurd rfl hb, fun hl' _ => ?_⟩
    rcases ht with ht | ht
    · exact (hent .exact (by rw [ht]; exact boundOf_exact)).2 hl' (by decide)
    · exact (hent .upper (by rw [ht]; exact boundOf_upper)).2 hl' (by decide)

/-- fail low, but the table holds a win score above α as an exact value or lower bound: returned as a lower bound -/
theorem fail_low_override_spec (alpha ply : Int) (entScore : Int → Int) (entType bestScore tType : Int) :
    (failLowOverrideCond (alpha := alpha) (ply := ply) (ent_getScore := entScore) (ent_getType := entType) = true →
        failLowOverride (alpha := alpha) (ply := ply) (ent_getScore := entScore) (ent_getType := entType) (bestScore := bestScore) (tType := tType) = (entScore ply, 2) ∧ Cl.isWin (entScore ply) ∧ (entType = 1 ∨ entType = 2)) ∧
    (failLowOverrideCond (alpha := alpha) (ply := ply) (ent_getScore := entScore) (ent_getType := entType) = false → failLowOverride (alpha := alpha) (ply := ply) (ent_getScore := entScore) (ent_getType := entType) (bestScore := bestScore) (tType := tType) = (bestScore, 3)) := by
  constructor
  · intro h
    have h' := h
    simp only [failLowOverrideCond, Bool.and_eq_true, Bool.or_eq_true, beq_iff_eq, decide_eq_true_eq] at h'
    refine ⟨?_, (isWinScore_iff _).1 h'.2, h'.1.1⟩
    simp only [failLowOverride]; simp only [failLowOverrideCond] at h; rw [if_pos h]
  · intro h
    simp only [failLowOverride]; simp only [failLowOverrideCond] at h; rw [if_neg (by simp [h])]

theorem fail_low_override_rule {P} (G : Cl.Game P) (p : P) (ply : Nat) (alpha : Int) (entScore : Int → Int) (entType bestScore tType : Int)
    (hent : ∀ b, boundOf entType = some b → Cl.Sound G p ply (entScore ply) b)
    (hsc : Cl.Sound G p ply bestScore .upper) :
    ∃ b, boundOf (failLowOverride (alpha := alpha) (ply := ply) (ent_getScore := entScore) (ent_getType := entType) (bestScore := bestScore) (tType := tType)).2 = some b ∧
         Cl.Sound G p ply (failLowOverride (alpha := alpha) (ply := ply) (ent_getScore := entScore) (ent_getType := entType) (bestScore := bestScore) (tType := tType)).1 b := by
  have sp := fail_low_override_spec alpha ply entScore entType bestScore tType
  cases hc : failLowOverrideCond (alpha := alpha) (ply := ply) (ent_getScore := entScore) (ent_getType := entType)
  · rw [sp.2 hc]; exact ⟨.upper, boundOf_upper, hsc⟩
  · obtain ⟨he, hw, ht⟩ := sp.1 hc
    rw [he]
    refine ⟨.lower, boundOf_lower, fun hw' _ => ?_, fun _ hb => absurd rfl hb⟩
    rcases ht with ht | ht
    · exact (hent .exact (by rw [ht]; exact boundOf_exact)).1 hw' (by decide)
    · exact (hent .lower (by rw [ht]; exact boundOf_lower)).1 hw' (by decide)

/-- in check there is no stand-pat: the initial score is the mated score of this ply -/
theorem q_incheck_score (ply score : Int) : qInCheckScore (ply := ply) (score := score) = -(Cl.MATE0 - (ply + 1)) := by
  simp [qInCheckScore, Cl.MATE0]

/-- a child is told it is in check only when its depth is ≥ −1, where the `depth < −6 ∧ mi ≥ 2` skip cannot fire:
    in check, quiesce tries every evasion -/
theorem q_incheck_no_skip (depth mi : Int) (givesCheck : Bool) (h : qNextInCheck (depth := depth) (givesCheck := givesCheck) = true) :
    qSkipCond (depth := depth - 1) (mi := mi) = false := by
  simp only [qNextInCheck] at h
  by_cases hd : depth - 1 > -2
  · simp only [qSkipCond, Bool.and_eq_false_iff, decide_eq_false_iff_not]; left; omega
  · simp [hd] at h

end Bridge.SearchGuards
