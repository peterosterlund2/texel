import TexelVerif.Generated.Score
import TexelVerif.Score.Claims
import TexelVerif.TT.Table
/-!
# Bridge: score classification and the UCI mate conversion of `Search::notifyPV`, regenerated from the source

* `SearchConst::isWinScore / isLoseScore` (constants.hpp) ≍ the predicates `Cl.isWin / Cl.isLose` of the mate-claim
  calculus (C04/C13) and `TT.isWinScore / isLoseScore` (C08);
* the slice of `Search::notifyPV` (search.cpp) between the declarations of `isMate` and `tNow`, as a function
  `score ↦ (isMate, reported score)`, ≍ `mateConv` below: with `k` the ply budget of `Cl.Sound` at the root, a win score `s`
  (`k = MATE0 − s − 1`) is reported as "mate N" with `N = ⌊(k + 1)/2⌋ = ⌊(MATE0 − s)/2⌋`, a lose score (`k = MATE0 + s − 1`)
  as "mate −N" with `N = ⌊k/2⌋`.
-/
namespace Bridge.Score
open Gen.Score

theorem isWinScore_iff (s : Int) : isWinScore s = true ↔ Cl.isWin s := by
  simp [isWinScore, Cl.isWin, Cl.MATE0]

theorem isLoseScore_iff (s : Int) : isLoseScore s = true ↔ Cl.isLose s := by
  simp [isLoseScore, Cl.isLose, Cl.MATE0]

theorem isWinScore_eq (s : Int) : isWinScore s = TT.isWinScore s := by
  simp [isWinScore, TT.isWinScore]

theorem isLoseScore_eq (s : Int) : isLoseScore s = TT.isLoseScore s := by
  simp [isLoseScore, TT.isLoseScore]

/-- hand specification of the conversion done by `notifyPV` (floor division; all dividends are ≥ 0 in range) -/
def mateConv (s : Int) : Bool × Int :=
  if s > 16000 then (true, (32000 - s) / 2)
  else if s < -16000 then (true, -((32000 + s - 1) / 2))
  else (false, s)

/-- the regenerated slice computes `mateConv` for every score of the engine's range `−(MATE0−1) ≤ s ≤ MATE0`
    (at `s = −MATE0`, never produced by the search, C's truncating division and the floor differ) -/
theorem notifyPV_mate_eq (s : Int) (h1 : -31999 ≤ s) (h2 : s ≤ 32000) :
    notifyPV_mate s = mateConv s := by
  -- in each range of `s` the dividend is ≥ 0 (`h1`, `h2`), where C's truncating `/` is `Int`'s `/`
  by_cases hw : s > 16000 <;> by_cases hl : s < -16000 <;>
    simp (disch := omega) [notifyPV_mate, mateConv, isWinScore, isLoseScore, hw, hl, Int.tdiv_eq_ediv_of_nonneg] <;>
    omega

/-- meaning of the reported number: "mate N" for a win score covers exactly the ply budgets `k = 2N−1` and `k = 2N`
    (`MATE0 − s = k + 1`), "mate −N" for a lose score the budgets `2N` and `2N+1`. -/
theorem mateConv_win (s : Int) (hw : s > 16000) (h2 : s ≤ 32000) :
    (mateConv s).1 = true ∧ (32000 - s = 2 * (mateConv s).2 ∨ 32000 - s = 2 * (mateConv s).2 + 1) := by
  simp only [mateConv, hw, if_true]
  exact ⟨trivial, by omega⟩

theorem mateConv_lose (s : Int) (hl : s < -16000) (h1 : -31999 ≤ s) :
    (mateConv s).1 = true ∧ (32000 + s - 1 = 2 * (-(mateConv s).2) ∨ 32000 + s - 1 = 2 * (-(mateConv s).2) + 1) := by
  have hw : ¬ s > 16000 := by omega
  simp only [mateConv, hw, hl, if_true, if_false]
  exact ⟨trivial, by omega⟩

theorem mateConv_normal (s : Int) (h1 : -16000 ≤ s) (h2 : s ≤ 16000) : mateConv s = (false, s) := by
  have hw : ¬ s > 16000 := by omega
  have hl : ¬ s < -16000 := by omega
  simp only [mateConv, hw, hl, if_false]

end Bridge.Score
