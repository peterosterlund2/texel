import TexelVerif.Generated.TB
import TexelVerif.Bridge.Bits
/-!
# Bridge: tablebase-related score arithmetic regenerated from the source (C13)

* `rule50Margin` (tbprobe.cpp; the one-statement slice computing `margin`): the margin is non-negative exactly when the
  mate distance in plies from the current node, `MATE0 − 1 − |dtmScore| − ply`, fits into the `100 − hmc` plies left
  before the 50-move rule — "positions whose mate cannot be completed before the 50-move limit are not announced".
* `Evaluate::swindleScore` (evaluate.cpp; calls `BitUtil::lastBit`, whose correctness is `Bridge.Bits.lastBit_eq`):
  a swindle score is never a mate score — `|swindleScore e 0| ≤ 34 = minFrustrated − 1` with the sign of `e`, and
  `35 ≤ |swindleScore e d| ≤ 70` with the sign of `d` for `d ≠ 0`.
-/
set_option linter.unusedSimpArgs false
namespace Bridge.TB
open Gen.TB
theorem rule50Margin_eq (d ply hmc : Int) :
    rule50Margin d ply hmc = (100 - hmc) - (32000 - 1 - (d.natAbs : Int) - ply) := by
  simp only [rule50Margin]

theorem rule50Margin_nonneg (d ply hmc : Int) :
    0 ≤ rule50Margin d ply hmc ↔ (32000 - 1 - (d.natAbs : Int) - ply) ≤ 100 - hmc := by
  simp only [rule50Margin]; omega

theorem swindle_far (e d : Int) (hd : d ≠ 0) :
    (0 < d → 35 ≤ swindleScore e d ∧ swindleScore e d ≤ 70) ∧ (d < 0 → -70 ≤ swindleScore e d ∧ swindleScore e d ≤ -35) := by
  simp only [swindleScore, beq_iff_eq, hd, if_false]
  constructor <;> intro h
  · have e : (d.natAbs : Int) = d := by omega
    have hp : d > 0 := h
    simp [e, hp]
    omega
  · have e : (d.natAbs : Int) = -d := by omega
    have hp : ¬ d > 0 := by omega
    simp [e, hp]
    omega

theorem lastBit_same (m : BitVec 64) : Gen.TB.lastBit m = Gen.Bits.lastBit m := rfl


/-- `lastBit` of a positive number is its `log2` -/
theorem lastBit_log2 (n : Nat) (h0 : n ≠ 0) (h64 : n < 2^64) : lastBit (BitVec.ofNat 64 n) = (n.log2 : Int) := by
  have ht : (BitVec.ofNat 64 n).toNat = n := by simp [BitVec.toNat_ofNat, Nat.mod_eq_of_lt h64]
  rw [lastBit_same]
  apply Bridge.Bits.lastBit_eq _ n.log2 ((Nat.log2_lt h0).2 h64)
  · rw [← BitVec.testBit_toNat, ht]; exact Nat.testBit_log2 h0
  · intro j hj
    rw [← BitVec.testBit_toNat, ht]
    apply Nat.testBit_lt_two_pow
    calc n < 2^(n.log2 + 1) := Nat.lt_log2_self
      _ ≤ 2^j := Nat.pow_le_pow_right (by omega) hj

/-- the `distToWin == 0` branch before the sign is applied: a value in `[0, 34]`.  `s` stands for `|evalScore| + 4`
    (hence `4 ≤ s`) and `35 - 1` is `minFrustrated - 1`, as the source writes them -/
theorem swindle_near_core (s : Nat) (h4 : 4 ≤ s) (h64 : s < 2^63) :
    let lg : Int := lastBit (BitVec.ofInt 64 (s : Int))
    0 ≤ min ((lg - 3) * 4 + ((s : Int) >>> (lg - 2).toNat)) (35 - 1) ∧ min ((lg - 3) * 4 + ((s : Int) >>> (lg - 2).toNat)) (35 - 1) ≤ 34 := by
  intro lg
  have h0 : s ≠ 0 := by omega
  have hlg : lg = (s.log2 : Int) := by
    simp only [lg, BitVec.ofInt_natCast]; exact lastBit_log2 s h0 (by omega)
  have h2 : 2 ≤ s.log2 := by
    rcases Nat.lt_or_ge s.log2 2 with h | h
    · have := (Nat.log2_lt h0).1 h; omega
    · exact h
  obtain ⟨k, hk⟩ : ∃ k, s.log2 = k + 2 := ⟨s.log2 - 2, by omega⟩
  have hlo : 2^(k+2) ≤ s := hk ▸ Nat.log2_self_le h0
  have hpow : 2^(k+2) = 4 * 2^k := by rw [Nat.pow_add]; omega
  have hq : 4 ≤ s / 2^k := by
    rw [Nat.le_div_iff_mul_le (Nat.two_pow_pos k)]; omega
  have e : ((s : Int) >>> (lg - 2).toNat) = ((s / 2^k : Nat) : Int) := by
    rw [hlg, hk, Int.shiftRight_eq_div_pow]
    have : ((k + 2 : Nat) : Int) - 2 = (k : Int) := by omega
    simp [this]
  rw [e, hlg, hk]
  omega

/-- `distToWin == 0`: the swindle score has the sign of the evaluation and magnitude at most `minFrustrated − 1 = 34`
    (`evalScore` is a C++ `int`, hence `< 2^31` in magnitude) -/
theorem swindle_near (e : Int) (he : e.natAbs < 2^31) :
    (0 ≤ e → 0 ≤ swindleScore e 0 ∧ swindleScore e 0 ≤ 34) ∧ (e < 0 → -34 ≤ swindleScore e 0 ∧ swindleScore e 0 ≤ 0) := by
  have c := swindle_near_core (e.natAbs + 4) (by omega) (by omega)
  simp only [Int.natCast_add, Int.cast_ofNat_Int] at c
  simp only [swindleScore, beq_self_eq_true, if_true, Int.add_assoc, Int.reduceAdd]
  generalize (min (_ : Int) _) = V at c ⊢
  constructor <;> intro h
  · have hp : e ≥ 0 := h
    simp only [hp, decide_true, if_true]; omega
  · have hp : ¬ e ≥ 0 := by omega
    simp only [hp, decide_false]; simp; omega

end Bridge.TB
