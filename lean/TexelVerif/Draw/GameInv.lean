import TexelVerif.Draw.GameLemmas
/-! Reachable states of the console game: the record is a legal game from its start position. -/
namespace GameM
open Chess Hist

/-- the record is the legal line `g.moves` played from `p0`: `prevs` holds its positions but the last, and the current
    position is the one at index `cur` (the moves beyond `cur` are the redo tail) -/
structure Line (g : Game) (p0 : Pos) : Prop where
  legal : LegalLine p0 g.moves
  prevs : g.prevs = (states nextPos p0 g.moves).dropLast
  lenO : g.offers.length = g.moves.length
  curLe : g.cur ≤ g.moves.length
  here : (states nextPos p0 g.moves)[g.cur]? = some g.pos

def Inv (g : Game) : Prop := ∃ p0, Line g p0

theorem Line.positions {g : Game} {p0 : Pos} (h : Line g p0) :
    g.prevs.take g.cur ++ [g.pos] = states nextPos p0 (g.moves.take g.cur) := by
  have hc := h.curLe
  rw [← states_take, List.take_add_one, h.here, h.prevs, List.dropLast_eq_take, List.take_take, states_length]
  simp [Nat.min_eq_left hc]

theorem Line.root {g : Game} {p0 : Pos} (h : Line g p0) : (g.moves.take g.cur).foldl nextPos p0 = g.pos := by
  have hc := h.curLe
  have h1 := states_last_index nextPos p0 (g.moves.take g.cur)
  rw [← states_take, List.length_take, Nat.min_eq_left hc, List.getElem?_take_of_lt (Nat.lt_succ_self _), h.here] at h1
  exact (Option.some.inj h1).symm

theorem line_newGame (p : Pos) : Line (newGame p) p := ⟨trivial, rfl, rfl, Nat.le_refl _, rfl⟩

/-- a change of the flags only -/
theorem Line.congr {g g' : Game} {p0 : Pos} (h : Line g p0) (h1 : g'.pos = g.pos) (h2 : g'.moves = g.moves)
    (h3 : g'.prevs = g.prevs) (h4 : g'.offers = g.offers) (h5 : g'.cur = g.cur) : Line g' p0 := by
  refine ⟨?_, ?_, ?_, ?_, ?_⟩
  · rw [h2]; exact h.legal
  · rw [h3, h2]; exact h.prevs
  · rw [h4, h2]; exact h.lenO
  · rw [h5, h2]; exact h.curLe
  · rw [h5, h2, h1]; exact h.here

theorem Line.playMove {g : Game} {p0 : Pos} (h : Line g p0) (m : Mv) (hm : legalB g.pos m = true) :
    Line (playMove g m) p0 := by
  have hc := h.curLe
  have hlen : (g.moves.take g.cur ++ [m]).length = g.cur + 1 := by simp [Nat.min_eq_left hc]
  have hst := states_append nextPos p0 (g.moves.take g.cur) m
  rw [h.root] at hst
  refine ⟨?_, ?_, ?_, ?_, ?_⟩
  · exact legalLine_append p0 _ m (legalLine_take p0 _ _ h.legal) (by rw [h.root]; exact hm)
  · show g.prevs.take g.cur ++ [g.pos] = (states nextPos p0 (g.moves.take g.cur ++ [m])).dropLast
    rw [hst, List.dropLast_concat, h.positions]
  · show (g.offers.take g.cur ++ [g.pending]).length = (g.moves.take g.cur ++ [m]).length
    simp [h.lenO, Nat.min_eq_left hc]
  · show g.cur + 1 ≤ (g.moves.take g.cur ++ [m]).length
    rw [hlen]; exact Nat.le_refl _
  · show (states nextPos p0 (g.moves.take g.cur ++ [m]))[g.cur + 1]? = some (nextPos g.pos m)
    rw [← hlen, states_last_index, List.foldl_append, h.root]
    rfl

theorem Line.undo {g : Game} {p0 : Pos} (h : Line g p0) (p : Pos) (hp : g.prevs[g.cur - 1]? = some p) (hc : g.cur > 0) :
    Line { g with pos := p, cur := g.cur - 1, pending := false, drawState := .alive, resignState := .alive } p0 := by
  have hcl := h.curLe
  refine ⟨h.legal, h.prevs, h.lenO, by show g.cur - 1 ≤ g.moves.length; omega, ?_⟩
  show (states nextPos p0 g.moves)[g.cur - 1]? = some p
  rw [h.prevs, List.dropLast_eq_take, List.getElem?_take_of_lt (by rw [states_length]; omega)] at hp
  exact hp

theorem Line.redo {g : Game} {p0 : Pos} (h : Line g p0) (m : Mv) (hm : g.moves[g.cur]? = some m) :
    Line { g with pos := nextPos g.pos m, prevs := g.prevs.set g.cur g.pos, cur := g.cur + 1, pending := false } p0 := by
  have hlt : g.cur < g.moves.length := (List.getElem?_eq_some_iff.1 hm).1
  have hpos : g.prevs[g.cur]? = some g.pos := by
    rw [h.prevs, List.dropLast_eq_take, List.getElem?_take_of_lt (by rw [states_length]; omega)]
    exact h.here
  have hset : g.prevs.set g.cur g.pos = g.prevs := by
    apply List.ext_getElem?
    intro i
    by_cases hi : g.cur = i
    · subst hi; rw [List.getElem?_set_self (List.getElem?_eq_some_iff.1 hpos).1, hpos]
    · rw [List.getElem?_set_ne hi]
  refine ⟨h.legal, by show g.prevs.set g.cur g.pos = _; rw [hset]; exact h.prevs, h.lenO, hlt, ?_⟩
  exact states_step nextPos p0 g.moves g.cur g.pos m h.here hm

/-- **the positions of a consistent record are the positions of a legal game** played from its first position with
    the first `currentMove` moves of the move list -/
theorem inv_gamePositions (g : Game) (h : Inv g) :
    ∃ p0, (gamePositions g).head? = some p0 ∧ gamePositions g = states nextPos p0 (g.moves.take g.cur) ∧
      LegalLine p0 (g.moves.take g.cur) := by
  obtain ⟨p0, h⟩ := h
  refine ⟨p0, ?_, h.positions, legalLine_take p0 _ _ h.legal⟩
  unfold gamePositions
  rw [h.positions, states_eq_cons_tail]
  rfl

/-- the current position and all recorded positions carry an e.p. square only if an e.p. capture is legal -/
def NormInv (g : Game) : Prop := Norm g.pos ∧ ∀ q ∈ g.prevs, Norm q

theorem norm_newGame (p : Pos) (h : Norm p) : NormInv (newGame p) := ⟨h, by simp [newGame]⟩

theorem norm_playMove (g : Game) (m : Mv) (h : NormInv g) : NormInv (playMove g m) := by
  refine ⟨norm_fixupEP _, ?_⟩
  intro q hq
  simp only [playMove, List.mem_append, List.mem_singleton] at hq
  rcases hq with hq | rfl
  · exact h.2 q (List.mem_of_mem_take hq)
  · exact h.1

def Good (g : Game) : Prop := Inv g ∧ NormInv g

theorem good_flags (g g' : Game) (h : Good g) (h1 : g'.pos = g.pos) (h2 : g'.moves = g.moves) (h3 : g'.prevs = g.prevs)
    (h4 : g'.offers = g.offers) (h5 : g'.cur = g.cur) : Good g' := by
  obtain ⟨⟨p0, hl⟩, hn⟩ := h
  exact ⟨⟨p0, hl.congr h1 h2 h3 h4 h5⟩, by unfold NormInv; rw [h1, h3]; exact hn⟩

theorem good_processMove (g : Game) (m : Option Mv) (h : Good g) : Good (processMove g m).1 := by
  unfold processMove
  split
  · exact h
  · split
    · exact h
    · split
      · next hm =>
        obtain ⟨⟨p0, hl⟩, hn⟩ := h
        exact ⟨⟨p0, hl.playMove _ hm⟩, norm_playMove g _ hn⟩
      · exact h

theorem good_claim (g : Game) (rep : Bool) (m : Option Mv) (h : Good g) : Good (claim g rep m) := by
  have hp : Good { g with pending := true } := good_flags g _ h rfl rfl rfl rfl rfl
  unfold claim
  cases rep
  all_goals
    simp only [Bool.false_eq_true, if_false, if_true]
    split
    · exact good_flags g _ h rfl rfl rfl rfl rfl
    · split
      · exact good_processMove _ _ hp
      · exact hp

/-- **every command keeps the record consistent and all its positions normalised** (`new` / `setpos` start from the FEN
    reader's output, which is normalised) -/
theorem good_processString (g : Game) (c : Cmd) (h : Good g) : Good (processString true g c).1 := by
  have hflag : Good { g with pending := true } := good_flags g _ h rfl rfl rfl rfl rfl
  cases c with
  | new =>
    -- the reader's result is generalised first: a case split on `readFEN startFEN` itself makes the kernel run the reader
    rw [processString.eq_1]
    have hr : ∀ p, readFEN startFEN = .ok p → Norm p := fun p hp => readFEN_norm _ p hp
    revert hr
    generalize readFEN startFEN = r
    intro hr
    cases r with
    | ok p => exact ⟨⟨p, line_newGame p⟩, norm_newGame p (hr p rfl)⟩
    | error _ => exact h
  | setpos fen =>
    dsimp only [processString]
    split
    · next p hp => exact ⟨⟨p, line_newGame p⟩, norm_newGame p (readFEN_norm _ p hp)⟩
    · exact h
  | undo =>
    dsimp only [processString]
    split
    · next hc =>
      split
      · next p hp =>
        obtain ⟨⟨p0, hl⟩, hn⟩ := h
        exact ⟨⟨p0, hl.undo p hp hc⟩, hn.2 p (List.mem_of_getElem? hp), hn.2⟩
      · exact h
    · exact h
  | redo =>
    dsimp only [processString]
    split
    · next m hm =>
      obtain ⟨⟨p0, hl⟩, hn⟩ := h
      refine ⟨⟨p0, hl.redo m hm⟩, norm_fixupEP _, ?_⟩
      intro q hq
      rcases List.mem_or_eq_of_mem_set hq with hq | rfl
      · exact hn.2 q hq
      · exact hn.1
    · exact h
  | move m => exact good_processMove g m h
  | drawRep m => dsimp only [processString]; split <;> first | exact good_claim g true m h | exact h
  | draw50 m => dsimp only [processString]; split <;> first | exact good_claim g false m h | exact h
  | drawOffer m =>
    dsimp only [processString]
    split
    · split
      · exact good_processMove _ _ hflag
      · exact hflag
    · exact h
  | drawAccept =>
    dsimp only [processString]
    split
    · split
      · exact good_flags g _ h rfl rfl rfl rfl rfl
      · exact h
    · exact h
  | resign =>
    dsimp only [processString]
    split
    · exact good_flags g _ h rfl rfl rfl rfl rfl
    · exact h
  | noop => exact h
  | junk => exact h

/-- states reachable by the commands of the (repaired) console game from a start position as the FEN reader gives it -/
inductive Reach : Game → Prop
  | start (p0 : Pos) : Norm p0 → Reach (newGame p0)
  | step (g : Game) (c : Cmd) : Reach g → Reach (processString true g c).1

theorem reach_inv (g : Game) (h : Reach g) : Inv g ∧ NormInv g := by
  induction h with
  | start p0 hn => exact ⟨⟨p0, line_newGame p0⟩, norm_newGame p0 hn⟩
  | step g c _ ih => exact good_processString g c ih

theorem gamePositions_norm (g : Game) (h : NormInv g) : ∀ q ∈ gamePositions g, Norm q := by
  intro q hq
  simp only [gamePositions, List.mem_append, List.mem_singleton] at hq
  rcases hq with hq | rfl
  · exact h.2 q (List.mem_of_mem_take hq)
  · exact h.1

end GameM
