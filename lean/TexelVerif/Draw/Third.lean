import TexelVerif.Draw.ChessLemmas
import TexelVerif.Draw.HistoryLemmas
import TexelVerif.Draw.Game
/-!
# Legal games: the window loses nothing; the third occurrence at ply 1 on the chess specification
-/
namespace Chess
open Hist GameM

/-- every move of the line is legal in the position it is played in (positions e.p.-normalised after every move) -/
def LegalLine : Pos → List Mv → Prop
  | _, [] => True
  | p, m :: ms => legalB p m = true ∧ LegalLine (nextPos p m) ms

instance instDecidableLegalLine : (p : Pos) → (ms : List Mv) → Decidable (LegalLine p ms)
  | _, [] => isTrue trivial
  | p, m :: ms => @instDecidableAnd _ _ _ (instDecidableLegalLine (nextPos p m) ms)

/-- the two notions of a legal line agree: `Playable` (Chess/Line.lean) names the end position -/
theorem playable_iff_legalLine (ms : List Mv) : ∀ (p q : Pos), Playable p ms q ↔ LegalLine p ms ∧ ms.foldl nextPos p = q := by
  induction ms with
  | nil =>
    intro p q
    constructor
    · intro h; cases h; exact ⟨trivial, rfl⟩
    · rintro ⟨_, rfl⟩; exact .nil p
  | cons m ms ih =>
    intro p q
    constructor
    · intro h
      cases h with
      | cons _ _ _ _ hl hr => exact ⟨⟨hl, ((ih _ _).1 hr).1⟩, ((ih _ _).1 hr).2⟩
    · rintro ⟨⟨hl, hr⟩, he⟩
      exact .cons p m ms q hl ((ih _ _).2 ⟨hr, he⟩)

/-- positions equal under the repetition rule: same board, side to move, castling rights and e.p. capturability -/
def sameRules (p q : Pos) : Prop := drawKey (fixupEP p) = drawKey (fixupEP q)

instance (p q : Pos) : Decidable (sameRules p q) := by unfold sameRules; exact inferInstance

theorem sameRules_of_norm {p q : Pos} (hp : Norm p) (hq : Norm q) : sameRules p q ↔ drawKey p = drawKey q := by
  unfold sameRules; rw [hp, hq]

theorem drawKey_b_wtm {p q : Pos} (h : drawKey p = drawKey q) : p.b = q.b ∧ p.wtm = q.wtm := by
  unfold drawKey at h
  simp only [Prod.mk.injEq] at h
  exact ⟨h.1, h.2.1⟩

theorem sameRules_b_wtm {p q : Pos} (h : sameRules p q) : p.b = q.b ∧ p.wtm = q.wtm := by
  have := drawKey_b_wtm h
  simpa using this

theorem states_getElem?_zero (step : Pos → Mv → Pos) (p : Pos) (ms : List Mv) : (states step p ms)[0]? = some p := by
  cases ms <;> simp [states]

theorem states_getElem?_succ (step : Pos → Mv → Pos) (p : Pos) (m : Mv) (ms : List Mv) (j : Nat) :
    (states step p (m :: ms))[j + 1]? = (states step (step p m) ms)[j]? := by
  simp [states]

/-- side to move along the line -/
theorem states_wtm : ∀ (p : Pos) (ms : List Mv) (j : Nat) (q : Pos), (states nextPos p ms)[j]? = some q →
    q.wtm = (if j % 2 = 0 then p.wtm else !p.wtm)
  | p, ms, 0, q, h => by
    rw [states_getElem?_zero] at h; cases h; simp
  | p, [], j + 1, q, h => by simp [states] at h
  | p, m :: ms, j + 1, q, h => by
    rw [states_getElem?_succ] at h
    have := states_wtm (nextPos p m) ms j q h
    rw [this, nextPos_wtm]
    by_cases hj : j % 2 = 0
    · have : (j + 1) % 2 ≠ 0 := by omega
      simp [hj, this]
    · have : (j + 1) % 2 = 0 := by omega
      simp [hj, this]

/-- a later position of a legal line with the board and side to move of the first one is at least four plies later,
    at an even distance -/
theorem first_repeats_late (p : Pos) (ms : List Mv) (hl : LegalLine p ms) (j : Nat) (q : Pos) (hj : 0 < j)
    (hq : (states nextPos p ms)[j]? = some q) (hb : q.b = p.b) (hw : q.wtm = p.wtm) : 4 ≤ j ∧ j % 2 = 0 := by
  have hpar : j % 2 = 0 := by
    have := states_wtm p ms j q hq
    rw [hw] at this
    by_cases h : j % 2 = 0
    · exact h
    · simp [h] at this
  refine ⟨?_, hpar⟩
  -- j is even and positive: exclude j = 2  (`cases`, not `match` or `cases hq`: those unfold `nextPos`)
  by_cases h2 : j = 2
  · subst h2
    cases ms with
    | nil => cases hq
    | cons m1 ms =>
      cases ms with
      | nil => cases hq
      | cons m2 rest =>
        rw [states_getElem?_succ, states_getElem?_succ, states_getElem?_zero] at hq
        rw [← Option.some.inj hq] at hb
        exact absurd hb (board_ne_two_plies p m1 m2 hl.1 hl.2.1)
  · omega

theorem states_drop : ∀ (p : Pos) (ms : List Mv) (i : Nat) (q : Pos), (states nextPos p ms)[i]? = some q →
    (states nextPos p ms).drop i = states nextPos q (ms.drop i)
  | p, ms, 0, q, h => by
    rw [states_getElem?_zero] at h; cases h; simp
  | p, [], i + 1, q, h => by simp [states] at h
  | p, m :: ms, i + 1, q, h => by
    rw [states_getElem?_succ] at h
    simpa [states] using states_drop (nextPos p m) ms i q h

theorem legalLine_drop : ∀ (p : Pos) (ms : List Mv) (i : Nat) (q : Pos), LegalLine p ms →
    (states nextPos p ms)[i]? = some q → LegalLine q (ms.drop i)
  | p, ms, 0, q, hl, h => by
    rw [states_getElem?_zero] at h; cases h; simpa using hl
  | p, [], i + 1, q, _, h => by simp [states] at h
  | p, m :: ms, i + 1, q, hl, h => by
    rw [states_getElem?_succ] at h
    simpa using legalLine_drop (nextPos p m) ms i q hl.2 h

/-- **`window_loses_nothing`** on the positions of a legal game: two positions with the same board and side to move
    are an even number of plies, and at least four, apart -/
theorem window_loses_nothing (p : Pos) (ms : List Mv) (hl : LegalLine p ms) (i j : Nat) (a b : Pos) (hij : i < j)
    (ha : (states nextPos p ms)[i]? = some a) (hb : (states nextPos p ms)[j]? = some b)
    (hbb : b.b = a.b) (hw : b.wtm = a.wtm) : 4 ≤ j - i ∧ (j - i) % 2 = 0 := by
  have hd := states_drop p ms i a ha
  have hl' := legalLine_drop p ms i a hl ha
  have hb' : (states nextPos a (ms.drop i))[j - i]? = some b := by
    rw [← hd, List.getElem?_drop]
    have : i + (j - i) = j := by omega
    rw [this]; exact hb
  exact first_repeats_late a (ms.drop i) hl' (j - i) b (by omega) hb' hbb hw

theorem legalLine_take : ∀ (p : Pos) (ms : List Mv) (k : Nat), LegalLine p ms → LegalLine p (ms.take k)
  | _, [], _, _ => by simp [LegalLine]
  | _, _ :: _, 0, _ => trivial
  | p, m :: ms, k + 1, h => ⟨h.1, legalLine_take (nextPos p m) ms k h.2⟩
theorem states_norm : ∀ (p : Pos) (ms : List Mv), Norm p → ∀ q ∈ states nextPos p ms, Norm q
  | p, [], hp, q, hq => by simp [states] at hq; rw [hq]; exact hp
  | p, m :: ms, hp, q, hq => by
    simp only [states, List.mem_cons] at hq
    rcases hq with rfl | hq
    · exact hp
    · exact states_norm (nextPos p m) ms (norm_nextPos p m) q hq

theorem legalLine_append : ∀ (p : Pos) (ms : List Mv) (m : Mv), LegalLine p ms →
    legalB (ms.foldl nextPos p) m = true → LegalLine p (ms ++ [m])
  | p, [], m, _, h => by simpa [LegalLine] using h
  | p, a :: ms, m, hl, h => by
    simp only [List.cons_append, LegalLine]
    exact ⟨hl.1, legalLine_append (nextPos p a) ms m hl.2 (by simpa using h)⟩

theorem line_congr_first {p p' : Pos} {m : Mv} (ms : List Mv) (hl : legalB p m = legalB p' m) (hn : nextPos p m = nextPos p' m) :
    (LegalLine p (m :: ms) ↔ LegalLine p' (m :: ms)) ∧
    (states nextPos p (m :: ms)).tail = (states nextPos p' (m :: ms)).tail ∧
    (m :: ms).foldl nextPos p = (m :: ms).foldl nextPos p' := by
  simp [LegalLine, states, hl, hn]
/-- without zeroing moves no e.p. square arises: normalising after every move changes nothing -/
theorem states_apply_eq_nextPos : ∀ (p : Pos) (ms : List Mv), (∀ q ∈ (states nextPos p ms).tail, q.hmc ≠ 0) →
    states apply p ms = states nextPos p ms
  | _, [], _ => rfl
  | p, m :: ms, h => by
    have hm : nextPos p m ∈ (states nextPos p (m :: ms)).tail := by cases ms <;> simp [states]
    have e := nextPos_eq_apply p m (by have := h _ hm; simpa [nextPos] using this)
    simp only [states, ← e]
    rw [states_apply_eq_nextPos (nextPos p m) ms
      (fun q hq => h q (by simp only [states, List.tail_cons]; exact List.mem_of_mem_tail hq))]

theorem foldl_apply_eq_nextPos (p : Pos) (ms : List Mv) (h : ∀ q ∈ (states nextPos p ms).tail, q.hmc ≠ 0) :
    ms.foldl apply p = ms.foldl nextPos p :=
  Option.some.inj ((states_getLast? apply p ms).symm.trans
    ((congrArg List.getLast? (states_apply_eq_nextPos p ms h)).trans (states_getLast? nextPos p ms)))

/-- what the repaired `EngineControl::setupPosition` hands to the search: the positions whose hashes are in the list,
    and the root position -/
def givenHistory (p0 : Pos) (ms : List Mv) : List Pos × Pos := Hist.setupPosition nextPos (·.hmc) (fun q => q) p0 ms

theorem givenHistory_root (p0 : Pos) (ms : List Mv) : (givenHistory p0 ms).2 = ms.foldl nextPos p0 := by
  unfold givenHistory setupPosition
  exact buildLoop_snd _ _ _ _ _ _

/-- the list plus the root position is a suffix of the game's positions -/
theorem givenHistory_suffix (p0 : Pos) (ms : List Mv) :
    ∃ k, k ≤ ms.length ∧ (givenHistory p0 ms).1 ++ [(givenHistory p0 ms).2] = (states nextPos p0 ms).drop k := by
  have hroot := givenHistory_root p0 ms
  have hlen := states_length nextPos p0 ms
  have hsplit : ∀ k, k ≤ ms.length →
      ((states nextPos p0 ms).take ms.length).drop k ++ [ms.foldl nextPos p0] = (states nextPos p0 ms).drop k := by
    intro k hk
    have e := states_dropLast_append nextPos p0 ms
    rw [List.dropLast_eq_take, hlen, Nat.add_sub_cancel] at e
    rw [← List.drop_append_of_le_length (by simp [hlen]; omega), e]
  obtain ⟨k, hk, _, hres⟩ := buildLoop_spec nextPos (·.hmc) (fun q : Pos => q) p0 ms []
  have hL : (buildLoop nextPos (·.hmc) (fun q : Pos => q) p0 ms []).1 = ((states nextPos p0 ms).take ms.length).drop k := by
    rcases hres with ⟨rfl, h⟩ | ⟨_, _, h⟩
    · simpa using h
    · simpa using h
  by_cases hbig : (buildLoop nextPos (·.hmc) (fun q : Pos => q) p0 ms []).1.length > 100
  · refine ⟨ms.length, Nat.le_refl _, ?_⟩
    rw [hroot]
    have : (givenHistory p0 ms).1 = [] := by
      unfold givenHistory setupPosition; simp only [hbig, if_true]
    rw [this, ← hsplit ms.length (Nat.le_refl _)]
    simp
  · refine ⟨k, hk, ?_⟩
    rw [hroot]
    have : (givenHistory p0 ms).1 = ((states nextPos p0 ms).take ms.length).drop k := by
      unfold givenHistory setupPosition; simp only [hbig, if_false]; exact hL
    rw [this, hsplit k hk]

theorem givenHistory_clock (p0 : Pos) (ms : List Mv) : (givenHistory p0 ms).1.length ≤ (givenHistory p0 ms).2.hmc := by
  have h := buildLoop_clock nextPos (·.hmc) (fun q : Pos => q) (fun p m => nextPos_hmc p m) p0 ms [] (by simp)
  unfold givenHistory setupPosition
  simp only []
  split
  · simp
  · exact h

/-- **Third occurrence at ply 1, on the chess specification.**  `p0` is the position given by FEN (normalised by the
    reader), `ms` the legal moves of `position … moves`, `m` the legal root move.  The search scans the hashes of the list
    built by the repaired `setupPosition` plus the root hash for the hash of `apply root m` (the search itself plays raw
    moves).  Under no collisions among these positions (`hcoll`), with the Zobrist key a function of board, side, castling
    mask and e.p. square (`hzob`), and zeroing moves irreversible (`hirr`: after a capture or pawn move the board differs
    from every earlier board — a chess fact not proved here), the scan is true iff the position after the move occurred
    at least twice among the positions since the last zeroing move (root included), identity being that of the repetition
    rule on normalised positions. -/
theorem third_occurrence_chess (hash : Pos → Nat) (p0 : Pos) (ms : List Mv) (m : Mv) (multiPV : Bool)
    (hl : LegalLine p0 ms) (hm : legalB (givenHistory p0 ms).2 m = true)
    (hzob : ∀ a b : Pos, drawKey a = drawKey b → hash a = hash b)
    (hcoll : ∀ q ∈ (givenHistory p0 ms).1 ++ [(givenHistory p0 ms).2],
        hash q = hash (apply (givenHistory p0 ms).2 m) → drawKey q = drawKey (apply (givenHistory p0 ms).2 m))
    (hirr : (apply (givenHistory p0 ms).2 m).hmc = 0 →
        ∀ q ∈ (givenHistory p0 ms).1 ++ [(givenHistory p0 ms).2], q.b ≠ (apply (givenHistory p0 ms).2 m).b) :
    scanPly1 ((givenHistory p0 ms).1.map hash) (hash (givenHistory p0 ms).2) (hash (apply (givenHistory p0 ms).2 m))
        (apply (givenHistory p0 ms).2 m).hmc multiPV = true ↔
      2 ≤ ((givenHistory p0 ms).1 ++ [(givenHistory p0 ms).2]).countP
            (fun q => decide (drawKey q = drawKey (nextPos (givenHistory p0 ms).2 m))) := by
  obtain ⟨k, hk, hsuf⟩ := givenHistory_suffix p0 ms
  have hroot := givenHistory_root p0 ms
  generalize hqs : (givenHistory p0 ms).1 = qs at *
  generalize hr : (givenHistory p0 ms).2 = root at *
  have hclock : qs.length ≤ root.hmc := by rw [← hqs, ← hr]; exact givenHistory_clock p0 ms
  have hl' : LegalLine p0 (ms ++ [m]) := legalLine_append p0 ms m hl (by rw [← hroot]; exact hm)
  have hst' : states nextPos p0 (ms ++ [m]) = states nextPos p0 ms ++ [nextPos root m] := by
    rw [states_append, ← hroot]
  have hlen := states_length nextPos p0 ms
  have hllen : (qs ++ [root]).length = ms.length + 1 - k := by rw [hsuf]; simp [hlen]
  have hwin : ∀ (i : Nat) (q : Pos), (qs ++ [root])[i]? = some q → q.b = (apply root m).b → q.wtm = (apply root m).wtm →
      i + 4 ≤ (qs ++ [root]).length ∧ ((qs ++ [root]).length - i) % 2 = 0 := by
    intro i q hq hb hw
    rw [hsuf, List.getElem?_drop] at hq
    have hi : k + i < ms.length + 1 := by
      have := List.getElem?_eq_some_iff.1 hq
      obtain ⟨h, _⟩ := this
      simpa [hlen] using h
    have ha : (states nextPos p0 (ms ++ [m]))[k + i]? = some q := by
      rw [hst', List.getElem?_append_left (by simp [hlen]; omega)]; exact hq
    have hb' : (states nextPos p0 (ms ++ [m]))[ms.length + 1]? = some (nextPos root m) := by
      rw [hst', List.getElem?_append_right (by simp [hlen])]
      simp [hlen]
    have := window_loses_nothing p0 (ms ++ [m]) hl' (k + i) (ms.length + 1) q (nextPos root m) (by omega) ha hb'
      (by simp [nextPos, hb]) (by simp [nextPos, hw])
    rw [hllen]; omega
  by_cases hz : (apply root m).hmc = 0
  · -- zeroing root move: the scan looks at nothing, and nothing earlier has this board
    have hno := hirr hz
    have lhs : scanPly1 (qs.map hash) (hash root) (hash (apply root m)) (apply root m).hmc multiPV = false := by
      rw [Bool.eq_false_iff]
      intro ht
      rw [scanPly1_eq] at ht
      unfold scanOld at ht
      rw [Rep.canClaimDrawRep_iff] at ht
      obtain ⟨i, hw, _⟩ := ht
      unfold Rep.InWindow at hw
      rw [hz] at hw
      omega
    have rhs : (qs ++ [root]).countP (fun q => decide (drawKey q = drawKey (nextPos root m))) = 0 := by
      rw [List.countP_eq_zero]
      intro q hq
      simp only [decide_eq_true_eq]
      intro he
      have := (drawKey_b_wtm he).1
      exact hno q hq (by simpa [nextPos] using this)
    rw [lhs, rhs]; simp
  · have hep : (apply root m).ep = none := apply_ep_none_of_hmc root m hz
    have hnp : nextPos root m = apply root m := fixupEP_of_ep_none _ hep
    rw [hnp, scanPly1_eq]
    have hinc : (apply root m).hmc = root.hmc + 1 := by
      rcases apply_hmc root m with h | h
      · exact absurd h hz
      · exact h
    apply scanOld_iff drawKey hash (qs ++ [root]) (apply root m) _ _
    · simp only [List.length_append, List.length_singleton]; split <;> omega
    · exact hcoll
    · intro q _ h; exact hzob _ _ h
    · intro i q hq hkey
      have := drawKey_b_wtm hkey
      exact hwin i q hq this.1 this.2
    · left
      simp only [List.length_append, List.length_singleton, hinc]
      omega

end Chess
