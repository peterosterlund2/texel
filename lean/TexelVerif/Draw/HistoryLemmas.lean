import TexelVerif.Draw.History
import TexelVerif.Draw.ScanSpec
/-! Lemmas: what `setupPosition` builds; the ply-1 scan against occurrence counts. -/
namespace Hist
variable {P M H : Type}

theorem states_length (step : P → M → P) : ∀ (p : P) (ms : List M), (states step p ms).length = ms.length + 1
  | _, [] => rfl
  | p, m :: ms => by simp [states, states_length step (step p m) ms]

theorem buildLoop_snd (step : P → M → P) (hmc : P → Nat) (hash : P → H) :
    ∀ (p : P) (ms : List M) (acc : List H), (buildLoop step hmc hash p ms acc).2 = ms.foldl step p
  | p, [], acc => by simp [buildLoop]
  | p, m :: ms, acc => by
    simp only [buildLoop, List.foldl_cons]
    exact buildLoop_snd step hmc hash (step p m) ms _

theorem setupPosition_cons_zero (step : P → M → P) (hmc : P → Nat) (hash : P → H) (p : P) (m : M) (ms : List M)
    (h : hmc (step p m) = 0) : setupPosition step hmc hash p (m :: ms) = setupPosition step hmc hash (step p m) ms := by
  unfold setupPosition
  simp only [buildLoop, h, if_true]

theorem states_getLast? (step : P → M → P) : ∀ (p : P) (ms : List M), (states step p ms).getLast? = some (ms.foldl step p)
  | p, [] => by simp [states]
  | p, m :: ms => by
    simp only [states, List.foldl_cons]
    rw [List.getLast?_cons, states_getLast? step (step p m) ms]
    rfl

theorem states_last_index (step : P → M → P) (p : P) (ms : List M) :
    (states step p ms)[ms.length]? = some (ms.foldl step p) := by
  have h := states_getLast? step p ms
  rw [List.getLast?_eq_getElem?, states_length] at h
  simpa using h

theorem states_ne_nil (step : P → M → P) (p : P) (ms : List M) : states step p ms ≠ [] := by
  cases ms <;> simp [states]

theorem states_eq_cons_tail (step : P → M → P) (p : P) (ms : List M) : states step p ms = p :: (states step p ms).tail := by
  cases ms <;> rfl

theorem states_congr_first (step : P → M → P) {p p' : P} {m : M} (ms : List M) (h : step p m = step p' m) :
    (states step p (m :: ms)).tail = (states step p' (m :: ms)).tail ∧ (m :: ms).foldl step p = (m :: ms).foldl step p' := by
  simp [states, h]

theorem states_dropLast_append (step : P → M → P) (p : P) (ms : List M) :
    (states step p ms).dropLast ++ [ms.foldl step p] = states step p ms := by
  have hne := states_ne_nil step p ms
  have e : (states step p ms).getLast hne = ms.foldl step p :=
    Option.some.inj ((List.getLast?_eq_some_getLast hne).symm.trans (states_getLast? step p ms))
  rw [← e]
  exact List.dropLast_concat_getLast hne

theorem buildLoop_no_zero (step : P → M → P) (hmc : P → Nat) (hash : P → H) :
    ∀ (p : P) (ms : List M) (acc : List H), (∀ q ∈ (states step p ms).tail, hmc q ≠ 0) →
      buildLoop step hmc hash p ms acc = (acc ++ (states step p ms).dropLast.map hash, ms.foldl step p)
  | p, [], acc, _ => by simp [buildLoop, states]
  | p, m :: ms, acc, h => by
    have hz : hmc (step p m) ≠ 0 := h _ (by cases ms <;> simp [states])
    have ih := buildLoop_no_zero step hmc hash (step p m) ms (acc ++ [hash p])
      (fun q hq => h q (by simp only [states, List.tail_cons]; exact List.mem_of_mem_tail hq))
    simp only [buildLoop, hz, if_false, ih, states, List.dropLast_cons_of_ne_nil (states_ne_nil step _ ms), List.map_cons,
      List.append_assoc, List.singleton_append, List.foldl_cons]

theorem setupPosition_no_zero (step : P → M → P) (hmc : P → Nat) (hash : P → H) (p : P) (ms : List M)
    (hlen : ms.length ≤ 100) (h : ∀ q ∈ (states step p ms).tail, hmc q ≠ 0) :
    setupPosition step hmc hash p ms = ((states step p ms).dropLast.map hash, ms.foldl step p) := by
  unfold setupPosition
  rw [buildLoop_no_zero step hmc hash p ms [] h]
  simp only [List.nil_append, List.length_map, List.length_dropLast, states_length, Nat.add_sub_cancel]
  rw [if_neg (by omega)]
theorem states_take (step : P → M → P) : ∀ (p : P) (ms : List M) (k : Nat),
    (states step p ms).take (k + 1) = states step p (ms.take k)
  | p, [], k => by simp [states]
  | p, m :: ms, 0 => by simp [states]
  | p, m :: ms, k + 1 => by simp [states, states_take step (step p m) ms k]

theorem states_step (step : P → M → P) : ∀ (p : P) (ms : List M) (i : Nat) (q : P) (m : M),
    (states step p ms)[i]? = some q → ms[i]? = some m → (states step p ms)[i + 1]? = some (step q m)
  | p, [], i, q, m, _, hm => by simp at hm
  | p, a :: ms, 0, q, m, hq, hm => by
    simp only [states, List.getElem?_cons_zero, Option.some.injEq] at hq hm
    subst hq hm
    cases ms <;> simp [states]
  | p, a :: ms, i + 1, q, m, hq, hm => by
    simp only [states, List.getElem?_cons_succ] at hq hm ⊢
    exact states_step step (step p a) ms i q m hq hm
theorem states_append (step : P → M → P) : ∀ (p : P) (ms : List M) (m : M),
    states step p (ms ++ [m]) = states step p ms ++ [step (ms.foldl step p) m]
  | p, [], m => by simp [states]
  | p, a :: ms, m => by
    simp only [List.cons_append, states, List.foldl_cons]
    rw [states_append step (step p a) ms m]

/-- generalised statement for the induction: with accumulator `acc` the result is `acc ++` all hashes when no zeroing
    move occurs, and the hashes from the last zeroing position otherwise -/
theorem buildLoop_spec (step : P → M → P) (hmc : P → Nat) (hash : P → H) :
    ∀ (p : P) (ms : List M) (acc : List H),
      ∃ k, k ≤ ms.length ∧
        (∀ j q, k < j → (states step p ms)[j]? = some q → hmc q ≠ 0) ∧
        ((k = 0 ∧ (buildLoop step hmc hash p ms acc).1 = acc ++ ((states step p ms).take ms.length).map hash) ∨
         (0 < k ∧ (∃ q, (states step p ms)[k]? = some q ∧ hmc q = 0) ∧
            (buildLoop step hmc hash p ms acc).1 = (((states step p ms).take ms.length).drop k).map hash))
  | p, [], acc => ⟨0, Nat.le_refl _, by
      intro j q hj hq
      simp only [states] at hq
      cases j with
      | zero => omega
      | succ j => simp at hq, Or.inl ⟨rfl, by simp [buildLoop]⟩⟩
  | p, m :: ms, acc => by
    obtain ⟨k', hk', hnz, hres⟩ := buildLoop_spec step hmc hash (step p m) ms
      (if hmc (step p m) = 0 then [] else acc ++ [hash p])
    simp only [buildLoop, states, List.length_cons, List.take_succ_cons]
    rcases hres with ⟨hk0, hr⟩ | ⟨hkpos, hz, hr⟩
    · subst hk0
      by_cases hz : hmc (step p m) = 0
      · -- the move just made is the last zeroing move: k = 1
        refine ⟨1, by omega, ?_, Or.inr ⟨by omega, ⟨step p m, ?_, hz⟩, ?_⟩⟩
        · intro j q hj hq
          obtain ⟨j', rfl⟩ : ∃ j', j = j' + 1 := ⟨j - 1, by omega⟩
          rw [List.getElem?_cons_succ] at hq
          exact hnz j' q (by omega) hq
        · cases ms <;> simp [states]
        · rw [hr]; simp [hz]
      · refine ⟨0, by omega, ?_, Or.inl ⟨rfl, ?_⟩⟩
        · intro j q hj hq
          obtain ⟨j', rfl⟩ : ∃ j', j = j' + 1 := ⟨j - 1, by omega⟩
          rw [List.getElem?_cons_succ] at hq
          cases j' with
          | zero =>
            have : (states step (step p m) ms)[0]? = some (step p m) := by cases ms <;> simp [states]
            rw [this] at hq
            cases hq
            exact hz
          | succ j'' => exact hnz (j'' + 1) q (by omega) hq
        · rw [hr]; simp [hz]
    · refine ⟨k' + 1, by omega, ?_, Or.inr ⟨by omega, ?_, ?_⟩⟩
      · intro j q hj hq
        obtain ⟨j', rfl⟩ : ∃ j', j = j' + 1 := ⟨j - 1, by omega⟩
        rw [List.getElem?_cons_succ] at hq
        exact hnz j' q (by omega) hq
      · obtain ⟨q, hq, hq0⟩ := hz
        exact ⟨q, by rw [List.getElem?_cons_succ]; exact hq, hq0⟩
      · rw [hr]; simp

/-- when every non-zeroing step increments the clock, the final clock is at least the length of the list built
    (so a list longer than 100 implies `canClaimDraw50` at the root, and the scan's lower bound `size - hmc` is ≤ 0
    for positions reached by reversible moves) -/
theorem buildLoop_clock (step : P → M → P) (hmc : P → Nat) (hash : P → H)
    (hstep : ∀ p m, hmc (step p m) = 0 ∨ hmc (step p m) = hmc p + 1) :
    ∀ (p : P) (ms : List M) (acc : List H), acc.length ≤ hmc p →
      (buildLoop step hmc hash p ms acc).1.length ≤ hmc (buildLoop step hmc hash p ms acc).2
  | p, [], acc, h => by simpa [buildLoop] using h
  | p, m :: ms, acc, h => by
    simp only [buildLoop]
    apply buildLoop_clock step hmc hash hstep
    by_cases hz : hmc (step p m) = 0
    · simp [hz]
    · rcases hstep p m with h0 | h1
      · exact absurd h0 hz
      · simp [h1]; exact h

theorem two_le_countP_iff {α : Type} (pr : α → Bool) : ∀ (l : List α),
    2 ≤ l.countP pr ↔ ∃ (i j : Nat), i < j ∧ (∃ a, l[i]? = some a ∧ pr a = true) ∧ (∃ b, l[j]? = some b ∧ pr b = true)
  | [] => by simp
  | x :: l => by
    have ih := two_le_countP_iff pr l
    have one : 1 ≤ l.countP pr ↔ ∃ (j : Nat) (b : α), l[j]? = some b ∧ pr b = true := by
      show 0 < l.countP pr ↔ _
      rw [List.countP_pos_iff]
      constructor
      · rintro ⟨b, hb, hp⟩
        obtain ⟨j, hj⟩ := List.getElem?_of_mem hb
        exact ⟨j, b, hj, hp⟩
      · rintro ⟨j, b, hj, hp⟩
        exact ⟨b, List.mem_of_getElem? hj, hp⟩
    by_cases hx : pr x = true
    · rw [List.countP_cons_of_pos hx]
      constructor
      · intro h2
        obtain ⟨j, b, hj, hp⟩ := one.1 (by omega)
        exact ⟨0, j + 1, by omega, ⟨x, by simp, hx⟩, ⟨b, by simpa using hj, hp⟩⟩
      · rintro ⟨i, j, hij, _, ⟨b, hb, hp⟩⟩
        obtain ⟨j', rfl⟩ : ∃ j', j = j' + 1 := ⟨j - 1, by omega⟩
        rw [List.getElem?_cons_succ] at hb
        have := one.2 ⟨j', b, hb, hp⟩
        omega
    · rw [List.countP_cons_of_neg hx, ih]
      constructor
      · rintro ⟨i, j, hij, ⟨a, ha, hpa⟩, ⟨b, hb, hpb⟩⟩
        exact ⟨i + 1, j + 1, by omega, ⟨a, by simpa using ha, hpa⟩, ⟨b, by simpa using hb, hpb⟩⟩
      · rintro ⟨i, j, hij, ⟨a, ha, hpa⟩, ⟨b, hb, hpb⟩⟩
        cases i with
        | zero => simp at ha; subst ha; exact absurd hpa hx
        | succ i' =>
          obtain ⟨j', rfl⟩ : ∃ j', j = j' + 1 := ⟨j - 1, by omega⟩
          rw [List.getElem?_cons_succ] at ha hb
          exact ⟨i', j', by omega, ⟨a, ha, hpa⟩, ⟨b, hb, hpb⟩⟩

theorem getD_map_hash (hash : P → Nat) (l : List P) (i : Nat) (q : P) (hq : l[i]? = some q) :
    (l.map hash).getD i 0 = hash q := by
  rw [List.getD_eq_getElem?_getD, List.getElem?_map, hq]; rfl

/-- soundness direction alone: needs only that the hash does not identify different positions.  `hfn`: the scan starts
    at `size - 4`, so no index it visits lies at or above `posHashFirstNew` -/
theorem scanOld_imp {K : Type} [DecidableEq K] (key : P → K) (hash : P → Nat)
    (l : List P) (new : P) (newHmc firstNew : Int)
    (hfn : (l.length : Int) - 3 ≤ firstNew)
    (hinj : ∀ q ∈ l, hash q = hash new → key q = key new)
    (h : scanOld hash l (hash new) newHmc firstNew = true) : 2 ≤ l.countP (fun q => decide (key q = key new)) := by
  unfold scanOld at h
  rw [Rep.canClaimDrawRep_iff] at h
  rw [two_le_countP_iff]
  have hget := getD_map_hash hash l
  have hsome : ∀ i : Nat, i < l.length → ∃ q, l[i]? = some q := by
    intro i hi
    exact ⟨l[i], List.getElem?_eq_getElem hi⟩
  obtain ⟨i, hw, he, hr⟩ := h
  have hw0 := hw
  unfold Rep.InWindow at hw0
  have hi0 : 0 ≤ i := by omega
  rcases hr with hf | ⟨j, hwj, hne, hej⟩
  · exfalso; omega
  · have hwj0 := hwj
    unfold Rep.InWindow at hwj0
    obtain ⟨a, ha⟩ := hsome i.toNat (by omega)
    obtain ⟨b, hb⟩ := hsome j.toNat (by omega)
    rw [hget _ _ ha] at he
    rw [hget _ _ hb] at hej
    have ka := hinj a (List.mem_of_getElem? ha) he
    have kb := hinj b (List.mem_of_getElem? hb) hej
    by_cases hlt : i < j
    · exact ⟨i.toNat, j.toNat, by omega, ⟨a, ha, by simpa using ka⟩, ⟨b, hb, by simpa using kb⟩⟩
    · exact ⟨j.toNat, i.toNat, by omega, ⟨b, hb, by simpa using kb⟩, ⟨a, ha, by simpa using ka⟩⟩

/-- **All entries old.**  `l` are the positions whose hashes are in the list (oldest first), `new` the position tested,
    `newHmc` its half-move clock.  `key` is identity under the rules.  Hypotheses: the hash separates exactly the
    `key`-classes on these positions (`hinj`: no collisions; `hwf`: positions equal under the rules carry equal hashes —
    in particular equal en-passant flags); an earlier occurrence lies at even distance ≥ 4 (`hwin`); the clock covers
    the list, or nothing in the list equals the new position (`hclk`). -/
theorem scanOld_iff {K : Type} [DecidableEq K] (key : P → K) (hash : P → Nat)
    (l : List P) (new : P) (newHmc firstNew : Int)
    (hfn : (l.length : Int) - 3 ≤ firstNew)
    (hinj : ∀ q ∈ l, hash q = hash new → key q = key new)
    (hwf : ∀ q ∈ l, key q = key new → hash q = hash new)
    (hwin : ∀ (i : Nat) q, l[i]? = some q → key q = key new → i + 4 ≤ l.length ∧ (l.length - i) % 2 = 0)
    (hclk : ((l.length : Int) ≤ newHmc) ∨ ∀ q ∈ l, key q ≠ key new) :
    scanOld hash l (hash new) newHmc firstNew = true ↔ 2 ≤ l.countP (fun q => decide (key q = key new)) := by
  refine ⟨scanOld_imp key hash l new newHmc firstNew hfn hinj, ?_⟩
  unfold scanOld
  rw [Rep.canClaimDrawRep_iff, two_le_countP_iff]
  have hget := getD_map_hash hash l
  · rintro ⟨i, j, hij, ⟨a, ha, hpa⟩, ⟨b, hb, hpb⟩⟩
    have ka : key a = key new := by simpa using hpa
    have kb : key b = key new := by simpa using hpb
    have hc : (l.length : Int) ≤ newHmc := by
      rcases hclk with h | h
      · exact h
      · exact absurd ka (h a (List.mem_of_getElem? ha))
    obtain ⟨wa1, wa2⟩ := hwin i a ha ka
    obtain ⟨wb1, wb2⟩ := hwin j b hb kb
    have ea := hwf a (List.mem_of_getElem? ha) ka
    have eb := hwf b (List.mem_of_getElem? hb) kb
    refine ⟨(i : Int), ?_, ?_, Or.inr ⟨(j : Int), ?_, by omega, ?_⟩⟩
    · unfold Rep.InWindow; omega
    · rw [Int.toNat_natCast, hget _ _ ha]; exact ea
    · unfold Rep.InWindow; omega
    · rw [Int.toNat_natCast, hget _ _ hb]; exact eb

/-- the ply-1 scan is the all-old scan over the given history plus the root position -/
theorem scanPly1_eq (hash : P → Nat) (qs : List P) (root : P) (newHash : Nat) (newHmc : Int) (multiPV : Bool) :
    scanPly1 (qs.map hash) (hash root) newHash newHmc multiPV =
      scanOld hash (qs ++ [root]) newHash newHmc (qs.length + (if multiPV then 1 else 0)) := by
  unfold scanPly1 scanOld
  simp

end Hist
