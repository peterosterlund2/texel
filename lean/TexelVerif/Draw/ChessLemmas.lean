import TexelVerif.Chess.Mate
import TexelVerif.Chess.SpecLemmas
import TexelVerif.Chess.Fen
import TexelVerif.Chess.UnMoveLemmas
/-!
# Facts about the chess specification used by the repetition theorems

* `fixupEP` is idempotent, and the FEN reader's output is normalised (`readFEN_norm`, `start_positions_normalised`);
* the counters do not matter to legality (`legalB_congr`, `fixupEP_congr`);
* the side to move alternates, the half-move clock is reset or incremented;
* **a position never equals the one two plies earlier**: the square the mover left is empty after its move, and the
  opponent's reply can only put one of *its* pieces there.
-/
namespace Chess


theorem fixupEP_of_ep_none (p : Pos) (h : p.ep = none) : fixupEP p = p := by
  unfold fixupEP; rw [h]

/-- a position is *normalised* when its en-passant square is set only if an en-passant capture is legal -/
def Norm (p : Pos) : Prop := fixupEP p = p

theorem fixupEP_idem (p : Pos) : fixupEP (fixupEP p) = fixupEP p := by
  rcases fixupEP_cases p with h | h
  · rw [h, h]
  · rw [h]; exact fixupEP_of_ep_none _ rfl

theorem norm_fixupEP (p : Pos) : Norm (fixupEP p) := fixupEP_idem p
theorem norm_nextPos (p : Pos) (m : Mv) : Norm (nextPos p m) := fixupEP_idem _

/-! ### the FEN reader's output is normalised -/

theorem legalB_congr (p : Pos) (h f : Nat) (m : Mv) : legalB { p with hmc := h, fmc := f } m = legalB p m :=
  legalB_core_congr rfl m
theorem fixupEP_congr (p : Pos) (h f : Nat) : fixupEP { p with hmc := h, fmc := f } = { fixupEP p with hmc := h, fmc := f } := by
  obtain ⟨b, w, c, ep, hm, fm⟩ := p
  cases ep with
  | none => rfl
  | some e =>
    unfold fixupEP
    simp only []
    have e1 : genLegal (⟨b, w, c, some e, h, f⟩ : Pos) = genLegal ⟨b, w, c, some e, hm, fm⟩ := genLegal_core_congr rfl
    have e2 : ∀ m : Mv, (⟨b, w, c, some e, h, f⟩ : Pos).at m.f = (⟨b, w, c, some e, hm, fm⟩ : Pos).at m.f := fun _ => rfl
    simp only [e1, e2]
    split <;> rfl

/-- the record the FEN reader builds in its last line (`readFENRaw`: e.p. square taken from `fixupEP` of the position with
    counters 0 / 1, then the counters of the FEN) is normalised -/
theorem norm_fen_shape (b : Board) (wtm : Bool) (cm : UInt8) (ep : Option Sq) (h f : Nat) :
    Norm { b := b, wtm := wtm, castle := cm, ep := (fixupEP { b := b, wtm := wtm, castle := cm, ep := ep, hmc := 0, fmc := 1 }).ep,
           hmc := h, fmc := f } := by
  unfold Norm
  have key : fixupEP { b := b, wtm := wtm, castle := cm, ep := ep, hmc := 0, fmc := 1 } =
      { b := b, wtm := wtm, castle := cm, ep := (fixupEP { b := b, wtm := wtm, castle := cm, ep := ep, hmc := 0, fmc := 1 }).ep, hmc := 0, fmc := 1 } := by
    rcases fixupEP_cases { b := b, wtm := wtm, castle := cm, ep := ep, hmc := 0, fmc := 1 } with e | e <;> rw [e]
  have := fixupEP_congr { b := b, wtm := wtm, castle := cm, ep := (fixupEP { b := b, wtm := wtm, castle := cm, ep := ep, hmc := 0, fmc := 1 }).ep, hmc := 0, fmc := 1 } h f
  simp only [] at this
  rw [this, ← key, fixupEP_idem, key]

theorem finishRead_shape (b : Board) (wtm : Bool) (cm : UInt8) (ep : Option Sq) (hmc fmc : Int) (r : RawPos)
    (h : finishRead b wtm cm ep hmc fmc = .ok r) :
    r.ep = (fixupEP { b := r.b, wtm := r.wtm, castle := r.castle, ep := ep, hmc := 0, fmc := 1 }).ep := by
  unfold finishRead at h
  split at h
  · cases h
  · split at h
    · cases h
    · split at h
      · cases h
      · cases h; rfl

theorem bind_eq_ok {ε α β : Type} {x : Except ε α} {f : α → Except ε β} {b : β} (h : x >>= f = .ok b) :
    ∃ a, x = .ok a ∧ f a = .ok b := by
  cases x with
  | error e => cases h
  | ok a => exact ⟨a, rfl, h⟩

theorem readFENRaw_shape (fen : String) (r : RawPos) (h : readFENRaw fen = .ok r) :
    ∃ ep, r.ep = (fixupEP { b := r.b, wtm := r.wtm, castle := r.castle, ep := ep, hmc := 0, fmc := 1 }).ep := by
  unfold readFENRaw at h
  obtain ⟨⟨b, rest⟩, -, h⟩ := bind_eq_ok h
  simp only at h
  split at h
  · cases h
  · obtain ⟨cm, -, h⟩ := bind_eq_ok h
    obtain ⟨ep, -, h⟩ := bind_eq_ok h
    exact ⟨_, finishRead_shape _ _ _ _ _ _ _ h⟩

theorem readFEN_norm (fen : String) (p : Pos) (h : readFEN fen = .ok p) : Norm p := by
  unfold readFEN at h
  cases hr : readFENRaw fen with
  | error e => rw [hr] at h; cases h
  | ok r =>
    rw [hr] at h
    simp only [Except.map] at h
    cases h
    obtain ⟨ep, he⟩ := readFENRaw_shape fen r hr
    unfold RawPos.toPos
    rw [he]
    exact norm_fen_shape _ _ _ _ _ _
@[simp] theorem nextPos_wtm (p : Pos) (m : Mv) : (nextPos p m).wtm = !p.wtm := by simp [nextPos]

theorem apply_hmc (p : Pos) (m : Mv) : (apply p m).hmc = 0 ∨ (apply p m).hmc = p.hmc + 1 := by
  unfold apply
  simp only []
  split
  · exact Or.inl rfl
  · exact Or.inr rfl

theorem nextPos_hmc (p : Pos) (m : Mv) : (nextPos p m).hmc = 0 ∨ (nextPos p m).hmc = p.hmc + 1 := by
  simpa [nextPos] using apply_hmc p m

/-- a move of a piece other than a pawn leaves no en-passant square: the raw position is already normalised -/
theorem apply_ep_none_of_hmc (p : Pos) (m : Mv) (h : (apply p m).hmc ≠ 0) : (apply p m).ep = none := by
  unfold apply at h ⊢
  simp only [] at h ⊢
  split at h
  · exact absurd rfl h
  · next hz =>
    have : (kind (p.at m.f) == 6) = false := by
      cases hk : (kind (p.at m.f) == 6) <;> simp_all
    simp [this]

theorem nextPos_eq_apply (p : Pos) (m : Mv) (h : (apply p m).hmc ≠ 0) : nextPos p m = apply p m :=
  fixupEP_of_ep_none _ (apply_ep_none_of_hmc p m h)

/-- the from-square is empty after a pseudo-legal move -/
theorem apply_from_empty (p : Pos) (m : Mv) (hne : m.f ≠ m.t) : (apply p m).b[m.f] = 0 := by
  show (apply p m).at m.f = 0
  rw [at_eq, apply_b]
  exact applyBoard_f p m hne

/-- every square after a pseudo-legal move holds what it held before, nothing, or a piece of the mover -/
theorem apply_square (p : Pos) (m : Mv) (hp : pseudo p m = true) (s : Sq) :
    (apply p m).b[s] = p.b[s] ∨ (apply p m).b[s] = 0 ∨ own p.wtm (apply p m).b[s] = true := by
  have h := applyBoard_onlyOwn p m hp s.val
  rw [← apply_b, PosImpl.getP_eq _ _ s.isLt, PosImpl.getP_eq _ _ s.isLt] at h
  exact h

/-- **A position never equals the one two plies earlier.**  (Texel's scan starts four plies back.) -/
theorem board_ne_two_plies (p : Pos) (m1 m2 : Mv) (h1 : legalB p m1 = true) (h2 : legalB (nextPos p m1) m2 = true) :
    (nextPos (nextPos p m1) m2).b ≠ p.b := by
  have hp1 : pseudo p m1 = true := legalB_pseudo p m1 h1
  have hp2 : pseudo (nextPos p m1) m2 = true := legalB_pseudo _ m2 h2
  have hne : m1.f ≠ m1.t := by
    unfold pseudo at hp1; simp only [Bool.and_eq_true] at hp1
    simpa using hp1.1.2
  have hown : own p.wtm p.b[m1.f] = true := pseudo_own p m1 hp1
  have hempty : (nextPos p m1).b[m1.f] = 0 := by simp [nextPos, apply_from_empty p m1 hne]
  intro heq
  have hsq := apply_square (nextPos p m1) m2 hp2 m1.f
  have hb : (nextPos (nextPos p m1) m2).b[m1.f] = p.b[m1.f] := by rw [heq]
  simp only [nextPos, fixupEP_b] at hb hsq hempty
  rw [hb] at hsq
  rcases hsq with h | h | h
  · rw [hempty] at h; exact own_ne_zero _ _ hown h
  · exact own_ne_zero _ _ hown h
  · simp only [fixupEP_wtm, apply_wtm] at h
    rw [own_excl _ _ hown] at h
    cases h

end Chess
