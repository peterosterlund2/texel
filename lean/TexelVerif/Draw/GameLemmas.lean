import TexelVerif.Draw.Third
import TexelVerif.Draw.Claim
/-! The console game model: adjudication against rule-level definitions, claims, played moves, the computer player's claims. -/
namespace GameM
open Chess Hist

/-- no legal move and the king is not attacked -/
def isStalemate (p : Pos) : Bool := (genLegal p).isEmpty && !inCheck p.b p.wtm

def numBishops (b : Board) : Nat := countKind b WBISHOP + countKind b BBISHOP
def numKnights (b : Board) : Nat := countKind b WKNIGHT + countKind b BKNIGHT

/-- **dead material** as the console game recognises it: only kings, bishops and knights are left, and either at most
    one of them in total, or no knight and all bishops on squares of one colour -/
def DeadMaterial (b : Board) : Prop :=
  (∀ s : Sq, b[s] ≠ WQUEEN ∧ b[s] ≠ WROOK ∧ b[s] ≠ WPAWN ∧ b[s] ≠ BQUEEN ∧ b[s] ≠ BROOK ∧ b[s] ≠ BPAWN) ∧
  (numBishops b + numKnights b ≤ 1 ∨
   (numKnights b = 0 ∧
     ((∀ s : Sq, (b[s] = WBISHOP ∨ b[s] = BBISHOP) → darkSq s = false) ∨
      (∀ s : Sq, (b[s] = WBISHOP ∨ b[s] = BBISHOP) → darkSq s = true))))

theorem countKind_eq_zero (b : Board) (pc : Pc) : countKind b pc = 0 ↔ ∀ s : Sq, b[s] ≠ pc := by
  unfold countKind
  rw [List.countP_eq_zero]
  simp [allSq]

theorem ite_ne_zero_false (n : Nat) (x : Bool) : (if n != 0 then false else x) = true ↔ n = 0 ∧ x = true := by
  by_cases h : n = 0 <;> simp [h]

theorem insufficientMaterial_iff (b : Board) : insufficientMaterial b = true ↔ DeadMaterial b := by
  unfold insufficientMaterial DeadMaterial numBishops numKnights
  -- no queen, rook or pawn: the six tests of the cascade against the six clauses
  simp only [ite_ne_zero_false, forall_and, ← countKind_eq_zero, and_assoc]
  iterate 6 refine and_congr_right fun _ => ?_
  -- `hall`: "no bishop on a square of colour `v`", as the loop tests it and as a statement
  have hall : ∀ (P : Sq → Bool) (v : Bool), (∀ s : Sq, (b[s] ≠ WBISHOP ∧ b[s] ≠ BBISHOP) ∨ P s = v) ↔
      ∀ s : Sq, (b[s] = WBISHOP ∨ b[s] = BBISHOP) → P s = v := by
    intro P v
    refine forall_congr' fun s => ⟨fun h hs => ?_, fun h => ?_⟩
    · rcases h with hh | hh
      · exact hs.elim (fun e => absurd e hh.1) (fun e => absurd e hh.2)
      · exact hh
    · by_cases hs : b[s] = WBISHOP ∨ b[s] = BBISHOP
      · exact Or.inr (h hs)
      · exact Or.inl ⟨fun e => hs (Or.inl e), fun e => hs (Or.inr e)⟩
  by_cases hle : countKind b WBISHOP + countKind b WKNIGHT + countKind b BBISHOP + countKind b BKNIGHT ≤ 1
  · rw [if_pos hle]
    exact ⟨fun _ => Or.inl (by omega), fun _ => rfl⟩
  · rw [if_neg hle]
    by_cases hn : countKind b WKNIGHT + countKind b BKNIGHT = 0
    · rw [if_pos (by simpa using hn)]
      simp only [Bool.or_eq_true, List.all_eq_true, allSq, List.mem_finRange, true_implies, Bool.not_eq_true',
        Bool.and_eq_false_iff, Bool.or_eq_false_iff, beq_eq_false_iff_ne, Bool.not_eq_false', hall]
      exact ⟨fun h => Or.inr ⟨hn, h⟩, fun h => h.elim (fun h => absurd (by omega) hle) (fun h => h.2)⟩
    · rw [if_neg (by simpa using hn)]
      exact ⟨fun h => (by cases h), fun h => h.elim (fun h => absurd (by omega) hle) (fun h => absurd h.1 hn)⟩

theorem not_dead_of_rook (b : Board) (s : Sq) (h : b[s] = WROOK) : insufficientMaterial b = false := by
  cases hi : insufficientMaterial b
  · rfl
  · exact absurd h (((insufficientMaterial_iff b).1 hi).1 s).2.1

/-- **`getGameState` against the rules**: mate, then stalemate, then dead material, then resignation, then the draw
    state set by an accepted claim or an accepted offer -/
theorem getGameState_eq (g : Game) :
    getGameState g =
      if isMated g.pos then (if g.pos.wtm then .blackMate else .whiteMate)
      else if isStalemate g.pos then (if g.pos.wtm then .whiteStalemate else .blackStalemate)
      else if insufficientMaterial g.pos.b then .drawNoMate
      else if g.resignState ≠ .alive then g.resignState
      else g.drawState := by
  unfold getGameState isMated isStalemate
  by_cases hl : (genLegal g.pos).isEmpty = true <;> by_cases hc : inCheck g.pos.b g.pos.wtm = true <;>
    simp [hl, hc]

theorem alive_fields (g : Game) (h : getGameState g = .alive) :
    g.drawState = .alive ∧ g.resignState = .alive ∧ isMated g.pos = false ∧ isStalemate g.pos = false ∧
      insufficientMaterial g.pos.b = false := by
  rw [getGameState_eq] at h
  by_cases h1 : isMated g.pos = true
  · simp only [h1, if_true] at h; split at h <;> cases h
  · by_cases h2 : isStalemate g.pos = true
    · simp only [h1, h2, if_true, Bool.false_eq_true, if_false] at h; split at h <;> cases h
    · by_cases h3 : insufficientMaterial g.pos.b = true
      · simp only [h1, h2, h3, if_true, Bool.false_eq_true, if_false] at h; cases h
      · by_cases h4 : g.resignState = .alive
        · simp only [h1, h2, h3, h4, Bool.false_eq_true, if_false, ne_eq, not_true_eq_false] at h
          exact ⟨h, h4, by simpa using h1, by simpa using h2, by simpa using h3⟩
        · simp only [h1, h2, h3, h4, Bool.false_eq_true, if_false, ne_eq, not_false_eq_true, if_true] at h

theorem alive_of_legal (g : Game) (m : Mv) (hd : g.drawState = .alive) (hr : g.resignState = .alive)
    (hm : legalB g.pos m = true) (hmat : insufficientMaterial g.pos.b = false) : getGameState g = .alive := by
  have hne : (genLegal g.pos).isEmpty = false := by
    cases hl : genLegal g.pos with
    | nil => have := (mem_genLegal g.pos m).2 hm; rw [hl] at this; cases this
    | cons _ _ => rfl
  simp [getGameState, hne, hmat, hr, hd]

theorem processMove_legal (g : Game) (m : Mv) (hal : getGameState g = .alive) (hm : legalB g.pos m = true) :
    processMove g (some m) = (playMove g m, true) := by
  simp [processMove, hal, hm]

/-- the positions of the game so far, oldest first -/
def gamePositions (g : Game) : List Pos := g.prevs.take g.cur ++ [g.pos]

/-- the position a claim is about: after the named legal move, or the current one -/
def claimed (g : Game) (m : Option Mv) : Pos :=
  match legalOnly g m with
  | some m => apply g.pos m
  | none => g.pos

/-- the claim's positions, oldest first: the game so far and, for a claim with a move, the position after it -/
def claimLine (g : Game) (m : Option Mv) : List Pos :=
  gamePositions g ++ (match legalOnly g m with | some m => [apply g.pos m] | none => [])

theorem repValid_iff (g : Game) (m : Option Mv) :
    repValid g (legalOnly g m) = true ↔
      3 ≤ (claimLine g m).countP (fun q => decide (drawKey q = drawKey (claimed g m))) := by
  unfold repValid claimPositions claimLine claimed gamePositions drawRuleEquals
  cases hm : legalOnly g m with
  | none =>
    simp only [List.nil_append, List.cons_append, decide_eq_true_eq, List.append_nil]
    rw [List.countP_append, List.countP_cons, List.countP_reverse, List.countP_singleton]
  | some mv =>
    simp only [List.cons_append, List.nil_append, decide_eq_true_eq]
    rw [List.countP_cons, List.countP_cons, List.countP_reverse, List.countP_append, List.countP_append,
      List.countP_singleton, List.countP_singleton]

theorem foldl_playMove : ∀ (ms : List Mv) (g : Game), g.cur ≤ g.prevs.length →
    gamePositions (ms.foldl playMove g) = g.prevs.take g.cur ++ states nextPos g.pos ms ∧
    (ms.foldl playMove g).pos = ms.foldl nextPos g.pos ∧ (ms.foldl playMove g).cur = g.cur + ms.length ∧
    (ms.foldl playMove g).drawState = g.drawState ∧ (ms.foldl playMove g).resignState = g.resignState
  | [], g, _ => ⟨rfl, rfl, rfl, rfl, rfl⟩
  | m :: ms, g, h => by
    have hl : (g.prevs.take g.cur ++ [g.pos]).length = g.cur + 1 := by simp [Nat.min_eq_left h]
    obtain ⟨i1, i2, i3, i4, i5⟩ := foldl_playMove ms (playMove g m) (by simp only [playMove, hl]; exact Nat.le_refl _)
    refine ⟨?_, i2, by rw [List.foldl_cons, i3, List.length_cons]; simp only [playMove]; omega, i4, i5⟩
    rw [List.foldl_cons, i1]
    simp only [playMove, states]
    rw [← hl, List.take_length, List.append_assoc]
    rfl

theorem repValid_some (g : Game) (m : Mv) (hm : legalB g.pos m = true) :
    repValid g (some m) = decide (3 ≤ (gamePositions g ++ [apply g.pos m]).countP
      (fun q => decide (drawKey q = drawKey (apply g.pos m)))) := by
  have h := repValid_iff g (some m)
  simp only [legalOnly, hm, if_true, claimLine, claimed] at h
  rw [Bool.eq_iff_iff, h, decide_eq_true_iff]
theorem legalOnly_idem (g : Game) (m : Option Mv) : legalOnly g (legalOnly g m) = legalOnly g m := by
  unfold legalOnly
  cases m with
  | none => rfl
  | some mv =>
    by_cases h : legalB g.pos mv = true
    · simp [h]
    · simp [h]

theorem processMove_drawState (g : Game) (m : Option Mv) : (processMove g m).1.drawState = g.drawState := by
  unfold processMove
  split
  · rfl
  · split
    · rfl
    · split
      · rfl
      · rfl

theorem processMove_resignState (g : Game) (m : Option Mv) : (processMove g m).1.resignState = g.resignState := by
  unfold processMove
  split
  · rfl
  · split
    · rfl
    · split
      · rfl
      · rfl

/-- `draw rep [m]` in a live game is accepted exactly when the claimed position occurs at least three times in the
    claim's line (positions compared by `Position::drawRuleEquals`) -/
theorem claim_rep_iff (g : Game) (m : Option Mv) (hal : getGameState g = .alive) :
    (claim g true m).drawState = .drawRep ↔
      3 ≤ (claimLine g m).countP (fun q => decide (drawKey q = drawKey (claimed g m))) := by
  rw [← repValid_iff]
  have ha := (alive_fields g hal).1
  unfold claim
  simp only [if_true]
  by_cases hv : repValid g (legalOnly g m) = true
  · simp [hv]
  · simp only [hv, Bool.false_eq_true, if_false, iff_false]
    split
    · rw [processMove_drawState]; simp [ha]
    · simp [ha]

/-- `draw 50 [m]` in a live game is accepted exactly when the clock of the claimed position has reached 100 -/
theorem claim_50_iff (g : Game) (m : Option Mv) (hal : getGameState g = .alive) :
    (claim g false m).drawState = .draw50 ↔ 100 ≤ (claimed g m).hmc := by
  have ha := (alive_fields g hal).1
  have hv : fiftyValid g (legalOnly g m) = decide (100 ≤ (claimed g m).hmc) := by
    unfold fiftyValid claimed
    cases legalOnly g m <;> rfl
  unfold claim
  simp only [Bool.false_eq_true, if_false, hv]
  by_cases h : 100 ≤ (claimed g m).hmc
  · simp [h]
  · simp only [h, decide_false, Bool.false_eq_true, if_false, iff_false]
    split
    · rw [processMove_drawState]; simp [ha]
    · simp [ha]

theorem drawRep_outcome (fr : Bool) (g : Game) (m : Mv) (hal : getGameState g = .alive) (hm : legalB g.pos m = true) :
    (processString fr g (.drawRep (some m))).1.drawState = (if repValid g (some m) then .drawRep else g.drawState) ∧
    (processString fr g (.drawRep (some m))).1.cur = (if repValid g (some m) then g.cur else g.cur + 1) := by
  have hal' : getGameState { g with pending := true } = .alive := hal
  have e : processMove { g with pending := true } (some m) = (playMove { g with pending := true } m, true) :=
    processMove_legal _ m hal' hm
  simp only [processString, hal, beq_self_eq_true, if_true, claim, legalOnly, hm]
  split
  · exact ⟨rfl, rfl⟩
  · rw [e]; exact ⟨rfl, rfl⟩

/-- the hypotheses under which the hash scan decides repetition: see `Hist.scanOld_iff` -/
structure ScanHyp (hash : Pos → Nat) (l : List Pos) (new : Pos) : Prop where
  hinj : ∀ q ∈ l, hash q = hash new → drawKey q = drawKey new
  hwf : ∀ q ∈ l, drawKey q = drawKey new → hash q = hash new
  hwin : ∀ (i : Nat) q, l[i]? = some q → drawKey q = drawKey new → i + 4 ≤ l.length ∧ (l.length - i) % 2 = 0
  hclk : ((l.length : Int) ≤ new.hmc) ∨ ∀ q ∈ l, drawKey q ≠ drawKey new

theorem canClaimDraw_eq (hash : Pos → Nat) (hist : List Pos) (p : Pos) (m : Mv)
    (h1 : ScanHyp hash hist p) (h2 : ScanHyp hash (hist ++ [p]) (apply p m)) :
    canClaimDraw hash hist p m =
      if 100 ≤ p.hmc then .d50
      else if 2 ≤ hist.countP (fun q => decide (drawKey q = drawKey p)) then .rep
      else if 100 ≤ (apply p m).hmc then .d50m
      else if 2 ≤ (hist ++ [p]).countP (fun q => decide (drawKey q = drawKey (apply p m))) then .repm
      else .none := by
  have e1 := scanOld_iff drawKey hash hist p p.hmc hist.length (by omega) h1.hinj h1.hwf h1.hwin h1.hclk
  have e2 := scanOld_iff drawKey hash (hist ++ [p]) (apply p m) (apply p m).hmc (hist.length + 1)
    (by simp only [List.length_append, List.length_singleton]; omega) h2.hinj h2.hwf h2.hwin h2.hclk
  unfold canClaimDraw
  simp only []
  by_cases a : 100 ≤ p.hmc
  · simp [a]
  · simp only [a, if_false]
    by_cases b : 2 ≤ hist.countP (fun q => decide (drawKey q = drawKey p))
    · simp only [b, if_true]; rw [if_pos (e1.2 b)]
    · simp only [b, if_false]
      rw [if_neg (fun h => b (e1.1 h))]
      by_cases c : 100 ≤ (apply p m).hmc
      · simp [c]
      · simp only [c, if_false]
        by_cases d : 2 ≤ (hist ++ [p]).countP (fun q => decide (drawKey q = drawKey (apply p m)))
        · simp only [d, if_true]; rw [if_pos (e2.2 d)]
        · simp only [d, if_false]; rw [if_neg (fun h => d (e2.1 h))]

end GameM
