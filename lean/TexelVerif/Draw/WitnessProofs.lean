import TexelVerif.Draw.Witness
import TexelVerif.Draw.GameLemmas
import TexelVerif.Chess.UnMoveComplete
/-! The witness game.  The kernel evaluates one statement, `wLine_facts`, about the positions `wL` after `e2e4`; histories and
    console runs are reduced to it.  The only e.p. square (after `e2e4`) is normalised by `fixupEP_of_epShape`, not by move generation. -/
namespace Chess
open Hist GameM

/-- after `e2e4`, as `makeMove` leaves it: e.p. square e3 -/
def wE : Pos := apply wP0 (mv 12 28)

/-- normalised: the d-pawn is pinned, so the square is dropped -/
def wQ : Pos := { wE with ep := none }

/-- the positions from `wQ` to the root `wR`; `wN` after the root move -/
def wL : List Pos := states nextPos wQ wMoves.tail
def wR : Pos := wMoves.tail.foldl nextPos wQ
def wN : Pos := apply wR wM

def wSame (q : Pos) : Bool := decide (drawKey q = drawKey wN)

-- concrete data: the elaborator's unifier must never unfold them
attribute [irreducible] wE wQ wL wR wN

theorem nextPos_wP0 : nextPos wP0 (mv 12 28) = wQ := by
  have h : epShape wE = true ∧ epValid wE = false := by decide +kernel
  unfold nextPos
  rw [show apply wP0 (mv 12 28) = wE by rw [wE], fixupEP_of_epShape _ h.1, h.2, wQ]
  rfl

set_option maxRecDepth 100000 in
theorem wLine_facts :
    legalB wP0 (mv 12 28) = true ∧ wQ.hmc = 0 ∧ (kind (wE.at (mv 59 51).f) == 6) = false ∧
    LegalLine wQ wMoves.tail ∧ legalB wR wM = true ∧
    (wP0 :: wL).all (fun q => q.b[sq 3] == WROOK) = true ∧ wL.tail.all (fun q => q.hmc != 0) = true ∧
    (wN.hmc != 0) = true ∧
    wL.countP wSame = 2 ∧ (wP0 :: wL ++ [wN]).countP wSame = 3 ∧ (wP0 :: wE :: wL.tail ++ [wN]).countP wSame = 2 ∧
    (wE :: wL.tail).countP wSame = 1 ∧
    (wE :: wL.tail).dropLast.map (·.ep) = [some ⟨20, by decide⟩, none, none, none, none, none, none] := by
  decide +kernel

/-- the second move is a king move: it does not look at the e.p. square -/
theorem wE_second :
    apply wE (mv 59 51) = apply wQ (mv 59 51) ∧ legalB wE (mv 59 51) = legalB wQ (mv 59 51) := by
  have hside : ¬ (kind (wE.at (mv 59 51).f) = 6 ∧ wE.ep = some (mv 59 51).t) :=
    fun h => by have := wLine_facts.2.2.1; simp [h.1] at this
  have hQ : noEp wE = wQ := by rw [wQ]; rfl
  rw [← hQ]
  exact ⟨(apply_noEp wE _ hside).symm, (legalB_noEp wE _ hside).symm⟩

theorem wL_no_zero : ∀ q ∈ (states nextPos wQ wMoves.tail).tail, q.hmc ≠ 0 := by
  have hz := wLine_facts.2.2.2.2.2.2.1
  rw [List.all_eq_true, wL] at hz
  exact fun q hq => by simpa using hz q hq

theorem rawHistory_wP0 :
    (rawHistory wP0 wMoves).1 ++ [(rawHistory wP0 wMoves).2] = wE :: wL.tail ∧ (rawHistory wP0 wMoves).2 = wR ∧
    (rawHistory wP0 wMoves).1 = (wE :: wL.tail).dropLast := by
  obtain ⟨c1, c2⟩ := states_congr_first apply wMoves.tail.tail wE_second.1
  have hst : states apply wE wMoves.tail = wE :: wL.tail := by
    rw [states_eq_cons_tail, wL, ← states_apply_eq_nextPos wQ _ wL_no_zero]
    exact congrArg _ c1
  have hroot : wMoves.tail.foldl apply wE = wR := by
    rw [wR, ← foldl_apply_eq_nextPos wQ _ wL_no_zero]
    exact c2
  have hz : ∀ q ∈ (states apply wE wMoves.tail).tail, q.hmc ≠ 0 := by
    rw [hst, List.tail_cons]
    exact fun q hq => wL_no_zero q (by rw [← wL]; exact hq)
  have e : rawHistory wP0 wMoves = rawHistory wE wMoves.tail := by
    have h0 := wLine_facts.2.1
    rw [wQ, wE] at h0
    rw [wE]
    exact setupPosition_cons_zero _ _ _ _ _ _ h0
  rw [e]
  unfold rawHistory
  rw [setupPosition_no_zero _ _ _ _ _ (by decide) hz, List.map_id', hroot, ← hst]
  exact ⟨by rw [← hroot]; exact states_dropLast_append _ _ _, rfl, rfl⟩

theorem givenHistory_wP0 : (givenHistory wP0 wMoves).1 ++ [(givenHistory wP0 wMoves).2] = wL ∧ (givenHistory wP0 wMoves).2 = wR := by
  have e : givenHistory wP0 wMoves = givenHistory wQ wMoves.tail := by
    rw [← nextPos_wP0]
    exact setupPosition_cons_zero _ _ _ _ _ _ ((congrArg Pos.hmc nextPos_wP0).trans wLine_facts.2.1)
  rw [e, wL, wR]
  unfold givenHistory
  rw [setupPosition_no_zero _ _ _ _ _ (by decide) wL_no_zero, List.map_id']
  exact ⟨states_dropLast_append _ _ _, rfl⟩

/-- the console script `setpos 3k4/8/8/8/3p4/8/4P3/3R2K1 w - - 0 1; e2e4; undo; redo; d8d7 g1g2 d7d8 g2g1 d8e8 g1g2 e8d8;
    draw rep g2g1` -/
def redoScript : List Cmd :=
  [.move (some (mv 12 28)), .undo, .redo] ++ (wMoves.drop 1).map (fun m => Cmd.move (some m)) ++ [.drawRep (some wM)]

def runCmds (fixRedo : Bool) (g : Game) (cs : List Cmd) : Game := cs.foldl (fun g c => (processString fixRedo g c).1) g

theorem runCmds_append (fr : Bool) (g : Game) (cs ds : List Cmd) : runCmds fr g (cs ++ ds) = runCmds fr (runCmds fr g cs) ds :=
  List.foldl_append

theorem runCmds_moves (fr : Bool) : ∀ (ms : List Mv) (g : Game), g.drawState = .alive → g.resignState = .alive →
    LegalLine g.pos ms → (∀ q ∈ states nextPos g.pos ms, insufficientMaterial q.b = false) →
    runCmds fr g (ms.map fun m => Cmd.move (some m)) = ms.foldl playMove g
  | [], _, _, _, _, _ => rfl
  | m :: ms, g, hd, hr, hl, hmat => by
    have hal := alive_of_legal g m hd hr hl.1 (hmat _ (List.mem_cons_self ..))
    show runCmds fr (processString fr g (.move (some m))).1 _ = _
    rw [show processString fr g (.move (some m)) = processMove g (some m) from rfl, processMove_legal g m hal hl.1]
    exact runCmds_moves fr ms (playMove g m) hd hr hl.2 (fun q hq => hmat q (List.mem_cons_of_mem _ hq))

theorem runCmds_move_undo_redo (fr : Bool) (p : Pos) (m : Mv) (hal : getGameState (newGame p) = .alive) (hm : legalB p m = true) :
    runCmds fr (newGame p) [.move (some m), .undo, .redo] =
      { pos := if fr then nextPos p m else apply p m, moves := [m], prevs := [p], offers := [false], cur := 1 } := by
  have e : processString fr (newGame p) (.move (some m)) = (playMove (newGame p) m, true) := processMove_legal _ m hal hm
  simp only [runCmds, List.foldl_cons, List.foldl_nil, e]
  cases fr <;> rfl

def wX (fr : Bool) : Pos := if fr then wQ else wE
def wG (q : Pos) : Game := { pos := q, moves := [mv 12 28], prevs := [wP0], offers := [false], cur := 1 }

theorem wX_line (fr : Bool) :
    LegalLine (wX fr) wMoves.tail ∧ states nextPos (wX fr) wMoves.tail = wX fr :: wL.tail ∧
    wMoves.tail.foldl nextPos (wX fr) = wR := by
  have hl := wLine_facts.2.2.2.1
  cases fr
  · have hn : nextPos wE (mv 59 51) = nextPos wQ (mv 59 51) := by unfold nextPos; rw [wE_second.1]
    obtain ⟨c1, c2, c3⟩ := line_congr_first wMoves.tail.tail wE_second.2 hn
    rw [wL, wR]
    exact ⟨c1.2 hl, by rw [states_eq_cons_tail]; exact congrArg _ c2, c3⟩
  · rw [wL, wR]
    exact ⟨hl, states_eq_cons_tail _ _ _, rfl⟩

theorem redo_run (fr : Bool) :
    (runCmds fr (newGame wP0) redoScript).drawState = (if fr then .drawRep else .alive) ∧
    (runCmds fr (newGame wP0) redoScript).cur = (if fr then 8 else 9) := by
  obtain ⟨hm, -, -, -, hm8, hrook, -, -, -, c3, c2, -, -⟩ := wLine_facts
  obtain ⟨hl, hst, hroot⟩ := wX_line fr
  rw [List.all_eq_true] at hrook
  have hmat : ∀ q ∈ wP0 :: wL, insufficientMaterial q.b = false :=
    fun q hq => not_dead_of_rook q.b (sq 3) (by simpa using hrook q hq)
  have hmatX : ∀ q ∈ states nextPos (wX fr) wMoves.tail, insufficientMaterial q.b = false := by
    rw [hst]
    intro q hq
    rcases List.mem_cons.1 hq with rfl | hq
    · -- `wE` and `wQ` have the same board
      have : (wX fr).b = wQ.b := by
        cases fr
        · show wE.b = wQ.b
          rw [wQ]
        · rfl
      rw [this]; exact hmat _ (by rw [wL, states_eq_cons_tail]; simp)
    · exact hmat _ (List.mem_cons_of_mem _ (List.mem_of_mem_tail hq))
  have hal0 : getGameState (newGame wP0) = .alive := alive_of_legal _ _ rfl rfl hm (hmat _ (List.mem_cons_self ..))
  obtain ⟨g8, hg8⟩ : ∃ g, g = wMoves.tail.foldl playMove (wG (wX fr)) := ⟨_, rfl⟩
  obtain ⟨f1, f2, f3, f4, f5⟩ := foldl_playMove wMoves.tail (wG (wX fr)) (Nat.le_refl 1)
  rw [← hg8] at f1 f2 f3 f4 f5
  simp only [wG, hroot, hst] at f1 f2 f3 f4 f5
  have e : runCmds fr (newGame wP0) redoScript = (processString fr g8 (.drawRep (some wM))).1 := by
    unfold redoScript
    rw [List.append_assoc, runCmds_append, runCmds_move_undo_redo fr wP0 _ hal0 hm, nextPos_wP0, runCmds_append,
      show wMoves.drop 1 = wMoves.tail from rfl, ← wE]
    change runCmds fr (runCmds fr (wG (wX fr)) _) _ = _
    rw [runCmds_moves fr _ (wG (wX fr)) rfl rfl hl hmatX, hg8]
    rfl
  have hm8' : legalB g8.pos wM = true := by rw [f2]; exact hm8
  have hal8 : getGameState g8 = .alive :=
    alive_of_legal g8 wM f4 f5 hm8' (by rw [f2]; exact hmat _ (List.mem_cons_of_mem _ (List.mem_of_getLast? (by rw [wL, wR]; exact states_getLast? _ _ _))))
  obtain ⟨o1, o2⟩ := drawRep_outcome fr g8 wM hal8 hm8'
  have hv : repValid g8 (some wM) = fr := by
    have hL : wL = wQ :: wL.tail := by rw [wL]; exact states_eq_cons_tail _ _ _
    rw [repValid_some g8 wM hm8', f1, f2, ← wN]
    cases fr
    · refine decide_eq_false ?_
      show ¬ 3 ≤ List.countP wSame (wP0 :: wE :: wL.tail ++ [wN])
      rw [c2]; decide
    · refine decide_eq_true ?_
      show 3 ≤ List.countP wSame (wP0 :: (wQ :: wL.tail) ++ [wN])
      rw [← hL, c3]; exact Nat.le_refl 3
  rw [e, o1, o2, hv, f4, f3]
  cases fr <;> exact ⟨rfl, rfl⟩

end Chess
