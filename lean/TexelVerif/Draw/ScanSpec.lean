import TexelVerif.Draw.RepScan
/-!
# Declarative characterisation of `Search::canClaimDrawRep` (search.hpp:329-341)

`Rep.loop_eq` describes the loop through the list `hits` of matching indices it visits.  Here `hits` is characterised
(for any fuel covering the distance to `stop`) as exactly the indices `j` with `stop ≤ j ≤ i`, `i - j` even and
`hs j = h`, in strictly descending order; hence the scan is true iff some matching index of the *window*
lies at or above `posHashFirstNew`, or two different indices of the window match.
-/
namespace Rep

/-- the indices the scan looks at: `max 0 (size - hmc) ≤ i ≤ size - 4`, same parity as `size` -/
def InWindow (size hmc i : Int) : Prop := max 0 (size - hmc) ≤ i ∧ i ≤ size - 4 ∧ (size - i) % 2 = 0

instance (size hmc i : Int) : Decidable (InWindow size hmc i) := by unfold InWindow; exact inferInstance

/-- `i < stop + 2 * f`: the fuel covers the walk from `i` down to `stop` in steps of 2 -/
theorem mem_hits (hs : Nat → Nat) (stop : Int) (h : Nat) :
    ∀ (f : Nat) (i j : Int), i < stop + 2 * f → (j ∈ hits hs stop h f i ↔ stop ≤ j ∧ j ≤ i ∧ (i - j) % 2 = 0 ∧ hs j.toNat = h)
  | 0, i, j, hf => by
    simp only [hits, List.not_mem_nil, false_iff]
    omega
  | f+1, i, j, hf => by
    unfold hits
    by_cases h1 : i < stop
    · simp only [h1, if_true, List.not_mem_nil, false_iff]; omega
    · simp only [h1, if_false]
      have ih := mem_hits hs stop h f (i - 2) j (by omega)
      by_cases h2 : hs i.toNat = h
      · simp only [h2, if_true, List.mem_cons, ih]
        constructor
        · rintro (rfl | ⟨a, b, c, d⟩)
          · exact ⟨by omega, by omega, by omega, h2⟩
          · exact ⟨a, by omega, by omega, d⟩
        · rintro ⟨a, b, c, d⟩
          by_cases e : j = i
          · exact Or.inl e
          · exact Or.inr ⟨a, by omega, by omega, d⟩
      · simp only [h2, if_false, ih]
        constructor
        · rintro ⟨a, b, c, d⟩; exact ⟨a, by omega, by omega, d⟩
        · rintro ⟨a, b, c, d⟩
          have : j ≠ i := by rintro rfl; exact h2 d
          exact ⟨a, by omega, by omega, d⟩

/-- the hit list is strictly descending -/
theorem hits_sorted (hs : Nat → Nat) (stop : Int) (h : Nat) :
    ∀ f i, (hits hs stop h f i).Pairwise (fun a b => b < a)
  | 0, i => by simp [hits]
  | f+1, i => by
    unfold hits
    split
    · exact List.Pairwise.nil
    · split
      · refine List.Pairwise.cons ?_ (hits_sorted hs stop h f (i - 2))
        intro b hb
        have := hits_le hs stop h f (i - 2) b hb
        omega
      · exact hits_sorted hs stop h f (i - 2)

theorem two_le_length_iff {l : List Int} (hl : l.Pairwise (fun a b => b < a)) :
    2 ≤ l.length ↔ ∃ a ∈ l, ∃ b ∈ l, b ≠ a := by
  constructor
  · intro h2
    match l, h2 with
    | a :: b :: t, _ =>
      have hab : b < a := (List.pairwise_cons.1 hl).1 b (List.mem_cons_self ..)
      exact ⟨a, List.mem_cons_self .., b, List.mem_cons_of_mem _ (List.mem_cons_self ..), by omega⟩
  · rintro ⟨a, ha, b, hb, hne⟩
    match l, ha, hb with
    | [], ha, _ => cases ha
    | [x], ha, hb =>
      simp only [List.mem_singleton] at ha hb
      exact absurd (hb.trans ha.symm) hne
    | _ :: _ :: _, _, _ => simp

/-- **The scan, declaratively.**  `canClaimDrawRep` is true iff some index `i` of the window holds the current hash
    and either lies at or above `posHashFirstNew` (a position reached inside the search tree: one earlier occurrence is
    enough) or a second index of the window holds it too (positions played over the board: two earlier occurrences). -/
theorem canClaimDrawRep_iff (hs : Nat → Nat) (size hmc firstNew : Int) (h : Nat) :
    canClaimDrawRep hs size hmc firstNew h = true ↔
      ∃ i, InWindow size hmc i ∧ hs i.toNat = h ∧
        (firstNew ≤ i ∨ ∃ j, InWindow size hmc j ∧ j ≠ i ∧ hs j.toNat = h) := by
  unfold canClaimDrawRep
  simp only []
  rw [loop_eq]
  have hstop : (0 : Int) ≤ max 0 (size - hmc) := Int.le_max_left _ _
  have hfuel : size - 4 < max 0 (size - hmc) + 2 * ((size.toNat + 1 : Nat) : Int) := by omega
  have mem : ∀ j, j ∈ hits hs (max 0 (size - hmc)) h (size.toNat + 1) (size - 4) ↔ (InWindow size hmc j ∧ hs j.toNat = h) := by
    intro j
    rw [mem_hits hs _ h _ _ j hfuel]
    unfold InWindow
    constructor
    · rintro ⟨a, b, c, d⟩; exact ⟨⟨a, b, by omega⟩, d⟩
    · rintro ⟨⟨a, b, c⟩, d⟩; exact ⟨a, b, by omega, d⟩
  have hs2 := two_le_length_iff (hits_sorted hs (max 0 (size - hmc)) h (size.toNat + 1) (size - 4))
  simp only [decide_eq_true_eq, Nat.zero_add]
  constructor
  · rintro (⟨j, hj, hf⟩ | ⟨h2, _⟩)
    · obtain ⟨hw, he⟩ := (mem j).1 hj
      exact ⟨j, hw, he, Or.inl hf⟩
    · obtain ⟨a, ha, b, hb, hne⟩ := hs2.1 h2
      obtain ⟨hwa, hea⟩ := (mem a).1 ha
      obtain ⟨hwb, heb⟩ := (mem b).1 hb
      exact ⟨a, hwa, hea, Or.inr ⟨b, hwb, hne, heb⟩⟩
  · rintro ⟨i, hw, he, (hf | ⟨j, hwj, hne, hej⟩)⟩
    · exact Or.inl ⟨i, (mem i).2 ⟨hw, he⟩, hf⟩
    · have hi := (mem i).2 ⟨hw, he⟩
      have hj := (mem j).2 ⟨hwj, hej⟩
      refine Or.inr ⟨hs2.2 ⟨i, hi, j, hj, hne⟩, ?_⟩
      intro hnil; rw [hnil] at hi; cases hi

/-- shifting the list: dropping `n` leading entries that lie outside the half-move-clock window changes nothing
    (used for "the list is cleared on a zeroing move" and "cleared when longer than 100") -/
theorem canClaimDrawRep_shift (hs : Nat → Nat) (size hmc firstNew : Int) (h : Nat) (n : Nat)
    (hn : (n : Int) ≤ size - hmc) :
    canClaimDrawRep hs size hmc firstNew h = canClaimDrawRep (fun i => hs (i + n)) (size - n) hmc (firstNew - n) h := by
  rw [Bool.eq_iff_iff, canClaimDrawRep_iff, canClaimDrawRep_iff]
  have win : ∀ i : Int, InWindow size hmc i ↔ InWindow (size - n) hmc (i - n) := by
    intro i; unfold InWindow; omega
  have idx : ∀ i : Int, InWindow size hmc i → (i - n).toNat + n = i.toNat := by
    intro i hi; unfold InWindow at hi; omega
  have idx2 : ∀ i : Int, InWindow (size - n) hmc i → (i + n).toNat = i.toNat + n := by
    intro i hi; unfold InWindow at hi; omega
  constructor
  · rintro ⟨i, hw, he, hr⟩
    refine ⟨i - n, (win i).1 hw, by simp only [idx i hw]; exact he, ?_⟩
    rcases hr with hf | ⟨j, hwj, hne, hej⟩
    · exact Or.inl (by omega)
    · exact Or.inr ⟨j - n, (win j).1 hwj, by omega, by simp only [idx j hwj]; exact hej⟩
  · rintro ⟨i, hw, he, hr⟩
    have hw' : InWindow size hmc (i + n) := (win (i + n)).2 (by simpa using hw)
    have e1 := idx2 i hw
    refine ⟨i + n, hw', by rw [e1]; exact he, ?_⟩
    rcases hr with hf | ⟨j, hwj, hne, hej⟩
    · left; omega
    · have hwj' : InWindow size hmc (j + n) := (win (j + n)).2 (by simpa using hwj)
      have e2 := idx2 j hwj
      have hne' : j + n ≠ i + n := by omega
      right
      exact ⟨j + n, hwj', hne', by rw [e2]; exact hej⟩

end Rep
