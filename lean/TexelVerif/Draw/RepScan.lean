/-! `Search::canClaimDrawRep` (search.hpp:329-341): the loop as written, and its result through the list of matching
    indices it visits (`loop_eq`). -/
namespace Rep

/-- the C++ loop: i runs size-4, size-6, … while i ≥ stop; `2 ≤ reps + 1` is the C++ `++reps >= 2` -/
def loop (hs : Nat → Nat) (stop firstNew : Int) (h : Nat) : Nat → Int → Nat → Bool
  | 0, _, _ => false
  | f+1, i, reps =>
    if i < stop then false
    else if hs i.toNat = h then
      (if firstNew ≤ i ∨ 2 ≤ reps + 1 then true else loop hs stop firstNew h f (i - 2) (reps + 1))
    else loop hs stop firstNew h f (i - 2) reps

def canClaimDrawRep (hs : Nat → Nat) (size hmc firstNew : Int) (h : Nat) : Bool :=
  let stop := max 0 (size - hmc)
  loop hs stop firstNew h (size.toNat + 1) (size - 4) 0

/-- the matching indices visited, in visiting (descending) order -/
def hits (hs : Nat → Nat) (stop : Int) (h : Nat) : Nat → Int → List Int
  | 0, _ => []
  | f+1, i => if i < stop then [] else
      if hs i.toNat = h then i :: hits hs stop h f (i - 2) else hits hs stop h f (i - 2)

theorem hits_le (hs : Nat → Nat) (stop : Int) (h : Nat) : ∀ f i j, j ∈ hits hs stop h f i → j ≤ i
  | 0, _, _, hj => by simp [hits] at hj
  | f+1, i, j, hj => by
    unfold hits at hj
    split at hj
    · cases hj
    · split at hj
      · rcases List.mem_cons.1 hj with rfl | hj'
        · omega
        · have := hits_le hs stop h f (i-2) j hj'; omega
      · have := hits_le hs stop h f (i-2) j hj; omega

/-- loop result in terms of the hit list -/
theorem loop_eq (hs : Nat → Nat) (stop firstNew : Int) (h : Nat) :
    ∀ f i reps, loop hs stop firstNew h f i reps =
      decide ((∃ j ∈ hits hs stop h f i, firstNew ≤ j) ∨ 2 ≤ reps + (hits hs stop h f i).length ∧ (hits hs stop h f i) ≠ [])
  | 0, i, reps => by simp [loop, hits]
  | f+1, i, reps => by
    unfold loop hits
    by_cases h1 : i < stop
    · simp [h1]
    · simp only [h1, if_false]
      by_cases h2 : hs i.toNat = h
      · simp only [h2, if_true]
        by_cases h3 : firstNew ≤ i ∨ 2 ≤ reps + 1
        · simp only [h3, if_true]
          rcases h3 with h3 | h3
          · simp [h3]
          · simp; right; omega
        · simp only [h3, if_false]
          rw [loop_eq hs stop firstNew h f (i-2) (reps+1)]
          have h3a : ¬ firstNew ≤ i := fun e => h3 (Or.inl e)
          have h3b : reps = 0 := by omega
          subst h3b
          -- all later hits are below i hence below firstNew
          have hlow : ∀ j ∈ hits hs stop h f (i-2), ¬ firstNew ≤ j := by
            intro j hj; have := hits_le hs stop h f (i-2) j hj; omega
          have e1 : (∃ j ∈ hits hs stop h f (i - 2), firstNew ≤ j) ↔ False :=
            ⟨fun ⟨j, hj, hh⟩ => hlow j hj hh, False.elim⟩
          have e2 : (∃ j ∈ i :: hits hs stop h f (i - 2), firstNew ≤ j) ↔ False :=
            ⟨fun ⟨j, hj, hh⟩ => by
              rcases List.mem_cons.1 hj with rfl | hj'
              · exact h3a hh
              · exact hlow j hj' hh, False.elim⟩
          simp only [e1, e2, false_or, List.length_cons]
          cases hl : hits hs stop h f (i-2) with
          | nil => simp
          | cons a t => simp; omega
      · simp only [h2, if_false]
        exact loop_eq hs stop firstNew h f (i-2) reps

end Rep
