import TexelVerif.Search.Root
/-! The pinned index of the reduced-strength subset, and the invariant `Fresh` of the `notifyPV` selection loop. -/
namespace Search

theorem mod_mem_includedIdx (n pin : Nat) (incl : Nat → Bool) (h : 0 < n) : pin % n ∈ includedIdx n pin incl :=
  List.mem_filter.2 ⟨List.mem_range.2 (Nat.mod_lt _ h), by simp⟩

theorem includedIdx_nonempty (n pin : Nat) (incl : Nat → Bool) (h : 0 < n) : includedIdx n pin incl ≠ [] :=
  List.ne_nil_of_mem (mod_mem_includedIdx n pin incl h)

theorem includedIdx_lt (n pin : Nat) (incl : Nat → Bool) (i : Nat) (h : i ∈ includedIdx n pin incl) : i < n :=
  List.mem_range.1 (List.mem_filter.1 h).1

/-- what the rest of a `notifyPV` report may print when the scan stands at index `i`: line `mi` (only if not yet
    printed) and lines `≥ i` other than `mi`, each once -/
def Fresh (mi i : Nat) (miNotified : Bool) (l : List Nat) : Prop :=
  (∀ j ∈ l, (j = mi ∧ miNotified = false) ∨ (i ≤ j ∧ j ≠ mi)) ∧ l.Nodup

theorem Fresh.nil (mi i : Nat) (b : Bool) : Fresh mi i b [] := ⟨by simp, List.nodup_nil⟩

theorem Fresh.weaken {mi i : Nat} {b : Bool} {l : List Nat} (h : Fresh mi (i + 1) b l) : Fresh mi i b l :=
  ⟨fun j hj => (h.1 j hj).imp_right fun ⟨h1, h2⟩ => ⟨by omega, h2⟩, h.2⟩

theorem Fresh.cons_mi {mi i : Nat} {l : List Nat} (h : Fresh mi i true l) : Fresh mi i false (mi :: l) := by
  have hl : ∀ j ∈ l, i ≤ j ∧ j ≠ mi := fun j hj => (h.1 j hj).resolve_left fun h' => Bool.noConfusion h'.2
  refine ⟨fun j hj => ?_, List.nodup_cons.2 ⟨fun hm => (hl mi hm).2 rfl, h.2⟩⟩
  rcases List.mem_cons.1 hj with rfl | hj
  · exact Or.inl ⟨rfl, rfl⟩
  · exact Or.inr (hl j hj)

theorem Fresh.cons_i {mi i : Nat} {b : Bool} {l : List Nat} (h : Fresh mi (i + 1) b l) (hi : i ≠ mi) : Fresh mi i b (i :: l) := by
  refine ⟨fun j hj => ?_, List.nodup_cons.2 ⟨fun hm => ?_, h.2⟩⟩
  · rcases List.mem_cons.1 hj with rfl | hj
    · exact Or.inr ⟨Nat.le_refl _, hi⟩
    · exact h.weaken.1 j hj
  · rcases h.1 i hm with ⟨h1, _⟩ | ⟨h1, _⟩
    · exact hi h1
    · omega

theorem notifyLoop_spec (score alpha : Nat → Int) (mi maxPV : Nat) :
    ∀ fuel i n miN, Fresh mi i miN (notifyLoop score alpha mi maxPV fuel i n miN) := by
  intro fuel
  induction fuel with
  | zero => intro i n miN; exact Fresh.nil ..
  | succ f ih =>
    intro i n miN
    unfold notifyLoop
    simp only
    split
    · exact Fresh.nil ..
    · split
      · next he =>
        obtain rfl : miN = false := by
          simp only [Bool.and_eq_true, Bool.not_eq_true'] at he; exact he.1.1
        split
        · exact (Fresh.nil mi i true).cons_mi
        · split
          · exact (ih (i + 1) (n + 1) true).weaken.cons_mi
          · next hi => exact ((ih (i + 1) (n + 2) true).cons_i (by simpa using hi)).cons_mi
      · split
        · split
          · next hn =>
            obtain rfl : miN = false := by simpa using hn
            exact (ih (i + 1) (n + 1) true).weaken.cons_mi
          · exact (ih (i + 1) n miN).weaken
        · next hi => exact (ih (i + 1) (n + 1) miN).cons_i (by simpa using hi)

end Search
