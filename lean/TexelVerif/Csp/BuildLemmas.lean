import TexelVerif.Csp.Build
/-! Specifications of the building API: each call restricts the solution set exactly as documented. -/
namespace Csp

theorem ptrn_getAll : ∀ i : Fin 64, (0x5555555555555555#64).getLsbD i.val = decide (i.val % 2 = 0) := by decide
theorem ptrn1_getAll : ∀ i : Fin 64, (0x5555555555555555#64 <<< 1).getLsbD i.val = decide (i.val % 2 = 1) := by decide

theorem removeOdd_has (d : Dom) (x : Int) : (removeOdd d).has x = (d.has x && decide (x % 2 = 0)) := by
  refine has_and_mask d _ (· % 2 = 0) (fun v h1 h2 => ?_) x
  rw [ptrn_getAll ⟨(v - offs).toNat, by unfold offs at *; omega⟩]
  show decide ((v - offs).toNat % 2 = 0) = _
  exact decide_eq_decide.mpr (by unfold offs at *; omega)

theorem removeEven_has (d : Dom) (x : Int) : (removeEven d).has x = (d.has x && decide (x % 2 = 1)) := by
  refine has_and_mask d _ (· % 2 = 1) (fun v h1 h2 => ?_) x
  rw [ptrn1_getAll ⟨(v - offs).toNat, by unfold offs at *; omega⟩]
  show decide ((v - offs).toNat % 2 = 1) = _
  exact decide_eq_decide.mpr (by unfold offs at *; omega)

theorem allOnes_has (x : Int) : Dom.has (BitVec.allOnes 64) x = (decide (offs ≤ x) && decide (x < offs + 64)) := by
  simp only [Dom.has]
  by_cases h1 : offs ≤ x <;> by_cases h2 : x < offs + 64 <;> simp [h1, h2]
  exact ones_getAll ⟨(x - offs).toNat, by unfold offs at *; omega⟩

theorem setRange_spec (lo hi : Int) (h1 : offs ≤ lo) (h2 : lo < offs + 64) (h3 : offs ≤ hi) (h4 : hi < offs + 64) :
    ∃ d, setRange lo hi = some d ∧ ∀ x, d.has x = (decide (lo ≤ x) && decide (x ≤ hi)) := by
  unfold setRange
  obtain ⟨d1, hd1⟩ := Option.isSome_iff_exists.mp
    (show (removeSmaller (BitVec.allOnes 64) lo).isSome = true by rw [removeSmaller_isSome]; unfold offs at *; simp; omega)
  obtain ⟨d2, hd2⟩ := Option.isSome_iff_exists.mp
    (show (removeLarger d1 hi).isSome = true by rw [removeLarger_isSome]; unfold offs at *; simp; omega)
  refine ⟨d2, by rw [hd1]; exact hd2, fun x => ?_⟩
  rw [removeLarger_has _ _ _ x hd2, removeSmaller_has _ _ _ x hd1, allOnes_has]
  by_cases g1 : lo ≤ x <;> by_cases g2 : x ≤ hi <;> simp [g1, g2]
  constructor <;> omega

/-- solution predicate without the length clause -/
def Sol' (ds : Doms) (cs : List Con) (σ : Asg) : Prop :=
  (∀ v, v < ds.length → (domOf ds v).has (valOf σ v) = true) ∧ (∀ c ∈ cs, valOf σ c.v1 ≤ valOf σ c.v2 + c.c)

theorem sol_iff_sol' (ds : Doms) (cs : List Con) (σ : Asg) : Sol ds cs σ ↔ σ.length = ds.length ∧ Sol' ds cs σ := by
  unfold Sol Sol'; constructor
  · rintro ⟨a, b, c⟩; exact ⟨a, b, c⟩
  · rintro ⟨a, b, c⟩; exact ⟨a, b, c⟩

theorem sol'_set (ds : Doms) (cs : List Con) (i : Nat) (d : Dom) (hi : i < ds.length) (keep : Int → Bool)
    (hd : ∀ x, d.has x = ((domOf ds i).has x && keep x)) (σ : Asg) :
    Sol' (ds.set i d) cs σ ↔ Sol' ds cs σ ∧ keep (valOf σ i) = true := by
  unfold Sol'
  constructor
  · rintro ⟨h2, h3⟩
    have hi' := h2 i (by simpa using hi)
    rw [domOf_set _ _ _ _ hi, if_pos rfl, hd] at hi'
    simp only [Bool.and_eq_true] at hi'
    refine ⟨⟨fun v hv => ?_, h3⟩, hi'.2⟩
    by_cases hvi : v = i
    · subst hvi; exact hi'.1
    · have := h2 v (by simpa using hv)
      rw [domOf_set _ _ _ _ hi, if_neg hvi] at this; exact this
  · rintro ⟨⟨h2, h3⟩, hk⟩
    refine ⟨fun v hv => ?_, h3⟩
    rw [domOf_set _ _ _ _ hi]
    by_cases hvi : v = i
    · subst hvi; rw [if_pos rfl, hd]; simp only [Bool.and_eq_true]; exact ⟨h2 v hi, hk⟩
    · rw [if_neg hvi]; exact h2 v (by simpa using hv)

theorem domOf_append_lt (ds : Doms) (d : Dom) (v : Nat) (h : v < ds.length) : domOf (ds ++ [d]) v = domOf ds v := by
  simp [domOf, List.getD_eq_getElem?_getD, List.getElem?_append_left h]

theorem domOf_append_eq (ds : Doms) (d : Dom) : domOf (ds ++ [d]) ds.length = d := by
  simp [domOf, List.getD_eq_getElem?_getD]

theorem sol'_addVar (ds : Doms) (cs : List Con) (d : Dom) (σ : Asg) :
    Sol' (ds ++ [d]) cs σ ↔ Sol' ds cs σ ∧ d.has (valOf σ ds.length) = true := by
  unfold Sol'
  constructor
  · rintro ⟨h2, h3⟩
    refine ⟨⟨fun v hv => ?_, h3⟩, ?_⟩
    · have := h2 v (by simp; omega)
      rwa [domOf_append_lt _ _ _ hv] at this
    · have := h2 ds.length (by simp)
      rwa [domOf_append_eq] at this
  · rintro ⟨⟨h2, h3⟩, hd⟩
    refine ⟨fun v hv => ?_, h3⟩
    by_cases hvl : v < ds.length
    · rw [domOf_append_lt _ _ _ hvl]; exact h2 v hvl
    · have : v = ds.length := by simp at hv; omega
      subst this; rw [domOf_append_eq]; exact hd

/-- constraint offsets stay where no `int` overflows -/
def ConsOk (cs : List Con) : Prop := ∀ c ∈ cs, -cMax ≤ c.c ∧ c.c ≤ cMax

structure Sys.WF (s : Sys) : Prop where
  wfc : WFc s.doms s.cons
  prefs : s.prefs.length = s.doms.length
  cons : ConsOk s.cons

theorem Sys.wf_empty : Sys.WF {} := ⟨fun c hc => (by cases hc), rfl, fun c hc => (by cases hc)⟩

/-- the four unary calls -/
theorem setDom_spec (s : Sys) (v : Nat) (d : Dom) (hv : v < s.doms.length) (keep : Int → Prop) [DecidablePred keep]
    (hd : ∀ x, d.has x = ((domOf s.doms v).has x && decide (keep x))) :
    (∀ σ, Sol' (setDom s v d).doms (setDom s v d).cons σ ↔ Sol' s.doms s.cons σ ∧ keep (valOf σ v)) ∧
    (setDom s v d).doms.length = s.doms.length + 0 ∧ (s.WF → (setDom s v d).WF) := by
  refine ⟨fun σ => ?_, by simp [setDom], fun wf => ⟨fun c hc => ?_, by simp [setDom, wf.prefs], wf.cons⟩⟩
  · rw [show (setDom s v d).doms = s.doms.set v d from rfl, sol'_set _ _ v _ hv (fun x => decide (keep x)) hd,
      decide_eq_true_eq]; rfl
  · have := wf.wfc c hc; simpa [setDom] using this

/-- the three binary calls -/
theorem addCons_spec (s : Sys) (cs' : List Con) (hv : ∀ c ∈ cs', c.v1 < s.doms.length ∧ c.v2 < s.doms.length)
    (hc : ∀ c ∈ cs', -cMax ≤ c.c ∧ c.c ≤ cMax) :
    (∀ σ, Sol' s.doms (s.cons ++ cs') σ ↔ Sol' s.doms s.cons σ ∧ ∀ c ∈ cs', valOf σ c.v1 ≤ valOf σ c.v2 + c.c) ∧
    (s.WF → Sys.WF { s with cons := s.cons ++ cs' }) := by
  refine ⟨fun σ => ?_, fun wf => ⟨fun c h => ?_, wf.prefs, fun c h => ?_⟩⟩
  · unfold Sol'
    simp only [List.mem_append]
    exact ⟨fun h => ⟨⟨h.1, fun c hc => h.2 c (Or.inl hc)⟩, fun c hc => h.2 c (Or.inr hc)⟩,
      fun h => ⟨h.1.1, fun c hc => hc.elim (h.1.2 c) (h.2 c)⟩⟩
  · exact (List.mem_append.1 h).elim (wf.wfc c) (hv c)
  · exact (List.mem_append.1 h).elim (wf.cons c) (hc c)

/-- one successful call: exactly the documented restriction, one more variable iff `addVariable` -/
theorem apply_spec (s s' : Sys) (c : Cmd) (h : s.apply c = .ok s') :
    (∀ σ, Sol' s'.doms s'.cons σ ↔ Sol' s.doms s.cons σ ∧ c.holds s.doms.length σ) ∧
    s'.doms.length = s.doms.length + c.nv ∧ (s.WF → s'.WF) := by
  cases c with
  | addVar p lo hi =>
    simp only [Sys.apply] at h
    split at h
    · cases h
    · rename_i hr
      have hr' : offs ≤ lo ∧ lo < offs + 64 ∧ offs ≤ hi ∧ hi < offs + 64 := by omega
      obtain ⟨d, hd, hx⟩ := setRange_spec lo hi hr'.1 hr'.2.1 hr'.2.2.1 hr'.2.2.2
      rw [hd] at h
      simp only [Except.ok.injEq] at h
      subst h
      refine ⟨fun σ => ?_, by simp [Cmd.nv], fun wf => ⟨fun c hc => ?_, by simp [wf.prefs], wf.cons⟩⟩
      · rw [sol'_addVar, hx]; simp [Cmd.holds]
      · have := wf.wfc c hc; simp; omega
  | even v =>
    simp only [Sys.apply] at h
    split at h
    · rename_i hv
      simp only [Except.ok.injEq] at h; subst h
      exact setDom_spec s v _ hv (· % 2 = 0) (fun x => removeOdd_has _ x)
    · cases h
  | odd v =>
    simp only [Sys.apply] at h
    split at h
    · rename_i hv
      simp only [Except.ok.injEq] at h; subst h
      exact setDom_spec s v _ hv (· % 2 = 1) (fun x => removeEven_has _ x)
    · cases h
  | minVal v m =>
    simp only [Sys.apply] at h
    split at h
    · rename_i hv
      split at h
      · rename_i d hd
        simp only [Except.ok.injEq] at h; subst h
        exact setDom_spec s v d hv (m ≤ ·) (fun x => removeSmaller_has _ _ _ x hd)
      · cases h
    · cases h
  | maxVal v m =>
    simp only [Sys.apply] at h
    split at h
    · rename_i hv
      split at h
      · cases h
      · split at h
        · rename_i d hd
          simp only [Except.ok.injEq] at h; subst h
          exact setDom_spec s v d hv (· ≤ m) (fun x => removeLarger_has _ _ _ x hd)
        · cases h
    · cases h
  | le v1 v2 c =>
    simp only [Sys.apply] at h
    split at h
    · rename_i hv
      split at h
      · cases h
      · rename_i hc
        simp only [Except.ok.injEq] at h; subst h
        obtain ⟨a, w⟩ := addCons_spec s [⟨v1, v2, c⟩] (by simpa using hv) (by simp; omega)
        exact ⟨fun σ => by rw [a]; simp [Cmd.holds], rfl, w⟩
    · cases h
  | ge v1 v2 c =>
    simp only [Sys.apply] at h
    split at h
    · rename_i hv
      split at h
      · cases h
      · rename_i hc
        simp only [Except.ok.injEq] at h; subst h
        obtain ⟨a, w⟩ := addCons_spec s [⟨v2, v1, -c⟩] (by simpa using hv.symm) (by simp; omega)
        refine ⟨fun σ => ?_, rfl, w⟩
        rw [a]; simp only [Cmd.holds, List.mem_singleton, forall_eq]
        exact and_congr_right (fun _ => by omega)
    · cases h
  | eq v1 v2 c =>
    simp only [Sys.apply] at h
    split at h
    · rename_i hv
      split at h
      · cases h
      · rename_i hc
        simp only [Except.ok.injEq] at h; subst h
        obtain ⟨a, w⟩ := addCons_spec s [⟨v1, v2, c⟩, ⟨v2, v1, -c⟩] (by simpa using ⟨hv, hv.symm⟩) (by simp; omega)
        refine ⟨fun σ => ?_, rfl, w⟩
        rw [a]; simp only [Cmd.holds, List.mem_cons, List.not_mem_nil, or_false, forall_eq_or_imp, forall_eq]
        exact and_congr_right (fun _ => by omega)
    · cases h

theorem buildFrom_spec : ∀ (cmds : List Cmd) (s s' : Sys) (i : Nat), buildFrom s i cmds = .ok s' →
    (∀ σ, Sol' s'.doms s'.cons σ ↔ Sol' s.doms s.cons σ ∧ SatFrom s.doms.length cmds σ) ∧
    s'.doms.length = s.doms.length + nVarsOf cmds ∧ (s.WF → s'.WF)
  | [], s, s', i, h => by
    simp only [buildFrom, Except.ok.injEq] at h; subst h
    simp [SatFrom, nVarsOf]
  | c :: r, s, s', i, h => by
    simp only [buildFrom] at h
    cases ha : s.apply c with
    | error e => rw [ha] at h; cases h
    | ok s1 =>
      rw [ha] at h
      simp only at h
      obtain ⟨a1, a2, a3⟩ := apply_spec s s1 c ha
      obtain ⟨b1, b2, b3⟩ := buildFrom_spec r s1 s' (i+1) h
      refine ⟨fun σ => ?_, by simp only [nVarsOf]; omega, fun wf => b3 (a3 wf)⟩
      rw [b1, a1, a2]; simp only [SatFrom, and_assoc]

/-- A successfully built solver state describes exactly the assignments the calls describe. -/
theorem build_spec (cmds : List Cmd) (s : Sys) (h : build cmds = .ok s) :
    (∀ σ, Sol s.doms s.cons σ ↔ Satisfies cmds σ) ∧ s.WF := by
  obtain ⟨a, b, c⟩ := buildFrom_spec cmds {} s 0 h
  refine ⟨fun σ => ?_, c Sys.wf_empty⟩
  rw [sol_iff_sol', a, b]
  simp only [Satisfies, List.length_nil, Nat.zero_add]
  constructor
  · rintro ⟨h1, _, h3⟩; exact ⟨h1, h3⟩
  · rintro ⟨h1, h3⟩; exact ⟨h1, ⟨fun v hv => by simp at hv, fun c hc => by cases hc⟩, h3⟩

end Csp
