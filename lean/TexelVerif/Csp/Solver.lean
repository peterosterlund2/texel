import TexelVerif.Csp.Basic
/-! `getMinBit` / `getMaxBit` of the bit set: lowest and highest value of a domain, with their bounds. -/
namespace Csp

/-- lowest / highest set bit index -/
def lowest (d : Dom) : Option Nat := (List.range 64).find? (fun i => d.getLsbD i)
def highest (d : Dom) : Option Nat := (List.range 64).reverse.find? (fun i => d.getLsbD i)

/-- C++ getMinBit / getMaxBit (return -1 for the empty set) -/
def minBit (d : Dom) : Int := match lowest d with | some i => (i : Int) + offs | none => -1
def maxBit (d : Dom) : Int := match highest d with | some i => (i : Int) + offs | none => -1

def Dom.isEmpty (d : Dom) : Bool := d == 0

theorem has_of_getLsbD (d : Dom) (i : Nat) (hi : i < 64) (h : d.getLsbD i = true) : d.has ((i:Int) + offs) = true := by
  rw [Dom.has_iff]; refine ⟨by unfold offs; omega, by unfold offs; omega, ?_⟩
  have : ((i:Int) + offs - offs).toNat = i := by omega
  rw [this]; exact h

theorem find?_pairwise {α} (R : α → α → Prop) (p : α → Bool) :
    ∀ (l : List α), l.Pairwise R → ∀ a, l.find? p = some a → ∀ b ∈ l, p b = true → b = a ∨ R a b
  | [], _, a, h, _, _, _ => by simp at h
  | x :: l, hp, a, h, b, hb, hpb => by
    rw [List.pairwise_cons] at hp
    rw [List.find?_cons] at h
    cases hx : p x with
    | true =>
      rw [hx] at h; injection h with h; subst h
      rcases List.mem_cons.1 hb with rfl | hb'
      · left; rfl
      · right; exact hp.1 b hb'
    | false =>
      rw [hx] at h
      rcases List.mem_cons.1 hb with rfl | hb'
      · rw [hx] at hpb; cases hpb
      · exact find?_pairwise R p l hp.2 a h b hb' hpb

theorem lowest_spec (d : Dom) (i : Nat) (h : lowest d = some i) :
    d.getLsbD i = true ∧ i < 64 ∧ ∀ j, j < 64 → d.getLsbD j = true → i ≤ j := by
  unfold lowest at h
  have h1 := List.find?_some h
  have h2 := List.mem_of_find?_eq_some h
  simp at h2
  refine ⟨by simpa using h1, h2, fun j hj64 hj => ?_⟩
  have := find?_pairwise (· < ·) _ _ List.pairwise_lt_range i h j (by simp [hj64]) hj
  omega

theorem highest_spec (d : Dom) (i : Nat) (h : highest d = some i) :
    d.getLsbD i = true ∧ i < 64 ∧ ∀ j, j < 64 → d.getLsbD j = true → j ≤ i := by
  unfold highest at h
  have h1 := List.find?_some h
  have h2 := List.mem_of_find?_eq_some h
  simp at h2
  refine ⟨by simpa using h1, h2, fun j hj64 hj => ?_⟩
  have hp : (List.range 64).reverse.Pairwise (· > ·) := by
    rw [List.pairwise_reverse]; exact List.pairwise_lt_range
  have := find?_pairwise (· > ·) _ _ hp i h j (by simp [hj64]) hj
  omega

theorem lowest_none (d : Dom) (h : lowest d = none) : ∀ j, j < 64 → d.getLsbD j = false := by
  unfold lowest at h
  rw [List.find?_eq_none] at h
  intro j hj
  have := h j (by simp [hj])
  simpa using this


theorem highest_none (d : Dom) (h : highest d = none) : ∀ j, j < 64 → d.getLsbD j = false := by
  unfold highest at h
  rw [List.find?_eq_none] at h
  intro j hj
  have := h j (by simp [hj])
  simpa using this

theorem minBit_le (d : Dom) (v : Int) (hv : d.has v = true) : d.has (minBit d) = true ∧ minBit d ≤ v := by
  obtain ⟨h1, h2, h3⟩ := (Dom.has_iff d v).1 hv
  cases hl : lowest d with
  | none =>
    have := lowest_none d hl (v - offs).toNat (by unfold offs at *; omega)
    rw [this] at h3; cases h3
  | some i =>
    obtain ⟨g1, g2, g3⟩ := lowest_spec d i hl
    simp only [minBit, hl]
    refine ⟨has_of_getLsbD d i g2 g1, ?_⟩
    have := g3 (v - offs).toNat (by unfold offs at *; omega) h3
    unfold offs at *; omega

theorem le_maxBit (d : Dom) (v : Int) (hv : d.has v = true) : d.has (maxBit d) = true ∧ v ≤ maxBit d := by
  obtain ⟨h1, h2, h3⟩ := (Dom.has_iff d v).1 hv
  cases hl : highest d with
  | none =>
    have := highest_none d hl (v - offs).toNat (by unfold offs at *; omega)
    rw [this] at h3; cases h3
  | some i =>
    obtain ⟨g1, g2, g3⟩ := highest_spec d i hl
    simp only [maxBit, hl]
    refine ⟨has_of_getLsbD d i g2 g1, ?_⟩
    have := g3 (v - offs).toNat (by unfold offs at *; omega) h3
    unfold offs at *; omega

theorem minBit_range (d : Dom) : -16 ≤ minBit d ∧ minBit d ≤ 47 := by
  unfold minBit
  cases h : lowest d with
  | none => simp
  | some i => have := (lowest_spec d i h).2.1; simp only [offs]; omega

theorem maxBit_range (d : Dom) : -16 ≤ maxBit d ∧ maxBit d ≤ 47 := by
  unfold maxBit
  cases h : highest d with
  | none => simp
  | some i => have := (highest_spec d i h).2.1; simp only [offs]; omega

end Csp
