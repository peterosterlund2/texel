import TexelVerif.Csp.Run
import TexelVerif.Csp.BuildLemmas
/-! Lemmas about the total solver `Sys.solve` / `solveCmds`: node-counting search = search, exactness, the decidable
    description of the supported limits, and the `int` ranges of the arithmetic the C++ performs. -/
namespace Csp

theorem goVals_fst (rec : Asg → Option Asg × Nat) (f : Asg → Option Asg) (h : ∀ σ', (rec σ').1 = f σ')
    (cs : List Con) (σ : Asg) (k : Nat) : ∀ (vs : List Int) (n : Nat),
    (goVals rec cs σ k vs n).1 = vs.findSome? (fun v => if checkAt cs (σ ++ [v]) k then f (σ ++ [v]) else none)
  | [], n => by simp [goVals]
  | v :: vs, n => by
    unfold goVals
    rw [List.findSome?_cons]
    by_cases hc : checkAt cs (σ ++ [v]) k = true
    · simp only [hc, if_true]
      have hv := h (σ ++ [v])
      cases hr : rec (σ ++ [v]) with
      | mk o c =>
        rw [hr] at hv; simp only at hv
        cases o with
        | some τ => simp only [← hv]
        | none => simp only [← hv]; exact goVals_fst rec f h cs σ k vs (n + c)
    · simp only [hc, Bool.false_eq_true, if_false]
      exact goVals_fst rec f h cs σ k vs n

theorem searchN_fst (ds : Doms) (cs : List Con) (ord : Nat → Dom → List Int) :
    ∀ (m : Nat) (σ : Asg), (searchN ds cs ord m σ).1 = search ds cs ord m σ
  | 0, σ => by simp [searchN, search]
  | m+1, σ => by
    unfold searchN search
    simp only
    exact goVals_fst _ _ (fun σ' => searchN_fst ds cs ord m σ') cs σ σ.length _ 1

theorem ordOf_ok (ps : List Pref) : OrdOk (ordOf ps) := ordOk (prefOf ps)

/-- What `Sys.solve` returns on a well-formed state with at most 192 constraints: never an error, never stuck;
    `sat` carries a solution, both `unsat` answers mean there is none; the reported domains (after arc consistency)
    have exactly the same solutions as the original ones. -/
theorem Sys.solve_spec (s : Sys) (wf : s.WF) (hm : s.cons.length ≤ maxCons) :
    match s.solve with
    | .sat τ _ ds' => Sol s.doms s.cons τ ∧ (s.doms.length ≠ 0 → ds'.length = s.doms.length ∧ ∀ σ, Sol ds' s.cons σ ↔ Sol s.doms s.cons σ)
    | .unsatArc => ∀ τ, ¬ Sol s.doms s.cons τ
    | .unsatSearch _ ds' => (∀ τ, ¬ Sol s.doms s.cons τ) ∧ ds'.length = s.doms.length ∧ ∀ σ, Sol ds' s.cons σ ↔ Sol s.doms s.cons σ
    | .err _ _ => False
    | .tooMany => False
    | .stuck => False := by
  have hwf := wf.wfc
  unfold Sys.solve
  by_cases h0 : s.doms.length = 0
  · rw [if_pos h0]
    exact ⟨(sol_no_vars s.doms s.cons hwf h0).2, fun h => absurd h0 h⟩
  · rw [if_neg h0, if_neg (by omega)]
    have ha := arcLoop_sound s.cons (arcFuel s.doms.length s.cons.length) s.doms (List.replicate s.cons.length true) hwf (by simp)
    have hf := arcLoop_arcFuel s.doms s.cons hwf
    cases hr : arcLoop s.cons (arcFuel s.doms.length s.cons.length) s.doms (List.replicate s.cons.length true) with
    | unsat => rw [hr] at ha; exact ha
    | ub => rw [hr] at ha; exact ha
    | outOfFuel => exact absurd hr hf
    | ok ds' =>
      rw [hr] at ha
      simp only at ha ⊢
      have hx := search_exact s.doms ds' s.cons (ordOf s.prefs) (ordOf_ok s.prefs) hwf ha.1 ha.2
      rw [← searchN_fst] at hx
      cases hsr : searchN ds' s.cons (ordOf s.prefs) ds'.length [] with
      | mk o n =>
        rw [hsr] at hx
        cases o with
        | some τ => exact ⟨hx.1 τ rfl, fun _ => ha⟩
        | none => exact ⟨hx.2 rfl, ha⟩

/-! ### The supported limits as a decidable predicate on the call sequence -/

/-- call `c` is inside the API contract when `n` variables exist -/
def Cmd.okAt (n : Nat) : Cmd → Bool
  | .addVar _ lo hi => decide (-16 ≤ lo ∧ lo ≤ 47 ∧ -16 ≤ hi ∧ hi ≤ 47)
  | .even v => decide (v < n)
  | .odd v => decide (v < n)
  | .minVal v m => decide (v < n ∧ m ≤ 47)
  | .maxVal v m => decide (v < n ∧ -17 ≤ m ∧ m ≤ mMax)
  | .le v1 v2 c => decide (v1 < n ∧ v2 < n ∧ -cMax ≤ c ∧ c ≤ cMax)
  | .ge v1 v2 c => decide (v1 < n ∧ v2 < n ∧ -cMax ≤ c ∧ c ≤ cMax)
  | .eq v1 v2 c => decide (v1 < n ∧ v2 < n ∧ -cMax ≤ c ∧ c ≤ cMax)

/-- number of `Constraint` records a call appends -/
def Cmd.nc : Cmd → Nat
  | .le _ _ _ => 1
  | .ge _ _ _ => 1
  | .eq _ _ _ => 2
  | _ => 0

def okFrom : Nat → List Cmd → Bool
  | _, [] => true
  | n, c :: r => c.okAt n && okFrom (n + c.nv) r

def nConsOf : List Cmd → Nat
  | [] => 0
  | c :: r => c.nc + nConsOf r

/-- The solver's supported limits: every call inside its contract (values in [-16,47], existing variables, offsets
    small enough for `int`), and at most 192 constraint records (unless there is no variable at all, in which case
    `solve` returns before looking at them — and there cannot be any). -/
def Supported (cmds : List Cmd) : Bool := okFrom 0 cmds && decide (nConsOf cmds ≤ maxCons)

/-- the guards of `addIneq` / `addEq` -/
theorem addCon_ok_iff (n v1 v2 : Nat) (c : Int) (x : Sys) :
    (∃ s', (if v1 < n ∧ v2 < n then (if c < -cMax ∨ cMax < c then (.error .overflow : Except BuildErr Sys) else .ok x)
            else .error .var) = .ok s') ↔ v1 < n ∧ v2 < n ∧ -cMax ≤ c ∧ c ≤ cMax := by
  by_cases h : v1 < n ∧ v2 < n
  · rw [if_pos h]
    by_cases hc : c < -cMax ∨ cMax < c
    · rw [if_pos hc]; constructor
      · rintro ⟨_, h'⟩; cases h'
      · intro h'; omega
    · rw [if_neg hc]; exact ⟨fun _ => ⟨h.1, h.2, by omega, by omega⟩, fun _ => ⟨_, rfl⟩⟩
  · rw [if_neg h]; constructor
    · rintro ⟨_, h'⟩; cases h'
    · intro h'; exact absurd ⟨h'.1, h'.2.1⟩ h

theorem apply_ok_iff (s : Sys) (c : Cmd) : (∃ s', s.apply c = .ok s') ↔ c.okAt s.doms.length = true := by
  cases c with
  | addVar p lo hi =>
    simp only [Sys.apply, Cmd.okAt, decide_eq_true_eq]
    by_cases h : lo < offs ∨ offs + 64 ≤ lo ∨ hi < offs ∨ offs + 64 ≤ hi
    · rw [if_pos h]; unfold offs at h; constructor
      · rintro ⟨_, h'⟩; cases h'
      · intro h'; omega
    · rw [if_neg h]
      have h' : offs ≤ lo ∧ lo < offs + 64 ∧ offs ≤ hi ∧ hi < offs + 64 := by omega
      obtain ⟨d, hd, _⟩ := setRange_spec lo hi h'.1 h'.2.1 h'.2.2.1 h'.2.2.2
      rw [hd]; unfold offs at h'
      exact ⟨fun _ => by omega, fun _ => ⟨_, rfl⟩⟩
  | even v =>
    simp only [Sys.apply, Cmd.okAt, decide_eq_true_eq]
    by_cases h : v < s.doms.length
    · simp [h]
    · simp [h]
  | odd v =>
    simp only [Sys.apply, Cmd.okAt, decide_eq_true_eq]
    by_cases h : v < s.doms.length
    · simp [h]
    · simp [h]
  | minVal v m =>
    simp only [Sys.apply, Cmd.okAt, decide_eq_true_eq]
    by_cases h : v < s.doms.length
    · rw [if_pos h]
      have := removeSmaller_isSome (domOf s.doms v) m
      cases hr : removeSmaller (domOf s.doms v) m with
      | none => rw [hr] at this; simp at this; simp only; constructor
                · rintro ⟨_, h'⟩; cases h'
                · intro h'; omega
      | some d => rw [hr] at this; simp at this; simp only; exact ⟨fun _ => ⟨h, this⟩, fun _ => ⟨_, rfl⟩⟩
    · rw [if_neg h]; constructor
      · rintro ⟨_, h'⟩; cases h'
      · intro h'; exact absurd h'.1 h
  | maxVal v m =>
    simp only [Sys.apply, Cmd.okAt, decide_eq_true_eq]
    by_cases h : v < s.doms.length
    · rw [if_pos h]
      by_cases hm : mMax < m
      · rw [if_pos hm]; constructor
        · rintro ⟨_, h'⟩; cases h'
        · intro h'; omega
      · rw [if_neg hm]
        have := removeLarger_isSome (domOf s.doms v) m
        cases hr : removeLarger (domOf s.doms v) m with
        | none => rw [hr] at this; simp at this; simp only; constructor
                  · rintro ⟨_, h'⟩; cases h'
                  · intro h'; omega
        | some d => rw [hr] at this; simp at this; simp only; exact ⟨fun _ => ⟨h, this, by omega⟩, fun _ => ⟨_, rfl⟩⟩
    · rw [if_neg h]; constructor
      · rintro ⟨_, h'⟩; cases h'
      · intro h'; exact absurd h'.1 h
  | le v1 v2 c => simp only [Sys.apply, Cmd.okAt, decide_eq_true_eq]; exact addCon_ok_iff _ _ _ _ _
  | ge v1 v2 c => simp only [Sys.apply, Cmd.okAt, decide_eq_true_eq]; exact addCon_ok_iff _ _ _ _ _
  | eq v1 v2 c => simp only [Sys.apply, Cmd.okAt, decide_eq_true_eq]; exact addCon_ok_iff _ _ _ _ _

theorem apply_ncons (s s' : Sys) (c : Cmd) (h : s.apply c = .ok s') : s'.cons.length = s.cons.length + c.nc := by
  cases c <;> simp only [Sys.apply] at h <;> (repeat' split at h) <;>
    first
    | (cases h; done)
    | (cases h; simp [Cmd.nc, setDom])

theorem buildFrom_ok_iff : ∀ (cmds : List Cmd) (s : Sys) (i : Nat),
    (∃ s', buildFrom s i cmds = .ok s' ∧ s'.cons.length = s.cons.length + nConsOf cmds) ↔ okFrom s.doms.length cmds = true
  | [], s, i => by simp [buildFrom, okFrom, nConsOf]
  | c :: r, s, i => by
    simp only [buildFrom, okFrom, Bool.and_eq_true, nConsOf]
    rw [← apply_ok_iff]
    cases ha : s.apply c with
    | error e => simp
    | ok s1 =>
      have hn := (apply_spec s s1 c ha).2.1
      have hc := apply_ncons s s1 c ha
      have ih := buildFrom_ok_iff r s1 (i+1)
      rw [hn] at ih
      simp only [Except.ok.injEq, exists_eq', true_and]
      rw [← ih]
      constructor
      · rintro ⟨s', h1, h2⟩; exact ⟨s', h1, by omega⟩
      · rintro ⟨s', h1, h2⟩; exact ⟨s', h1, by omega⟩

/-- `Supported` says exactly: the building calls all succeed and `solve`'s assert on the constraint count holds. -/
theorem supported_iff (cmds : List Cmd) :
    Supported cmds = true ↔ ∃ s, build cmds = .ok s ∧ s.cons.length ≤ maxCons := by
  unfold Supported build
  rw [Bool.and_eq_true, decide_eq_true_eq]
  have := buildFrom_ok_iff cmds {} 0
  simp only [List.length_nil, Nat.zero_add] at this
  constructor
  · rintro ⟨h1, h2⟩
    obtain ⟨s, hs, hl⟩ := this.2 h1
    exact ⟨s, hs, by omega⟩
  · rintro ⟨s, hs, hl⟩
    have hex : ∃ s', buildFrom {} 0 cmds = .ok s' ∧ s'.cons.length = nConsOf cmds := by
      by_cases hok : okFrom 0 cmds = true
      · exact this.2 hok
      · exfalso
        -- build succeeded, so every call was inside the contract
        have : ∀ (cmds : List Cmd) (s : Sys) (i : Nat) (s' : Sys), buildFrom s i cmds = .ok s' → okFrom s.doms.length cmds = true := by
          intro cmds
          induction cmds with
          | nil => intro s i s' _; rfl
          | cons c r ih =>
            intro s i s' h
            simp only [buildFrom] at h
            cases ha : s.apply c with
            | error e => rw [ha] at h; cases h
            | ok s1 =>
              rw [ha] at h; simp only at h
              have hn := (apply_spec s s1 c ha).2.1
              simp only [okFrom, Bool.and_eq_true]
              refine ⟨(apply_ok_iff s c).1 ⟨s1, ha⟩, ?_⟩
              rw [← hn]; exact ih s1 (i+1) s' h
        exact hok (this cmds {} 0 s hs)
    obtain ⟨s', hs', hl'⟩ := hex
    rw [hs] at hs'; cases hs'
    exact ⟨this.1 ⟨s, hs, hl'⟩, by omega⟩

theorem Sys.solve_tooMany (s : Sys) (wf : s.WF) (h : ¬ s.cons.length ≤ maxCons) : s.solve = .tooMany := by
  unfold Sys.solve
  have h0 : s.doms.length ≠ 0 := by
    intro h0
    cases hc : s.cons with
    | nil => rw [hc] at h; simp [maxCons] at h
    | cons c _ => have := (wf.wfc c (by rw [hc]; exact List.mem_cons_self ..)).1; omega
  rw [if_neg h0, if_pos (by omega)]

/-- forget the value preference of a call -/
def erasePref : Cmd → Cmd
  | .addVar _ lo hi => .addVar .small lo hi
  | c => c

theorem erase_props (c : Cmd) (n : Nat) (σ : Asg) :
    (erasePref c).okAt n = c.okAt n ∧ (erasePref c).nv = c.nv ∧ (erasePref c).nc = c.nc ∧ ((erasePref c).holds n σ ↔ c.holds n σ) := by
  cases c <;> simp [erasePref, Cmd.okAt, Cmd.nv, Cmd.nc, Cmd.holds]

theorem erase_list : ∀ (cmds : List Cmd) (n : Nat) (σ : Asg),
    okFrom n (cmds.map erasePref) = okFrom n cmds ∧ nConsOf (cmds.map erasePref) = nConsOf cmds ∧
    nVarsOf (cmds.map erasePref) = nVarsOf cmds ∧ (SatFrom n (cmds.map erasePref) σ ↔ SatFrom n cmds σ)
  | [], n, σ => by simp [okFrom, nConsOf, nVarsOf, SatFrom]
  | c :: r, n, σ => by
    obtain ⟨a1, a2, a3, a4⟩ := erase_props c n σ
    obtain ⟨b1, b2, b3, b4⟩ := erase_list r (n + c.nv) σ
    simp only [List.map_cons, okFrom, nConsOf, nVarsOf, SatFrom, a1, a2, a3, a4, b1, b2, b3, b4, and_self]


end Csp
