import TexelVerif.Csp.Solve
/-! The value order of `solveRecursive` (`getBitVal`, `ordLoop`) enumerates exactly the domain, so `solve` is exact for
    every preference assignment. -/
namespace Csp

inductive Pref where | small | large | midSmall | midLarge

/-- CspSolver::getBitVal -/
def getBitVal (d : Dom) : Pref → Int
  | .small => minBit d
  | .large => maxBit d
  | .midSmall => if d.has 3 then 3 else if d.has 2 then 2 else if d.has 1 then 1 else minBit d
  | .midLarge => if d.has 4 then 4 else if d.has 5 then 5 else if d.has 6 then 6 else maxBit d

/-- BitSet::clearBit -/
def clearBit (d : Dom) (v : Int) : Dom := d &&& ~~~ (1#64 <<< (v - offs).toNat)

/-- the `while (!d.empty())` loop of solveRecursive, as the list of values tried -/
def ordLoop (pref : Pref) : Nat → Dom → List Int
  | 0, _ => []
  | f+1, d => if d.isEmpty then [] else
      let v := getBitVal d pref
      v :: ordLoop pref f (clearBit d v)

def card (d : Dom) : Nat := (List.range 64).countP (fun i => d.getLsbD i)

theorem exists_bit_of_ne_zero (d : Dom) (h : d ≠ 0) : ∃ i, i < 64 ∧ d.getLsbD i = true := by
  by_cases hex : ∃ i, i < 64 ∧ d.getLsbD i = true
  · exact hex
  · exfalso; apply h
    apply BitVec.eq_of_getLsbD_eq
    intro i hi
    have : ¬ d.getLsbD i = true := fun hh => hex ⟨i, hi, hh⟩
    simp at this; simp [this]

theorem exists_has_of_ne_zero (d : Dom) (h : d ≠ 0) : ∃ x, d.has x = true := by
  obtain ⟨i, hi, hb⟩ := exists_bit_of_ne_zero d h
  exact ⟨(i:Int) + offs, has_of_getLsbD d i hi hb⟩

theorem getBitVal_has (d : Dom) (pref : Pref) (h : d ≠ 0) : d.has (getBitVal d pref) = true := by
  obtain ⟨x, hx⟩ := exists_has_of_ne_zero d h
  cases pref with
  | small => exact (minBit_le d x hx).1
  | large => exact (le_maxBit d x hx).1
  | midSmall =>
    simp only [getBitVal]
    split
    · assumption
    · split
      · assumption
      · split
        · assumption
        · exact (minBit_le d x hx).1
  | midLarge =>
    simp only [getBitVal]
    split
    · assumption
    · split
      · assumption
      · split
        · assumption
        · exact (le_maxBit d x hx).1

theorem one_shl_get (k j : Nat) (hj : j < 64) (hk : k < 64) : (1#64 <<< k).getLsbD j = decide (j = k) := by
  simp [BitVec.getLsbD_shiftLeft, hj]
  by_cases h : j = k
  · subst h; simp
  · by_cases h2 : j < k
    · simp [h, h2]
    · simp [h, h2]
      have : j - k ≠ 0 := by omega
      intro h0; exact absurd h0 this

theorem clearBit_get (d : Dom) (v : Int) (j : Nat) (hj : j < 64) (hv : offs ≤ v ∧ v < offs + 64) :
    (clearBit d v).getLsbD j = (d.getLsbD j && !decide (j = (v - offs).toNat)) := by
  simp only [clearBit, BitVec.getLsbD_and, BitVec.getLsbD_not, hj, decide_true, Bool.true_and]
  rw [one_shl_get _ _ hj (by unfold offs at *; omega)]

theorem clearBit_has (d : Dom) (v x : Int) (hv : offs ≤ v ∧ v < offs + 64) :
    (clearBit d v).has x = (d.has x && !decide (x = v)) := by
  rw [← decide_not]
  refine has_and_mask d _ (¬ · = v) (fun y h1 h2 => ?_) x
  rw [BitVec.getLsbD_not, one_shl_get _ _ (by unfold offs at *; omega) (by unfold offs at *; omega), ← decide_not]
  simp only [show (y - offs).toNat < 64 by unfold offs at *; omega, decide_true, Bool.true_and]
  exact decide_eq_decide.mpr (by unfold offs at *; omega)

end Csp

namespace Csp

theorem countP_upd (p q : Nat → Bool) (l : List Nat) (i0 : Nat) (hnd : l.Nodup) (hmem : i0 ∈ l)
    (hp : p i0 = true) (hq : q i0 = false) (hpq : ∀ i, i ≠ i0 → p i = q i) :
    l.countP q + 1 = l.countP p := by
  induction l with
  | nil => cases hmem
  | cons x l ih =>
    rw [List.nodup_cons] at hnd
    by_cases hx : x = i0
    · subst hx
      have : l.countP q = l.countP p := by
        apply List.countP_congr
        intro i hi
        have : i ≠ x := fun e => hnd.1 (e ▸ hi)
        rw [hpq i this]
      simp [List.countP_cons, hp, hq, this]
    · have hm : i0 ∈ l := by
        rcases List.mem_cons.1 hmem with h | h
        · exact absurd h.symm hx
        · exact h
      have := ih hnd.2 hm
      simp only [List.countP_cons, hpq x hx]
      omega

theorem card_clearBit (d : Dom) (v : Int) (hv : d.has v = true) : card (clearBit d v) + 1 = card d := by
  obtain ⟨h1, h2, h3⟩ := (Dom.has_iff d v).1 hv
  unfold card
  apply countP_upd (fun i => d.getLsbD i) (fun i => (clearBit d v).getLsbD i) (List.range 64) (v - offs).toNat
    List.nodup_range (by simp; unfold offs at *; omega) h3
  · rw [clearBit_get d v _ (by unfold offs at *; omega) ⟨h1, h2⟩]; simp
  · intro i hi
    by_cases hi64 : i < 64
    · rw [clearBit_get d v _ hi64 ⟨h1, h2⟩]; simp [hi]
    · have a : d.getLsbD i = false := BitVec.getLsbD_of_ge _ _ (by omega)
      have b : (clearBit d v).getLsbD i = false := BitVec.getLsbD_of_ge _ _ (by omega)
      rw [a, b]

theorem has_false_of_card_zero (d : Dom) (h : card d = 0) (x : Int) : d.has x = false := by
  unfold card at h
  rw [List.countP_eq_zero] at h
  by_cases hx : d.has x = true
  · obtain ⟨h1, h2, h3⟩ := (Dom.has_iff d x).1 hx
    have := h (x - offs).toNat (by simp; unfold offs at *; omega)
    simp [h3] at this
  · simpa using hx

theorem ordLoop_mem (pref : Pref) : ∀ (f : Nat) (d : Dom), card d ≤ f → ∀ x, x ∈ ordLoop pref f d ↔ d.has x = true
  | 0, d, hc, x => by
    have := has_false_of_card_zero d (by omega) x
    simp [ordLoop, this]
  | f+1, d, hc, x => by
    unfold ordLoop
    by_cases he : d.isEmpty = true
    · rw [if_pos he]
      have : d = 0 := by simpa [Dom.isEmpty] using he
      subst this
      have := empty_has x
      simp only [List.not_mem_nil, false_iff]
      intro h; rw [this] at h; cases h
    · rw [if_neg he]
      have hne : d ≠ 0 := by simpa [Dom.isEmpty] using he
      have hv := getBitVal_has d pref hne
      have hvr := (Dom.has_iff d _).1 hv
      have hcard := card_clearBit d _ hv
      have ih := ordLoop_mem pref f (clearBit d (getBitVal d pref)) (by omega) x
      simp only [List.mem_cons, ih, clearBit_has d _ x ⟨hvr.1, hvr.2.1⟩]
      by_cases hxv : x = getBitVal d pref
      · subst hxv; simp [hv]
      · simp [hxv]

theorem card_le (d : Dom) : card d ≤ 64 := by
  unfold card
  have := List.countP_le_length (p := fun i => d.getLsbD i) (l := List.range 64)
  simpa using this

/-- the order actually used by the C++ (64 iterations suffice) satisfies the abstract requirement -/
theorem ordOk (prefs : Nat → Pref) : OrdOk (fun k d => ordLoop (prefs k) 64 d) :=
  fun k d x => ordLoop_mem (prefs k) 64 d (card_le d) x

/-- exactness of `solve` with the real value order, for every preference assignment -/
theorem solve_exact_prefs (ds : Doms) (cs : List Con) (prefs : Nat → Pref) (fuel : Nat) (hwf : WFc ds cs) :
    match solve ds cs (fun k d => ordLoop (prefs k) 64 d) fuel with
    | .sat τ => Sol ds cs τ
    | .unsat => ∀ τ, ¬ Sol ds cs τ
    | .stuck => True :=
  solve_exact ds cs _ (ordOk prefs) fuel hwf

end Csp
