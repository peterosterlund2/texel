import TexelVerif.Csp.Solver
/-! Constraints `x ≤ y + c`, domains, solutions (`Sol`); one constraint step of `makeArcConsistent` in its two halves
    (`step1` narrows `x` from above, `step2` narrows `y` from below) keeps the solutions. -/
namespace Csp

/-- constraint  var_v1 ≤ var_v2 + c  -/
structure Con where
  v1 : Nat
  v2 : Nat
  c : Int

abbrev Doms := List Dom
abbrev Asg := List Int     -- value of variable i at index i

def domOf (ds : Doms) (v : Nat) : Dom := ds.getD v 0
def valOf (σ : Asg) (v : Nat) : Int := σ.getD v 0

/-- σ is a solution: right length, every value in its domain, every constraint holds -/
def Sol (ds : Doms) (cs : List Con) (σ : Asg) : Prop :=
  σ.length = ds.length ∧ (∀ v, v < ds.length → (domOf ds v).has (valOf σ v) = true) ∧
  (∀ c ∈ cs, valOf σ c.v1 ≤ valOf σ c.v2 + c.c)

inductive StepRes where
  | unsat                      -- C++ `return false`
  | ub                         -- outside the bit-set contract (never happens: `stepCon_sound`)
  | ok (ds : Doms) (changed1 changed2 : Bool)

/-- vi = 0 half of the loop body for constraint `c`; `none` = C++ `return false` -/
def step1 (ds : Doms) (c : Con) : Option (Doms × Bool) :=
  let maxVal := maxBit (domOf ds c.v2) + c.c
  if maxVal ≥ offs + 64 then some (ds, false)
  else if maxVal < offs then none
  else match removeLarger (domOf ds c.v1) maxVal with
    | none => some (ds, false)   -- `maxVal ≥ offs` here, so `removeLarger` succeeds; `step1_sound` does not need that
    | some d =>
      if d != domOf ds c.v1 then (if d.isEmpty then none else some (ds.set c.v1 d, true))
      else some (ds, false)

/-- vi = 1 half -/
def step2 (ds1 : Doms) (c : Con) (ch1 : Bool) : StepRes :=
  let minVal := minBit (domOf ds1 c.v1) - c.c
  if minVal ≤ offs then .ok ds1 ch1 false
  else if minVal ≥ offs + 64 then .unsat
  else match removeSmaller (domOf ds1 c.v2) minVal with
    | none => .ub
    | some d =>
      if d != domOf ds1 c.v2 then (if d.isEmpty then .unsat else .ok (ds1.set c.v2 d) ch1 true)
      else .ok ds1 ch1 false

def stepCon (ds : Doms) (c : Con) : StepRes :=
  match step1 ds c with
  | none => .unsat
  | some (ds1, ch1) => step2 ds1 c ch1

end Csp

namespace Csp

theorem domOf_set (ds : Doms) (i j : Nat) (d : Dom) (hi : i < ds.length) :
    domOf (ds.set i d) j = if j = i then d else domOf ds j := by
  unfold domOf
  by_cases h : j = i
  · subst h; simp [List.getD_eq_getElem?_getD, hi]
  · simp [List.getD_eq_getElem?_getD, List.getElem?_set, h, Ne.symm h]

theorem sol_set_iff (ds : Doms) (cs : List Con) (i : Nat) (d : Dom) (hi : i < ds.length)
    (keep : Int → Bool) (hd : ∀ x, d.has x = ((domOf ds i).has x && keep x))
    (hk : ∀ σ, Sol ds cs σ → keep (valOf σ i) = true) (σ : Asg) :
    Sol (ds.set i d) cs σ ↔ Sol ds cs σ := by
  constructor
  · rintro ⟨h1, h2, h3⟩
    refine ⟨by simpa using h1, fun v hv => ?_, h3⟩
    have := h2 v (by simpa using hv)
    rw [domOf_set _ _ _ _ hi] at this
    by_cases hvi : v = i
    · subst hvi; simp only [if_true] at this; rw [hd] at this
      simp only [Bool.and_eq_true] at this; exact this.1
    · simpa [hvi] using this
  · intro hs
    obtain ⟨h1, h2, h3⟩ := hs
    refine ⟨by simpa using h1, fun v hv => ?_, h3⟩
    rw [domOf_set _ _ _ _ hi]
    by_cases hvi : v = i
    · subst hvi; simp only [if_true]; rw [hd]
      simp only [Bool.and_eq_true]
      exact ⟨h2 v hi, hk σ ⟨h1, h2, h3⟩⟩
    · simp only [hvi, if_false]; exact h2 v (by simpa using hv)

end Csp

namespace Csp

theorem empty_has (x : Int) : (0 : Dom).has x = false := by simp [Dom.has]

/-- the common tail of both halves of a step: `d` = the values of `i`'s domain that every solution satisfies -/
theorem narrow_sound (ds : Doms) (cs : List Con) (i : Nat) (d : Dom) (hi : i < ds.length)
    (keep : Int → Bool) (hd : ∀ x, d.has x = ((domOf ds i).has x && keep x))
    (hk : ∀ σ, Sol ds cs σ → keep (valOf σ i) = true) :
    (d.isEmpty = true → ∀ σ, ¬ Sol ds cs σ) ∧
    ((ds.set i d).length = ds.length ∧ ∀ σ, Sol (ds.set i d) cs σ ↔ Sol ds cs σ) := by
  refine ⟨fun he σ hs => ?_, by simp, sol_set_iff ds cs i d hi keep hd hk⟩
  have hin : d.has (valOf σ i) = true := by rw [hd, hs.2.1 i hi, hk σ hs]; rfl
  have : d = 0 := by simpa [Dom.isEmpty] using he
  rw [this, empty_has] at hin; cases hin

theorem step1_sound (ds : Doms) (cs : List Con) (c : Con) (hc : c ∈ cs)
    (h1 : c.v1 < ds.length) (h2 : c.v2 < ds.length) :
    match step1 ds c with
    | none => ∀ σ, ¬ Sol ds cs σ
    | some (ds1, _) => ds1.length = ds.length ∧ ∀ σ, Sol ds1 cs σ ↔ Sol ds cs σ := by
  have hval : ∀ σ, Sol ds cs σ →
      (domOf ds c.v1).has (valOf σ c.v1) = true ∧ (domOf ds c.v2).has (valOf σ c.v2) = true ∧
      valOf σ c.v1 ≤ valOf σ c.v2 + c.c := fun σ hs => ⟨hs.2.1 _ h1, hs.2.1 _ h2, hs.2.2 c hc⟩
  unfold step1
  simp only
  by_cases g1 : maxBit (domOf ds c.v2) + c.c ≥ offs + 64
  · simp only [g1, if_true]; first | exact ⟨rfl, fun _ => Iff.rfl⟩ | simp
  · simp only [g1, if_false]
    by_cases g2 : maxBit (domOf ds c.v2) + c.c < offs
    · simp only [g2, if_true]
      intro σ hs
      obtain ⟨a1, a2, a3⟩ := hval σ hs
      have hm := (le_maxBit _ _ a2).2
      have hlo := ((Dom.has_iff _ _).1 a1).1
      omega
    · simp only [g2, if_false]
      cases hd : removeLarger (domOf ds c.v1) (maxBit (domOf ds c.v2) + c.c) with
      | none => exact ⟨rfl, fun _ => Iff.rfl⟩
      | some d =>
        simp only
        have hn := narrow_sound ds cs c.v1 d h1 (fun x => decide (x ≤ maxBit (domOf ds c.v2) + c.c))
          (fun x => removeLarger_has _ _ _ x hd)
          (by intro σ hs
              obtain ⟨a1, a2, a3⟩ := hval σ hs
              have hm := (le_maxBit _ _ a2).2
              simp; omega)
        by_cases g3 : (d != domOf ds c.v1) = true
        · simp only [g3, if_true]
          by_cases g4 : d.isEmpty = true
          · simp only [g4, if_true]; exact hn.1 g4
          · simp only [g4]; exact hn.2
        · simp only [g3]; exact ⟨rfl, fun _ => Iff.rfl⟩

theorem step2_sound (ds1 : Doms) (cs : List Con) (c : Con) (ch1 : Bool) (hc : c ∈ cs)
    (h1 : c.v1 < ds1.length) (h2 : c.v2 < ds1.length) :
    match step2 ds1 c ch1 with
    | .ub => False
    | .unsat => ∀ σ, ¬ Sol ds1 cs σ
    | .ok ds' _ _ => ds'.length = ds1.length ∧ ∀ σ, Sol ds' cs σ ↔ Sol ds1 cs σ := by
  have hval : ∀ σ, Sol ds1 cs σ →
      (domOf ds1 c.v1).has (valOf σ c.v1) = true ∧ (domOf ds1 c.v2).has (valOf σ c.v2) = true ∧
      valOf σ c.v1 ≤ valOf σ c.v2 + c.c := fun σ hs => ⟨hs.2.1 _ h1, hs.2.1 _ h2, hs.2.2 c hc⟩
  unfold step2
  simp only
  by_cases g1 : minBit (domOf ds1 c.v1) - c.c ≤ offs
  · simp only [g1, if_true]; first | exact ⟨rfl, fun _ => Iff.rfl⟩ | simp
  · simp only [g1, if_false]
    by_cases g2 : minBit (domOf ds1 c.v1) - c.c ≥ offs + 64
    · simp only [g2, if_true]
      intro σ hs
      obtain ⟨a1, a2, a3⟩ := hval σ hs
      have hm := (minBit_le _ _ a1).2
      have hhi := ((Dom.has_iff _ _).1 a2).2.1
      omega
    · simp only [g2, if_false]
      cases hd : removeSmaller (domOf ds1 c.v2) (minBit (domOf ds1 c.v1) - c.c) with
      | none =>
        have := removeSmaller_isSome (domOf ds1 c.v2) (minBit (domOf ds1 c.v1) - c.c)
        rw [hd] at this
        simp at this; unfold offs at g2; omega
      | some d =>
        simp only
        have hn := narrow_sound ds1 cs c.v2 d h2 (fun x => decide (minBit (domOf ds1 c.v1) - c.c ≤ x))
          (fun x => removeSmaller_has _ _ _ x hd)
          (by intro σ hs
              obtain ⟨a1, a2, a3⟩ := hval σ hs
              have hm := (minBit_le _ _ a1).2
              simp; omega)
        by_cases g3 : (d != domOf ds1 c.v2) = true
        · simp only [g3, if_true]
          by_cases g4 : d.isEmpty = true
          · simp only [g4, if_true]; exact hn.1 g4
          · simp only [g4]; exact hn.2
        · simp only [g3]; exact ⟨rfl, fun _ => Iff.rfl⟩

/-- soundness of one constraint step: never `ub`; `unsat` only if no solution; `ok` preserves solutions and length -/
theorem stepCon_sound (ds : Doms) (cs : List Con) (c : Con) (hc : c ∈ cs)
    (h1 : c.v1 < ds.length) (h2 : c.v2 < ds.length) :
    match stepCon ds c with
    | .ub => False
    | .unsat => ∀ σ, ¬ Sol ds cs σ
    | .ok ds' _ _ => ds'.length = ds.length ∧ ∀ σ, Sol ds' cs σ ↔ Sol ds cs σ := by
  have s1 := step1_sound ds cs c hc h1 h2
  unfold stepCon
  cases h : step1 ds c with
  | none => rw [h] at s1; exact s1
  | some r =>
    obtain ⟨ds1, ch1⟩ := r
    rw [h] at s1
    simp only at s1 ⊢
    obtain ⟨hl, hs⟩ := s1
    have s2 := step2_sound ds1 cs c ch1 hc (by omega) (by omega)
    cases h2' : step2 ds1 c ch1 with
    | ub => rw [h2'] at s2; exact s2
    | unsat => rw [h2'] at s2; simp only at s2 ⊢; intro σ hσ; exact s2 σ ((hs σ).2 hσ)
    | ok ds' a b =>
      rw [h2'] at s2; simp only at s2 ⊢
      exact ⟨by omega, fun σ => (s2.2 σ).trans (hs σ)⟩

end Csp
