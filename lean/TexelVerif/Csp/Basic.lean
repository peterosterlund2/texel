/-! `BitSet<64,-16>` (bitSet.hpp) as texelutillib/pg/cspsolver.{hpp,cpp} uses it; `removeSmaller` / `removeLarger` and
    which values they keep. -/
namespace Csp

/-- Domain of a variable: bit i set ↔ value (i - 16) allowed. -/
abbrev Dom := BitVec 64

def offs : Int := -16

def Dom.has (d : Dom) (v : Int) : Bool :=
  decide (offs ≤ v) && decide (v < offs + 64) && d.getLsbD (v - offs).toNat

theorem Dom.has_iff (d : Dom) (v : Int) :
    d.has v = true ↔ offs ≤ v ∧ v < offs + 64 ∧ d.getLsbD (v - offs).toNat = true := by
  simp [Dom.has, and_assoc]

/-- all bits ≥ k -/
def maskGe (k : Nat) : Dom := BitVec.allOnes 64 <<< k
/-- all bits < k -/
def maskLt (k : Nat) : Dom := ~~~ (BitVec.allOnes 64 <<< k)

theorem ones_getAll : ∀ i : Fin 64, (18446744073709551615#64).getLsbD i.val = true := by decide
theorem ones_get (i : Nat) (h : i < 64) : (18446744073709551615#64)[i] = true := by
  have := ones_getAll ⟨i, h⟩
  simpa [BitVec.getLsbD_eq_getElem h] using this
theorem maskGe_get (k j : Nat) (hj : j < 64) : (maskGe k).getLsbD j = decide (k ≤ j) := by
  simp [maskGe, hj]
  by_cases h : j < k
  · simp [h]
  · simp [h, ones_get (j - k) (by omega)]; omega
theorem maskLt_get (k j : Nat) (hj : j < 64) : (maskLt k).getLsbD j = decide (j < k) := by
  simp [maskLt, hj]
  intro h
  have := ones_get (j - k) (by omega)
  rw [this] at h; cases h

/-- C++ `removeSmaller(minVal)`; `none` = outside the code's contract (would index data[1]) -/
def removeSmaller (d : Dom) (minVal : Int) : Option Dom :=
  let m := minVal - offs
  if m ≤ 0 then some d
  else if m < 64 then some (d &&& maskGe m.toNat)
  else none

/-- C++ `removeLarger(maxVal)`; `none` = outside the contract (negative word index) -/
def removeLarger (d : Dom) (maxVal : Int) : Option Dom :=
  let m := maxVal - offs + 1
  if 64 ≤ m then some d
  else if 0 ≤ m then some (d &&& maskLt m.toNat)
  else none

theorem removeSmaller_isSome (d : Dom) (m : Int) : (removeSmaller d m).isSome = decide (m ≤ 47) := by
  unfold removeSmaller offs; simp only
  split
  · simp; omega
  · split
    · simp; omega
    · simp; omega

theorem removeLarger_isSome (d : Dom) (m : Int) : (removeLarger d m).isSome = decide (-17 ≤ m) := by
  unfold removeLarger offs; simp only
  split
  · simp; omega
  · split
    · simp; omega
    · simp; omega

/-- intersecting with a mask whose bit for value `v` says whether `P v` holds filters the domain by `P` -/
theorem has_and_mask (d m : Dom) (P : Int → Prop) [DecidablePred P]
    (hm : ∀ v, offs ≤ v → v < offs + 64 → m.getLsbD (v - offs).toNat = decide (P v)) (v : Int) :
    (d &&& m).has v = (d.has v && decide (P v)) := by
  simp only [Dom.has, BitVec.getLsbD_and]
  by_cases h1 : offs ≤ v
  · by_cases h2 : v < offs + 64
    · rw [hm v h1 h2]; simp only [Bool.and_assoc]
    · simp [h2]
  · simp [h1]

theorem Dom.has_window (d : Dom) (v : Int) (h : d.has v = true) : offs ≤ v ∧ v < offs + 64 :=
  ⟨((Dom.has_iff d v).1 h).1, ((Dom.has_iff d v).1 h).2.1⟩

theorem removeSmaller_has (d d' : Dom) (m v : Int) (h : removeSmaller d m = some d') :
    d'.has v = (d.has v && decide (m ≤ v)) := by
  unfold removeSmaller at h
  simp only at h
  split at h
  · -- nothing to remove: every value of the window is at least `m`
    injection h with h; subst h
    by_cases hv : d.has v = true
    · have := d.has_window v hv; simp [hv]; omega
    · simp at hv; simp [hv]
  · split at h
    · injection h with h; subst h
      refine has_and_mask d _ (m ≤ ·) (fun x h1 h2 => ?_) v
      rw [maskGe_get _ _ (by omega)]
      exact decide_eq_decide.mpr (by omega)
    · cases h

theorem removeLarger_has (d d' : Dom) (m v : Int) (h : removeLarger d m = some d') :
    d'.has v = (d.has v && decide (v ≤ m)) := by
  unfold removeLarger at h
  simp only at h
  split at h
  · injection h with h; subst h
    by_cases hv : d.has v = true
    · have := d.has_window v hv; simp [hv]; unfold offs at *; omega
    · simp at hv; simp [hv]
  · split at h
    · injection h with h; subst h
      refine has_and_mask d _ (· ≤ m) (fun x h1 h2 => ?_) v
      rw [maskLt_get _ _ (by unfold offs at *; omega)]
      exact decide_eq_decide.mpr (by unfold offs at *; omega)
    · cases h

end Csp
