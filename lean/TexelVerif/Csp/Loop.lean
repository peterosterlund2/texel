import TexelVerif.Csp.Arc
/-! The work-list loop of `makeArcConsistent` (`arcLoop`, with fuel) and its soundness. -/
namespace Csp

inductive ArcRes where
  | unsat | ub | outOfFuel
  | ok (ds : Doms)

/-- bitmask of constraints that mention variable v (C++ varToConstr[v]) -/
def varTo (cs : List Con) (v : Nat) : List Bool := cs.map (fun c => c.v1 == v || c.v2 == v)

def orMask (a b : List Bool) : List Bool := List.zipWith (· || ·) a b

/-- C++ makeArcConsistent: pick the lowest pending constraint, process it, re-queue neighbours of changed variables, clear it -/
def arcLoop (cs : List Con) : Nat → Doms → List Bool → ArcRes
  | 0, _, _ => .outOfFuel
  | fuel+1, ds, work =>
    match work.idxOf? true with
    | none => .ok ds
    | some ci =>
      match cs[ci]? with
      | none => .ub
      | some c =>
        match stepCon ds c with
        | .unsat => .unsat
        | .ub => .ub
        | .ok ds' ch1 ch2 =>
          let w1 := if ch1 then orMask work (varTo cs c.v1) else work
          let w2 := if ch2 then orMask w1 (varTo cs c.v2) else w1
          arcLoop cs fuel ds' (w2.set ci false)

def WFc (ds : Doms) (cs : List Con) : Prop := ∀ c ∈ cs, c.v1 < ds.length ∧ c.v2 < ds.length

theorem arcLoop_sound (cs : List Con) : ∀ (fuel : Nat) (ds : Doms) (work : List Bool), WFc ds cs →
    work.length = cs.length →
    match arcLoop cs fuel ds work with
    | .ub => False
    | .outOfFuel => True
    | .unsat => ∀ σ, ¬ Sol ds cs σ
    | .ok ds' => ds'.length = ds.length ∧ ∀ σ, Sol ds' cs σ ↔ Sol ds cs σ
  | 0, ds, work, _, _ => by simp [arcLoop]
  | fuel+1, ds, work, hwf, hlen => by
    unfold arcLoop
    cases hi : work.idxOf? true with
    | none => simp
    | some ci =>
      simp only
      have hci : ci < work.length := by
        obtain ⟨h, _⟩ := List.idxOf?_eq_some_iff.1 hi
        exact h
      cases hc : cs[ci]? with
      | none =>
        exfalso
        rw [List.getElem?_eq_none_iff] at hc
        omega
      | some c =>
        simp only
        have hmem : c ∈ cs := List.mem_of_getElem? hc
        obtain ⟨h1, h2⟩ := hwf c hmem
        have ss := stepCon_sound ds cs c hmem h1 h2
        cases hs : stepCon ds c with
        | unsat => rw [hs] at ss; exact ss
        | ub => rw [hs] at ss; exact ss
        | ok ds' ch1 ch2 =>
          rw [hs] at ss
          simp only at ss ⊢
          obtain ⟨hl, hsol⟩ := ss
          have hwf' : WFc ds' cs := fun c' hc' => by have := hwf c' hc'; omega
          have hlen' : ∀ w : List Bool, w.length = cs.length → (w.set ci false).length = cs.length := by
            intro w hw; simpa using hw
          have hor : ∀ (w : List Bool) v, w.length = cs.length → (orMask w (varTo cs v)).length = cs.length := by
            intro w v hw; simp [orMask, varTo, hw]
          have hw2 : ((if ch2 then orMask (if ch1 then orMask work (varTo cs c.v1) else work) (varTo cs c.v2)
                        else (if ch1 then orMask work (varTo cs c.v1) else work)).set ci false).length = cs.length := by
            apply hlen'
            cases ch1 <;> cases ch2 <;> simp [hor, hlen]
          have ih := arcLoop_sound cs fuel ds' _ hwf' hw2
          cases hr : arcLoop cs fuel ds' _ with
          | ub => rw [hr] at ih; exact ih
          | outOfFuel => trivial
          | unsat => rw [hr] at ih; simp only at ih ⊢; intro σ hσ; exact ih σ ((hsol σ).2 hσ)
          | ok ds'' =>
            rw [hr] at ih; simp only at ih ⊢
            exact ⟨by omega, fun σ => (ih.2 σ).trans (hsol σ)⟩

end Csp
