import TexelVerif.Csp.Loop
/-! Backtracking search of CspSolver::solveRecursive, abstracted over the order in which values are tried. -/
namespace Csp

/-- constraints that become checkable when variable k gets its value (both variables ≤ k, one of them = k) -/
def checkAt (cs : List Con) (σ : Asg) (k : Nat) : Bool :=
  cs.all (fun c => !((c.v1 == k || c.v2 == k) && decide (c.v1 ≤ k) && decide (c.v2 ≤ k)) ||
                   decide (valOf σ c.v1 ≤ valOf σ c.v2 + c.c))

/-- `ord k d` = the sequence of values tried for variable k with domain d (C++: getBitVal / clearBit loop) -/
def search (ds : Doms) (cs : List Con) (ord : Nat → Dom → List Int) : Nat → Asg → Option Asg
  | 0, σ => some σ
  | m+1, σ =>
    let k := σ.length
    (ord k (domOf ds k)).findSome? (fun v =>
      if checkAt cs (σ ++ [v]) k then search ds cs ord m (σ ++ [v]) else none)

/-- partial solution on the first k variables -/
def PSol (ds : Doms) (cs : List Con) (k : Nat) (σ : Asg) : Prop :=
  σ.length = k ∧ (∀ v, v < k → (domOf ds v).has (valOf σ v) = true) ∧
  (∀ c ∈ cs, c.v1 < k → c.v2 < k → valOf σ c.v1 ≤ valOf σ c.v2 + c.c)

def OrdOk (ord : Nat → Dom → List Int) : Prop := ∀ k d x, x ∈ ord k d ↔ d.has x = true

theorem valOf_append_lt (σ : Asg) (x : Int) (v : Nat) (h : v < σ.length) : valOf (σ ++ [x]) v = valOf σ v := by
  simp [valOf, List.getD_eq_getElem?_getD, List.getElem?_append_left h]

theorem valOf_append_eq (σ : Asg) (x : Int) : valOf (σ ++ [x]) σ.length = x := by
  simp [valOf, List.getD_eq_getElem?_getD]

theorem psol_extend (ds : Doms) (cs : List Con) (σ : Asg) (x : Int) (k : Nat)
    (hp : PSol ds cs k σ) (hx : (domOf ds k).has x = true) (hc : checkAt cs (σ ++ [x]) k = true) :
    PSol ds cs (k+1) (σ ++ [x]) := by
  obtain ⟨hl, hd, hcs⟩ := hp
  refine ⟨by simp [hl], fun v hv => ?_, fun c hcm h1 h2 => ?_⟩
  · by_cases hvk : v < k
    · rw [valOf_append_lt _ _ _ (by omega)]; exact hd v hvk
    · have : v = k := by omega
      subst this; rw [← hl, valOf_append_eq]; rw [hl]; exact hx
  · by_cases hboth : c.v1 < k ∧ c.v2 < k
    · rw [valOf_append_lt _ _ _ (by omega), valOf_append_lt _ _ _ (by omega)]
      exact hcs c hcm hboth.1 hboth.2
    · -- one of them is k: covered by checkAt
      unfold checkAt at hc
      rw [List.all_eq_true] at hc
      have := hc c hcm
      have hk : (c.v1 == k || c.v2 == k) = true := by
        simp only [Bool.or_eq_true, beq_iff_eq]; omega
      have h1' : decide (c.v1 ≤ k) = true := by simp; omega
      have h2' : decide (c.v2 ≤ k) = true := by simp; omega
      simpa [hk, h1', h2'] using this

end Csp

namespace Csp

theorem search_sound (ds : Doms) (cs : List Con) (ord : Nat → Dom → List Int) (hord : OrdOk ord) :
    ∀ (m : Nat) (σ : Asg) (k : Nat), PSol ds cs k σ → ∀ τ, search ds cs ord m σ = some τ → PSol ds cs (k+m) τ
  | 0, σ, k, hp, τ, h => by simp [search] at h; subst h; simpa using hp
  | m+1, σ, k, hp, τ, h => by
    unfold search at h
    simp only at h
    obtain ⟨x, hx, hxs⟩ := List.exists_of_findSome?_eq_some h
    have hlen : σ.length = k := hp.1
    by_cases hc : checkAt cs (σ ++ [x]) σ.length = true
    · rw [if_pos hc] at hxs
      have hx' : (domOf ds k).has x = true := by rw [← hlen]; exact (hord _ _ _).1 hx
      have := psol_extend ds cs σ x k hp hx' (by rw [← hlen]; exact hc)
      have r := search_sound ds cs ord hord m (σ ++ [x]) (k+1) this τ hxs
      have e : k + 1 + m = k + (m + 1) := by omega
      rw [e] at r; exact r
    · rw [if_neg hc] at hxs; cases hxs

/-- τ extends σ -/
def Ext (σ τ : Asg) : Prop := ∃ r, τ = σ ++ r

theorem checkAt_of_psol (ds : Doms) (cs : List Con) (τ : Asg) (N k : Nat) (hk : k < N)
    (hτ : PSol ds cs N τ) : checkAt cs (τ.take (k+1)) k = true := by
  unfold checkAt
  rw [List.all_eq_true]
  intro c hc
  by_cases hcond : ((c.v1 == k || c.v2 == k) && decide (c.v1 ≤ k) && decide (c.v2 ≤ k)) = true
  · simp only [hcond, Bool.not_true, Bool.false_or, decide_eq_true_eq]
    simp only [Bool.and_eq_true, decide_eq_true_eq] at hcond
    obtain ⟨⟨_, h1⟩, h2⟩ := hcond
    have hv : ∀ v, v ≤ k → valOf (τ.take (k+1)) v = valOf τ v := by
      intro v hv
      simp [valOf, List.getD_eq_getElem?_getD, List.getElem?_take, Nat.lt_succ_of_le hv]
    rw [hv _ h1, hv _ h2]
    exact hτ.2.2 c hc (by omega) (by omega)
  · simp only [Bool.not_eq_true] at hcond
    simp [hcond]

theorem search_complete (ds : Doms) (cs : List Con) (ord : Nat → Dom → List Int) (hord : OrdOk ord)
    (N : Nat) (τ : Asg) (hτ : PSol ds cs N τ) :
    ∀ (m k : Nat), k + m = N → (search ds cs ord m (τ.take k)).isSome = true
  | 0, k, _ => by simp [search]
  | m+1, k, hkm => by
    unfold search
    simp only
    have hlen : (τ.take k).length = k := by simp [hτ.1]; omega
    rw [List.findSome?_isSome_iff]
    have hkN : k < N := by omega
    refine ⟨valOf τ k, ?_, ?_⟩
    · rw [hlen]; exact (hord _ _ _).2 (hτ.2.1 k hkN)
    · have htake : τ.take k ++ [valOf τ k] = τ.take (k+1) := by
        rw [List.take_succ]
        congr 1
        simp [valOf, List.getD_eq_getElem?_getD]
        have : k < τ.length := by rw [hτ.1]; exact hkN
        simp [List.getElem?_eq_getElem this]
      rw [htake, hlen, checkAt_of_psol ds cs τ N k hkN hτ, if_pos rfl]
      exact search_complete ds cs ord hord N τ hτ m (k+1) (by omega)

end Csp
