import TexelVerif.Csp.Search
/-! `CspSolver::solve` for an arbitrary value order (`Csp.solve`) and its exactness; `sol_no_vars` and `search_exact`
    also serve the call-sequence model `Sys.solve` (`Run.lean`). -/
namespace Csp

theorem psol_iff_sol (ds : Doms) (cs : List Con) (hwf : WFc ds cs) (τ : Asg) :
    PSol ds cs ds.length τ ↔ Sol ds cs τ := by
  constructor
  · rintro ⟨h1, h2, h3⟩
    exact ⟨h1, h2, fun c hc => h3 c hc (hwf c hc).1 (hwf c hc).2⟩
  · rintro ⟨h1, h2, h3⟩
    exact ⟨h1, h2, fun c hc _ _ => h3 c hc⟩

theorem sol_no_vars (ds : Doms) (cs : List Con) (hwf : WFc ds cs) (h0 : ds.length = 0) : cs = [] ∧ Sol ds cs [] := by
  have : cs = [] := by
    cases cs with
    | nil => rfl
    | cons c _ => have := (hwf c (List.mem_cons_self ..)).1; omega
  subst this
  exact ⟨rfl, by simp [h0], fun v hv => by omega, fun c hc => by cases hc⟩

/-- the search on the domains `ds'` left by arc consistency decides the original `ds` -/
theorem search_exact (ds ds' : Doms) (cs : List Con) (ord : Nat → Dom → List Int) (hord : OrdOk ord) (hwf : WFc ds cs)
    (hl : ds'.length = ds.length) (hs : ∀ σ, Sol ds' cs σ ↔ Sol ds cs σ) :
    (∀ τ, search ds' cs ord ds'.length [] = some τ → Sol ds cs τ) ∧
    (search ds' cs ord ds'.length [] = none → ∀ τ, ¬ Sol ds cs τ) := by
  have hwf' : WFc ds' cs := fun c hc => by have := hwf c hc; omega
  constructor
  · intro τ hsr
    have := search_sound ds' cs ord hord ds'.length [] 0 ⟨rfl, fun v hv => by omega, fun c _ h1 _ => by omega⟩ τ hsr
    rw [Nat.zero_add] at this
    exact (hs τ).1 ((psol_iff_sol ds' cs hwf' τ).1 this)
  · intro hsr τ hτ
    have hτ' := (psol_iff_sol ds' cs hwf' τ).2 ((hs τ).2 hτ)
    have := search_complete ds' cs ord hord ds'.length τ hτ' ds'.length 0 (by omega)
    simp [hsr] at this

inductive SolveRes where
  | sat (τ : Asg) | unsat | stuck      -- stuck = outside the model's contract or fuel exhausted

/-- CspSolver::solve -/
def solve (ds : Doms) (cs : List Con) (ord : Nat → Dom → List Int) (fuel : Nat) : SolveRes :=
  if ds.length = 0 then .sat []
  else match arcLoop cs fuel ds (List.replicate cs.length true) with
    | .unsat => .unsat
    | .ub => .stuck
    | .outOfFuel => .stuck
    | .ok ds' => match search ds' cs ord ds'.length [] with
      | some τ => .sat τ
      | none => .unsat

/-- exactness: `sat τ` gives a solution, `unsat` means there is none -/
theorem solve_exact (ds : Doms) (cs : List Con) (ord : Nat → Dom → List Int) (hord : OrdOk ord)
    (fuel : Nat) (hwf : WFc ds cs) :
    match solve ds cs ord fuel with
    | .sat τ => Sol ds cs τ
    | .unsat => ∀ τ, ¬ Sol ds cs τ
    | .stuck => True := by
  unfold solve
  by_cases h0 : ds.length = 0
  · rw [if_pos h0]; exact (sol_no_vars ds cs hwf h0).2
  · rw [if_neg h0]
    have ha := arcLoop_sound cs fuel ds (List.replicate cs.length true) hwf (by simp)
    cases hr : arcLoop cs fuel ds (List.replicate cs.length true) with
    | unsat => rw [hr] at ha; exact ha
    | ub => trivial
    | outOfFuel => trivial
    | ok ds' =>
      rw [hr] at ha
      simp only at ha ⊢
      have hx := search_exact ds ds' cs ord hord hwf ha.1 ha.2
      cases hsr : search ds' cs ord ds'.length [] with
      | some τ => exact hx.1 τ hsr
      | none => exact hx.2 hsr

end Csp
