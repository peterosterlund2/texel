import TexelVerif.Conc.StepG2
/-! QUIT / QUIT_ACK accounting `G8`, the analogue of the stop/ack debts for the shutdown handshake:
    `quitAckWaitChildren` of `p` is the number of QUIT_ACKs its children still owe.  `G9` (what holds once the engine
    thread has passed its quit handshake, `postQuitPc`) stands here too. -/
namespace Conc

variable {n : Nat}

def cQuit (l : List (Cmd n)) : Nat := l.count Cmd.quit
def cQAck (l : List (Cmd n)) (c : Fin n) : Nat := l.count (Cmd.quitAck c)
def pQuit (l : List (Out n)) (c : Fin n) : Nat := l.count (Out.enq c Cmd.quit)
def pQAck (l : List (Out n)) (p c : Fin n) : Nat := l.count (Out.enq p (Cmd.quitAck c))

/-- QUIT on its way from `p` to `c` -/
def quitIn (s : St n) (p c : Fin n) : Nat := cQuit (s.q c) + pQuit (s.out p) c
/-- QUIT_ACK on its way from `c` to `p` -/
def qackIn (s : St n) (p c : Fin n) : Nat := cQAck (s.q p) c + pQAck (s.out c) p c
/-- number of QUIT_ACKs `c` still owes `p` -/
def qdebt (s : St n) (p c : Fin n) : Nat :=
  quitIn s p c + (if 0 < s.quitWait c then 1 else 0) + qackIn s p c

structure G8 (r : Fin n) (s : St n) : Prop where
  qrange : ∀ v, s.alive v = true → -1 ≤ s.quitWait v
  qsum : ∀ p, s.alive p = true → 0 ≤ s.quitWait p → s.quitWait p = (sumCh s p (qdebt s p) : Nat)
  qzero : ∀ p c, isChild s p c = true → s.quitWait p = -1 → s.quitWait c = -1 ∧ qdebt s p c = 0
  qle1 : ∀ p c, isChild s p c = true → qdebt s p c ≤ 1
  qpre : ∀ p c, isChild s p c = true → 0 < quitIn s p c → s.quitWait c = -1

theorem cQuit_cons (x : Cmd n) (l : List (Cmd n)) : cQuit (x :: l) = cQuit l + (if x = Cmd.quit then 1 else 0) :=
  count_cons_ite _ x l

theorem cQAck_cons (x : Cmd n) (l : List (Cmd n)) (c : Fin n) :
    cQAck (x :: l) c = cQAck l c + (if x = Cmd.quitAck c then 1 else 0) :=
  count_cons_ite _ x l

theorem cQuit_purge (l : List (Cmd n)) : cQuit (purge l) = cQuit l := by
  unfold cQuit purge; exact List.count_filter (by simp [Cmd.purgeable])

theorem cQAck_purge (l : List (Cmd n)) (c : Fin n) : cQAck (purge l) c = cQAck l c := by
  unfold cQAck purge; exact List.count_filter (by simp [Cmd.purgeable])

theorem cQuit_push (l : List (Cmd n)) (x : Cmd n) : cQuit (pushCmd l x) = cQuit l + (if x = Cmd.quit then 1 else 0) :=
  count_pushCmd l x _ rfl

theorem cQAck_push (l : List (Cmd n)) (x : Cmd n) (c : Fin n) :
    cQAck (pushCmd l x) c = cQAck l c + (if x = Cmd.quitAck c then 1 else 0) :=
  count_pushCmd l x _ rfl

theorem pQuit_erase (l : List (Out n)) (o : Out n) (c : Fin n) :
    pQuit (l.erase o) c = pQuit l c - (if o = Out.enq c Cmd.quit then 1 else 0) :=
  count_erase_ite _ o l

theorem pQAck_erase (l : List (Out n)) (o : Out n) (p c : Fin n) :
    pQAck (l.erase o) p c = pQAck l p c - (if o = Out.enq p (Cmd.quitAck c) then 1 else 0) :=
  count_erase_ite _ o l

theorem pQuit_bcast (s : St n) (p : Fin n) (x : Cmd n) (c : Fin n) :
    pQuit (bcast s p x) c = if x = Cmd.quit ∧ isChild s p c = true then 1 else 0 := by
  unfold pQuit bcast
  rw [count_map_enq _ (children_nodup s p)]
  simp only [mem_children]

theorem pQAck_bcast (s : St n) (p : Fin n) (x : Cmd n) (q c : Fin n) (hx : ∀ d, x ≠ Cmd.quitAck d) :
    pQAck (bcast s p x) q c = 0 := by
  unfold pQAck bcast
  rw [count_map_enq _ (children_nodup s p)]
  simp [hx c]

theorem pQuit_nil (c : Fin n) : pQuit ([] : List (Out n)) c = 0 := rfl
theorem pQAck_nil (p c : Fin n) : pQAck ([] : List (Out n)) p c = 0 := rfl

theorem pQuit_notify_cons (t : Fin n) (l : List (Out n)) (c : Fin n) : pQuit (Out.notify t :: l) c = pQuit l c := by
  unfold pQuit; rw [count_cons_ite, if_neg (fun e => by cases e), Nat.add_zero]
theorem pQAck_notify_cons (t : Fin n) (l : List (Out n)) (p c : Fin n) : pQAck (Out.notify t :: l) p c = pQAck l p c := by
  unfold pQAck; rw [count_cons_ite, if_neg (fun e => by cases e), Nat.add_zero]

theorem pQuit_toParent (s : St n) (v : Fin n) (x : Cmd n) (hx : x ≠ Cmd.quit) (d : Fin n) : pQuit (toParent s v x) d = 0 := by
  unfold toParent pQuit
  split
  · rw [List.count_eq_zero]; intro hm; simp at hm; exact hx hm.2.symm
  · simp

theorem pQAck_toParent_ne (s : St n) (v : Fin n) (x : Cmd n) (hx : ∀ d, x ≠ Cmd.quitAck d) (p d : Fin n) :
    pQAck (toParent s v x) p d = 0 := by
  unfold toParent pQAck
  split
  · rw [List.count_eq_zero]; intro hm; simp at hm; exact hx d hm.2.symm
  · simp

theorem pQAck_toParent_self {s : St n} {p v : Fin n} (hpar : s.parent v = some p) :
    pQAck (toParent s v (Cmd.quitAck v)) p v = 1 := by
  simp [toParent, hpar, pQAck]

theorem pQuit_noQuit {l : List (Out n)} (h : l.any Out.isQuit = false) (d : Fin n) : pQuit l d = 0 :=
  List.count_eq_zero.2 (fun hm => by cases List.any_eq_false.1 h _ hm rfl)

theorem pQAck_noQuit {l : List (Out n)} (h : l.any Out.isQuit = false) (p d : Fin n) : pQAck l p d = 0 :=
  List.count_eq_zero.2 (fun hm => by cases List.any_eq_false.1 h _ hm rfl)

theorem pop_noQuit {l rest : List (Cmd n)} {c : Cmd n} (hq : l = c :: rest) (hc : c.isQuit = false) :
    cQuit rest = cQuit l ∧ ∀ d, cQAck rest d = cQAck l d := by
  subst hq
  refine ⟨?_, fun d => ?_⟩
  · rw [cQuit_cons, if_neg (fun e => by rw [e] at hc; cases hc), Nat.add_zero]
  · rw [cQAck_cons, if_neg (fun e => by rw [e] at hc; cases hc), Nat.add_zero]

theorem quitIn_le_qdebt (s : St n) (p c : Fin n) : quitIn s p c ≤ qdebt s p c :=
  Nat.le_trans (Nat.le_add_right _ _) (Nat.le_add_right _ _)

def G8.tree (s : St n) := (s.alive, s.parent)

theorem G8.frame {r : Fin n} {s s' : St n} (h : G8 r s) (ht : G8.tree s' = G8.tree s) (hw : s'.quitWait = s.quitWait)
    (hqi : ∀ p c, isChild s p c = true → quitIn s' p c = quitIn s p c) (hai : ∀ p c, isChild s p c = true → qackIn s' p c = qackIn s p c) : G8 r s' := by
  obtain ⟨ha, hp⟩ := Prod.mk.inj ht
  have hic := isChild_congr ha hp
  have hd : ∀ p c, isChild s p c = true → qdebt s' p c = qdebt s p c := by intro p c hc; unfold qdebt; rw [hqi p c hc, hai p c hc, hw]
  refine ⟨?_, ?_, ?_, ?_, ?_⟩
  · intro v hv; rw [ha] at hv; rw [hw]; exact h.qrange v hv
  · intro p hpa h0; rw [ha] at hpa; rw [hw] at h0 ⊢
    rw [h.qsum p hpa h0]
    congr 1
    exact sumCh_congr s s' p _ _ (hic p) (fun c hc => (hd p c hc).symm)
  · intro p c hc hm; rw [hic] at hc; rw [hw] at hm ⊢; rw [hd p c hc]; exact h.qzero p c hc hm
  · intro p c hc; rw [hic] at hc; rw [hd p c hc]; exact h.qle1 p c hc
  · intro p c hc hq; rw [hic] at hc; rw [hqi p c hc] at hq; rw [hw]; exact h.qpre p c hc hq

theorem G8.same {r : Fin n} {s s' : St n} (h : G8 r s)
    (e : (G8.tree s', s'.quitWait, s'.q, s'.out) = (G8.tree s, s.quitWait, s.q, s.out)) : G8 r s' := by
  simp only [Prod.mk.injEq] at e
  obtain ⟨ht, hw, hq, ho⟩ := e
  exact h.frame ht hw (fun p c _ => by unfold quitIn; rw [hq, ho]) (fun p c _ => by unfold qackIn; rw [hq, ho])

theorem G8.neutral {r : Fin n} {s s' : St n} (h : G8 r s) (v : Fin n) (ql : List (Cmd n)) (ol : List (Out n))
    (ht : G8.tree s' = G8.tree s) (hql : cQuit ql = cQuit (s.q v) ∧ ∀ d, cQAck ql d = cQAck (s.q v) d)
    (h3 : ∀ d, pQuit ol d = pQuit (s.out v) d) (h4 : ∀ p d, pQAck ol p d = pQAck (s.out v) p d)
    (hw : s'.quitWait = s.quitWait := by rfl) (hq : s'.q = upd s.q v ql := by rfl) (ho : s'.out = upd s.out v ol := by rfl) :
    G8 r s' := by
  refine h.frame ht hw (fun p c _ => ?_) (fun p c _ => ?_)
  · unfold quitIn; rw [hq, ho, upd_congr_at cQuit hql.1, upd_congr_at (pQuit · c) (h3 c)]
  · unfold qackIn; rw [hq, ho, upd_congr_at (cQAck · c) (hql.2 c), upd_congr_at (pQAck · p c) (h4 p c)]

theorem G8.quiet {r : Fin n} {s s' : St n} (h : G8 r s) (v : Fin n) (ql : List (Cmd n)) (ol : List (Out n))
    (hout : s.out v = []) (hol : ol.any Out.isQuit = false) (ht : G8.tree s' = G8.tree s)
    (hql : cQuit ql = cQuit (s.q v) ∧ ∀ d, cQAck ql d = cQAck (s.q v) d)
    (hw : s'.quitWait = s.quitWait := by rfl) (hq : s'.q = upd s.q v ql := by rfl) (ho : s'.out = upd s.out v ol := by rfl) :
    G8 r s' :=
  h.neutral v ql ol ht hql (fun d => by rw [hout, pQuit_noQuit hol, pQuit_nil])
    (fun p d => by rw [hout, pQAck_noQuit hol, pQAck_nil]) hw hq ho

theorem G8.of_idle {r : Fin n} {s : St n} (hw : ∀ w, s.alive w = true → s.quitWait w = -1)
    (hd : ∀ p c, isChild s p c = true → qdebt s p c = 0) : G8 r s := by
  refine ⟨?_, ?_, ?_, ?_, ?_⟩
  · intro v hv; rw [hw v hv]; exact Int.le_refl _
  · intro p hp h0; rw [hw p hp] at h0; exact absurd h0 (by decide)
  · intro p c hc _; exact ⟨hw c ((isChild_iff s p c).1 hc).1, hd p c hc⟩
  · intro p c hc; rw [hd p c hc]; exact Nat.zero_le 1
  · intro p c hc _; exact hw c ((isChild_iff s p c).1 hc).1

/-- the edge `v → c` after `v` has popped `k` QUIT_ACKs of `c` and made `ol` its pending actions -/
theorem qdebt_down {s s' : St n} {v c : Fin n} {qw : Int} {ql : List (Cmd n)} {ol : List (Out n)} {k : Nat}
    (hw : s'.quitWait = upd s.quitWait v qw) (hq : s'.q = upd s.q v ql) (ho : s'.out = upd s.out v ol)
    (hout : s.out v = []) (hcv : c ≠ v) (hk : cQAck (s.q v) c = cQAck ql c + k) :
    quitIn s' v c = quitIn s v c + pQuit ol c ∧ qdebt s' v c + k = qdebt s v c + pQuit ol c := by
  unfold qdebt quitIn qackIn
  rw [hw, hq, ho, upd_same, upd_same, upd_other _ _ _ _ hcv, upd_other _ _ _ _ hcv, upd_other _ _ _ _ hcv, hout, pQuit_nil, hk]
  omega

/-- the edge `p → v` after `v` has popped `k` QUITs and set its counter to `qw` -/
theorem qdebt_up {s s' : St n} {v p : Fin n} {qw : Int} {ql : List (Cmd n)} {ol : List (Out n)} {k : Nat}
    (hw : s'.quitWait = upd s.quitWait v qw) (hq : s'.q = upd s.q v ql) (ho : s'.out = upd s.out v ol)
    (hout : s.out v = []) (hpv : p ≠ v) (hk : cQuit (s.q v) = cQuit ql + k) :
    quitIn s' p v + k = quitIn s p v ∧
    qdebt s' p v + k + (if 0 < s.quitWait v then 1 else 0) = qdebt s p v + ((if 0 < qw then 1 else 0) + pQAck ol p v) := by
  unfold qdebt quitIn qackIn
  rw [hw, hq, ho, upd_same, upd_same, upd_same, upd_other _ _ _ _ hpv, upd_other _ _ _ _ hpv, hout, pQAck_nil, hk]
  omega

/-- Only the edges at `v` change: `hch` is what `v` owes as the parent of its children, `hup` as a child. -/
theorem G8.local {r : Fin n} {s s' : St n} (h1 : G1 r s) (h : G8 r s) (v : Fin n) (qw : Int) (ql : List (Cmd n)) (ol : List (Out n))
    (ht : G8.tree s' = G8.tree s)
    (hw : s'.quitWait = upd s.quitWait v qw) (hq : s'.q = upd s.q v ql) (ho : s'.out = upd s.out v ol)
    (hr : 0 ≤ qw) (hsum : qw = (sumCh s v (qdebt s' v) : Nat))
    (hch : ∀ c, isChild s v c = true → qdebt s' v c ≤ 1 ∧ (0 < quitIn s' v c → s.quitWait c = -1))
    (hup : ∀ p, isChild s p v = true → qdebt s' p v = qdebt s p v ∧ ¬ (s.quitWait p = -1 ∨ 0 < quitIn s' p v)) : G8 r s' := by
  obtain ⟨ha, hp⟩ := Prod.mk.inj ht
  have hic := isChild_congr ha hp
  have hwv : s'.quitWait v = qw := eq_upd_same hw
  have hwo : ∀ w, w ≠ v → s'.quitWait w = s.quitWait w := fun w hn => eq_upd_other hw hn
  have hother : ∀ p c, p ≠ v → c ≠ v → quitIn s' p c = quitIn s p c ∧ qdebt s' p c = qdebt s p c := by
    intro p c hpv hcv
    unfold qdebt quitIn qackIn
    rw [hq, ho, hwo c hcv, upd_other _ _ _ _ hcv, upd_other _ _ _ _ hpv, upd_other _ _ _ _ hpv, upd_other _ _ _ _ hcv]
    exact ⟨rfl, rfl⟩
  have hdo : ∀ p c, p ≠ v → isChild s p c = true → qdebt s' p c = qdebt s p c := by
    intro p c hpv hc
    by_cases hcv : c = v
    · subst hcv; exact (hup p hc).1
    · exact (hother p c hpv hcv).2
  refine ⟨?_, ?_, ?_, ?_, ?_⟩
  · intro w hw'; rw [ha] at hw'
    by_cases hwv' : w = v
    · subst hwv'; rw [hwv]; exact Int.le_trans (by decide) hr
    · rw [hwo w hwv']; exact h.qrange w hw'
  · intro p hpa h0; rw [ha] at hpa
    by_cases hpv : p = v
    · subst hpv; rw [hwv, hsum]; congr 1
      exact sumCh_congr s s' p _ _ (hic p) (fun _ _ => rfl)
    · rw [hwo p hpv] at h0 ⊢
      rw [h.qsum p hpa h0]; congr 1
      exact sumCh_congr s s' p _ _ (hic p) (fun c hc => (hdo p c hpv hc).symm)
  · intro p c hc hm; rw [hic] at hc
    by_cases hpv : p = v
    · subst hpv; rw [hwv] at hm; rw [hm] at hr; exact absurd hr (by decide)
    · rw [hwo p hpv] at hm
      by_cases hcv : c = v
      · subst hcv; exact absurd (.inl hm) (hup p hc).2
      · rw [hwo c hcv, (hother p c hpv hcv).2]; exact h.qzero p c hc hm
  · intro p c hc; rw [hic] at hc
    by_cases hpv : p = v
    · subst hpv; exact (hch c hc).1
    · rw [hdo p c hpv hc]; exact h.qle1 p c hc
  · intro p c hc hqi; rw [hic] at hc
    by_cases hpv : p = v
    · subst hpv; rw [hwo c (h1.child_ne hc)]; exact (hch c hc).2 hqi
    · by_cases hcv : c = v
      · subst hcv; exact absurd (.inr hqi) (hup p hc).2
      · rw [(hother p c hpv hcv).1] at hqi; rw [hwo c hcv]; exact h.qpre p c hc hqi

def postQuitPc : Pc → Bool
  | .equit | .eqwait | .edone => true
  | _ => false

/-- the root's `quitAckWaitChildren` is still -1 until `sendQuit` -/
structure G9 (r : Fin n) (s : St n) : Prop where
  qroot : s.quitWait r ≠ -1 → postQuitPc (s.pc r) = true

theorem G9.keep {r : Fin n} {s s' : St n} (h : G9 r s) (hw : s'.quitWait r = s.quitWait r)
    (hpc : postQuitPc (s.pc r) = true → postQuitPc (s'.pc r) = true) : G9 r s' :=
  ⟨fun hh => hpc (h.qroot (by rw [← hw]; exact hh))⟩

theorem G9.move {r : Fin n} {s s' : St n} (h : G9 r s) {v : Fin n} {x : Pc} (hw : s'.quitWait r = s.quitWait r)
    (hpc : s'.pc = upd s.pc v x) (hx : postQuitPc (s.pc v) = true → postQuitPc x = true) : G9 r s' := by
  refine h.keep hw (fun hh => ?_)
  rw [hpc]
  by_cases hrv : r = v
  · subst hrv; rw [upd_same]; exact hx hh
  · rw [upd_other _ _ _ _ hrv]; exact hh

theorem postQuitPc_afterWait (p : Pc) : postQuitPc p = true → postQuitPc (afterWait p) = true := by
  cases p <;> exact id

theorem G9.pre {r : Fin n} {s : St n} (h : G9 r s) (hpc : postQuitPc (s.pc r) = false) : s.quitWait r = -1 :=
  Decidable.byContradiction fun hne => by have := h.qroot hne; rw [hpc] at this; cases this

end Conc
