import TexelVerif.Conc.Model
/-! The step function of the protocol model as a relation: one constructor per successful branch of
    `Conc.step`, with the guards of that branch as hypotheses and the successor state written out.
    The preservation proofs go by `cases` on `Step`, so that none of them has to take `step` apart again. -/
namespace Conc

variable {n : Nat}

inductive Step (r : Fin n) (s : St n) : Ev n → St n → Prop where
  | waitRet (v : Fin n) : s.alive v = true → s.out v = [] → isWaitPc (s.pc v) = true → s.flag v = true →
      Step r s (.waitRet v) { s with flag := upd s.flag v false, pc := upd s.pc v (afterWait (s.pc v)) }
  | deqW (v : Fin n) (c : Cmd n) (rest : List (Cmd n)) : s.alive v = true → s.out v = [] → s.q v = c :: rest →
      (s.pc v = .poll ∨ ∃ j, s.pc v = .search j) →
      Step r s (.deq v) (handleW { s with q := upd s.q v rest } v c)
  | deqSearch (v : Fin n) (c : Cmd n) (rest : List (Cmd n)) : s.alive v = true → s.out v = [] → s.q v = c :: rest →
      s.pc v = .esearch → Step r s (.deq v) { s with q := upd s.q v rest }
  | deqCollect (v : Fin n) (c : Cmd n) (rest : List (Cmd n)) : s.alive v = true → s.out v = [] → s.q v = c :: rest →
      s.pc v = .ecollect → Step r s (.deq v) (handleE { s with q := upd s.q v rest } v .ecollect c)
  | deqQuit (v : Fin n) (c : Cmd n) (rest : List (Cmd n)) : s.alive v = true → s.out v = [] → s.q v = c :: rest →
      s.pc v = .equit → Step r s (.deq v) (handleE { s with q := upd s.q v rest } v .equit c)
  | pollW (v : Fin n) : s.alive v = true → s.out v = [] → s.q v = [] → s.pc v = .poll →
      Step r s (.pollEmpty v)
        { s with pc := upd s.pc v (if s.quitWait v = 0 then .done else
                                    match s.jobId v with
                                    | some j => .search j
                                    | none => .ackSelf) }
  | pollS (v : Fin n) : s.alive v = true → s.out v = [] → s.q v = [] → ((∃ j, s.pc v = .search j) ∨ s.pc v = .esearch) →
      Step r s (.pollEmpty v) s
  | pollCollectDone (v : Fin n) : s.alive v = true → s.out v = [] → s.q v = [] → s.pc v = .ecollect →
      s.childWait v = 0 → s.selfWait v = false →
      Step r s (.pollEmpty v) { s with pc := upd s.pc v .epost, out := upd s.out v [Out.notify v] }
  | pollCollectWait (v : Fin n) : s.alive v = true → s.out v = [] → s.q v = [] → s.pc v = .ecollect →
      ¬ (s.childWait v = 0 ∧ s.selfWait v = false) →
      Step r s (.pollEmpty v) { s with pc := upd s.pc v .ecwait }
  | pollQuit (v : Fin n) : s.alive v = true → s.out v = [] → s.q v = [] → s.pc v = .equit →
      Step r s (.pollEmpty v) { s with pc := upd s.pc v (if s.quitWait v = 0 then .edone else .eqwait) }
  | send (v : Fin n) (o : Out n) : s.alive v = true → o ∈ s.out v →
      Step r s (.send v o) (applyOut { s with out := upd s.out v ((s.out v).erase o) } o)
  | ackSelfW (v : Fin n) : s.alive v = true → s.out v = [] → s.pc v = .ackSelf → s.selfWait v = true →
      Step r s (.ackSelf v)
        { s with selfWait := upd s.selfWait v false, pc := upd s.pc v .wait,
                 out := upd s.out v (if s.childWait v = 0 then toParent s v (.ack v) else []) }
  | ackSelfW0 (v : Fin n) : s.alive v = true → s.out v = [] → s.pc v = .ackSelf → ¬ s.selfWait v = true →
      Step r s (.ackSelf v) { s with pc := upd s.pc v .wait }
  | ackSelfE (v : Fin n) : s.alive v = true → s.out v = [] → s.pc v = .eack →
      Step r s (.ackSelf v) { s with selfWait := upd s.selfWait v false, pc := upd s.pc v .ecollect }
  | resultFwd (v : Fin n) (j : Nat) : s.alive v = true → s.out v = [] → s.pc v = .search j →
      s.hasResult v = false → s.jobId v = some j →
      Step r s (.searchResult v)
        { s with hasResult := upd s.hasResult v true, out := upd s.out v (toParent s v (.report v (s.jobEp v) j)) }
  | resultDrop (v : Fin n) (j : Nat) : s.alive v = true → s.out v = [] → s.pc v = .search j →
      ¬ (s.hasResult v = false ∧ s.jobId v = some j) → Step r s (.searchResult v) s
  | leaveMax (v : Fin n) (j : Nat) : s.alive v = true → s.out v = [] → s.pc v = .search j →
      Step r s (.searchLeave v true) { s with jobId := upd s.jobId v none, pc := upd s.pc v .ackSelf }
  | leaveStop (v : Fin n) (j : Nat) : s.alive v = true → s.out v = [] → s.pc v = .search j → s.jobId v ≠ some j →
      Step r s (.searchLeave v false) { s with pc := upd s.pc v .ackSelf }
  | spawn (v p : Fin n) : s.alive v = false → s.alive p = true → v ≠ r → v ≠ p → s.q v = [] → s.out v = [] →
      mainLoopPc (s.pc r) = true → s.q p = [] → s.out p = [] → (p = r ∨ (s.pc p = .wait ∧ s.flag p = false)) →
      pendingTo (s.out p) v = 0 → (s.q p).all (fun c => !mentions v c) = true →
      (List.finRange n).all (fun c => !(s.parent c == some v && s.alive c)) = true →
      Step r s (.spawn v p)
        { s with alive := upd s.alive v true, parent := upd s.parent v (some p),
                 depth := upd s.depth v (s.depth p + 1), gen := upd s.gen v (s.gen p), pc := upd s.pc v .wait,
                 flag := upd s.flag v false, selfWait := upd s.selfWait v false,
                 childWait := upd s.childWait v 0, quitWait := upd s.quitWait v (-1),
                 jobId := upd s.jobId v none, hasResult := upd s.hasResult v false }
  | tend (v : Fin n) : s.alive v = true → v ≠ r → s.pc v = .poll → s.out v = [] → s.q v = [] → s.selfWait v = false →
      s.childWait v = 0 → s.jobId v = none → mainLoopPc (s.pc r) = true →
      (s.search.cur = false ∧ s.search.nxt = none ∧ s.quitF.cur = false ∧ s.quitF.nxt = none) →
      Step r s (.tend v) { s with pc := upd s.pc v .gone }
  | exit (v : Fin n) : s.alive v = true → v ≠ r → s.pc v = .gone → s.out v = [] → s.q v = [] → mainLoopPc (s.pc r) = true →
      s.selfWait v = false → s.childWait v = 0 → s.jobId v = none → nChildren s v = 0 → parentClean s v = true →
      Step r s (.exit v) { s with alive := upd s.alive v false }
  | rdPreQuit : s.out r = [] → s.pc r = .eQ0 → Step r s (.eRdPre .quit) { s with quitF := s.quitF.snap, pc := upd s.pc r .eQ1 }
  | rdPreSearch : s.out r = [] → s.pc r = .eS0 → Step r s (.eRdPre .search) { s with search := s.search.snap, pc := upd s.pc r .eS1 }
  | rdPreHold : s.out r = [] → ((∃ ws, s.pc r = .ehold ws) ∨ s.pc r = .eGo) →
      Step r s (.eRdPre .hold) { s with ponder := s.ponder.snap, infinite := s.infinite.snap }
  | rdQuit (b : Bool) : s.out r = [] → s.pc r = .eQ1 → s.quitF.seen b = true →
      Step r s (.eRd .quit b) { s with pc := upd s.pc r (if b then .eQuit0 else .eOpts1) }
  | rdSearch (b : Bool) : s.out r = [] → s.pc r = .eS1 → s.search.seen b = true →
      Step r s (.eRd .search b) { s with pc := upd s.pc r (if b then .eBegin else .ewait) }
  | optsSwap : s.out r = [] → s.pend = true → s.search.nxt = none → s.quitF.nxt = none →
      (s.pc r = .eOpts1 ∨ s.pc r = .epost) → Step r s (.eOpts true) { s with pend := false }
  | optsDone : s.out r = [] → s.pend = false → s.search.nxt = none → s.quitF.nxt = none → s.pc r = .eOpts1 →
      Step r s (.eOpts false) { s with optsFin := true, pc := upd s.pc r .eS0 }
  | optsDonePost : s.out r = [] → s.pend = false → s.search.nxt = none → s.quitF.nxt = none → s.pc r = .epost →
      Step r s (.eOpts false) { s with optsFin := true, pc := upd s.pc r .eend }
  | eBegin : s.out r = [] → s.pc r = .eBegin → Step r s .eBegin { s with ejob := 0, pc := upd s.pc r .eGo }
  | eInit : s.out r = [] → s.pc r = .eGo →
      Step r s .eInit { s with out := upd s.out r (bcast s r .init), pc := upd s.pc r .esearch }
  | eJobNext : s.out r = [] → s.pc r = .esearch →
      Step r s .eJobNext { s with ejob := s.ejob + 1, out := upd s.out r (bcast s r (.start s.epoch (s.ejob + 1))) }
  | eSearchDone : s.out r = [] → s.pc r = .esearch → Step r s .eSearchDone { s with pc := upd s.pc r (.ehold true) }
  /-- `ws`: a search was run (not a book move) -/
  | eHoldDone (ws : Bool) : s.out r = [] → s.ponder.seenF = true → s.infinite.seenF = true →
      ((s.pc r = .eGo ∧ ws = false) ∨ s.pc r = .ehold ws) → Step r s .eHoldDone { s with pc := upd s.pc r (.ebest ws) }
  | eBest (ws : Bool) : s.out r = [] → s.pc r = .ebest ws →
      Step r s .eBest { s with bmCount := s.bmCount + 1, pc := upd s.pc r (if ws then .estop else .epost) }
  | eStopSend : s.out r = [] → s.pc r = .estop →
      Step r s .eStopSend
        { s with selfWait := upd s.selfWait r true, childWait := upd s.childWait r (nChildren s r),
                        out := upd s.out r (Out.notify r :: bcast s r .stop),
                        gen := upd s.gen r (s.gen r + 1), pc := upd s.pc r .eack }
  | eSearchEnd : s.out r = [] → s.pc r = .eend → s.search.nxt = none → s.quitF.nxt = none →
      Step r s .eSearchEnd { s with search := { s.search with cur := false }, pc := upd s.pc r .ewait }
  | eQuitSend0 : s.out r = [] → s.pc r = .eQuit0 → nChildren s r = 0 →
      Step r s .eQuitSend { s with quitWait := upd s.quitWait r 0, pc := upd s.pc r .equit }
  | eQuitSendN : s.out r = [] → s.pc r = .eQuit0 → ¬ nChildren s r = 0 →
      Step r s .eQuitSend
        { s with quitWait := upd s.quitWait r (nChildren s r), out := upd s.out r (bcast s r .quit), pc := upd s.pc r .equit }
  | pWrPonder (b : Bool) : s.pOut = [] → s.ponder.nxt = none → Step r s (.pWr .ponder b) { s with ponder := s.ponder.wr b }
  | pWrInfinite (b : Bool) : s.pOut = [] → s.infinite.nxt = none →
      Step r s (.pWr .infinite b) { s with infinite := s.infinite.wr b }
  | pWrQuit : s.pOut = [] → s.quitF.nxt = none → s.search.cur = false → s.search.nxt = none → noGone s = true →
      Step r s (.pWr .quit true) { s with quitF := s.quitF.wr true }
  | pWrSearch : s.pOut = [] → s.search.nxt = none → s.search.cur = false → s.quitF.cur = false → s.quitF.nxt = none →
      s.optsFin = true → noGone s = true →
      Step r s (.pWr .search true) { s with search := s.search.wr true, goCount := s.goCount + 1, epoch := s.epoch + 1 }
  | pWdPonder (b : Bool) : s.ponder.nxt = some b →
      Step r s (.pWd .ponder) { s with ponder := { s.ponder with cur := b, nxt := none } }
  | pWdInfinite (b : Bool) : s.infinite.nxt = some b →
      Step r s (.pWd .infinite) { s with infinite := { s.infinite with cur := b, nxt := none } }
  | pWdQuit (b : Bool) : s.quitF.nxt = some b →
      Step r s (.pWd .quit) { s with quitF := { s.quitF with cur := b, nxt := none }, pOut := [Out.notify r] }
  | pWdSearch (b : Bool) : s.search.nxt = some b →
      Step r s (.pWd .search) { s with search := { s.search with cur := b, nxt := none }, pOut := [Out.notify r] }
  | pWaitStop : s.search.cur = false → s.search.nxt = none → Step r s .pWaitStop s
  | pWaitOpts : s.optsFin = true → Step r s .pWaitOpts s
  | pSetOpt : s.pOut = [] → Step r s .pSetOpt { s with pend := true, optsFin := false, pOut := [Out.notify r] }
  | pNotify (t : Fin n) :
      Step r s (.pNotify t) { s with flag := upd s.flag t true, pOut := s.pOut.erase (Out.notify t) }

theorem of_ite_none {c : Prop} [Decidable c] {α : Type} {x : Option α} {b : α} (h : (if c then x else none) = some b) :
    c ∧ x = some b := by
  split at h
  · exact ⟨‹c›, h⟩
  · cases h

theorem step_Step {r : Fin n} {s s' : St n} {e : Ev n} (h : step r s e = some s') : Step r s e s' := by
  cases e with
  | waitRet v =>
    obtain ⟨hg, h⟩ := of_ite_none h
    cases h; exact .waitRet v hg.1 hg.2.1 hg.2.2.1 hg.2.2.2
  | deq v =>
    obtain ⟨hg, h⟩ := of_ite_none h
    split at h
    · cases h
    · rename_i c rest hq
      split at h
      · rename_i hpc; cases h; exact .deqW v c rest hg.1 hg.2 hq (.inl hpc)
      · rename_i j hpc; cases h; exact .deqW v c rest hg.1 hg.2 hq (.inr ⟨j, hpc⟩)
      · rename_i hpc; cases h; exact .deqSearch v c rest hg.1 hg.2 hq hpc
      · rename_i hpc; cases h; exact .deqCollect v c rest hg.1 hg.2 hq hpc
      · rename_i hpc; cases h; exact .deqQuit v c rest hg.1 hg.2 hq hpc
      · cases h
  | pollEmpty v =>
    obtain ⟨hg, h⟩ := of_ite_none h
    split at h
    · rename_i hpc; cases h; exact .pollW v hg.1 hg.2.1 hg.2.2 hpc
    · rename_i j hpc; cases h; exact .pollS v hg.1 hg.2.1 hg.2.2 (.inl ⟨j, hpc⟩)
    · rename_i hpc; cases h; exact .pollS v hg.1 hg.2.1 hg.2.2 (.inr hpc)
    · rename_i hpc
      split at h
      · rename_i hd; cases h; exact .pollCollectDone v hg.1 hg.2.1 hg.2.2 hpc hd.1 hd.2
      · rename_i hd; cases h; exact .pollCollectWait v hg.1 hg.2.1 hg.2.2 hpc hd
    · rename_i hpc; cases h; exact .pollQuit v hg.1 hg.2.1 hg.2.2 hpc
    · cases h
  | send v o =>
    obtain ⟨hg, h⟩ := of_ite_none h
    cases h; exact .send v o hg.1 hg.2
  | ackSelf v =>
    obtain ⟨hg, h⟩ := of_ite_none h
    split at h
    · rename_i hpc
      split at h
      · rename_i hsw; cases h; exact .ackSelfW v hg.1 hg.2 hpc hsw
      · rename_i hsw; cases h; exact .ackSelfW0 v hg.1 hg.2 hpc hsw
    · rename_i hpc; cases h; exact .ackSelfE v hg.1 hg.2 hpc
    · cases h
  | searchResult v =>
    obtain ⟨hg, h⟩ := of_ite_none h
    split at h
    · rename_i j hpc
      split at h
      · rename_i hj; cases h; exact .resultFwd v j hg.1 hg.2 hpc hj.1 hj.2
      · rename_i hj; cases h; exact .resultDrop v j hg.1 hg.2 hpc hj
    · cases h
  | searchLeave v m =>
    obtain ⟨hg, h⟩ := of_ite_none h
    split at h
    · rename_i j hpc
      cases m
      · obtain ⟨hj, h⟩ := of_ite_none h
        cases h; exact .leaveStop v j hg.1 hg.2 hpc hj
      · cases h; exact .leaveMax v j hg.1 hg.2 hpc
    · cases h
  | spawn v p =>
    obtain ⟨⟨a1, a2, a3, a4, a5, a6, a7, a8, a9, a10, a11, a12, a13⟩, h⟩ := of_ite_none h
    cases h; exact .spawn v p a1 a2 a3 a4 a5 a6 a7 a8 a9 a10 a11 a12 a13
  | tend v =>
    obtain ⟨⟨a1, a2, a3, a4, a5, a6, a7, a8, a9, a10⟩, h⟩ := of_ite_none h
    cases h; exact .tend v a1 a2 a3 a4 a5 a6 a7 a8 a9 a10
  | exit v =>
    obtain ⟨⟨a1, a2, a3, a4, a5, a6, a7, a8, a9, a10, a11⟩, h⟩ := of_ite_none h
    cases h; exact .exit v a1 a2 a3 a4 a5 a6 a7 a8 a9 a10 a11
  | eRdPre x =>
    have ⟨hg, h'⟩ := of_ite_none h
    clear h
    split at h'
    · rename_i hpc; cases h'; exact .rdPreQuit hg hpc
    · rename_i hpc; cases h'; exact .rdPreSearch hg hpc
    · rename_i ws hpc; cases h'; exact .rdPreHold hg (.inl ⟨ws, hpc⟩)
    · rename_i hpc; cases h'; exact .rdPreHold hg (.inr hpc)
    · cases h'
  | eRd x b =>
    have ⟨hg, h'⟩ := of_ite_none h
    clear h
    split at h'
    · rename_i hpc
      obtain ⟨hb, h⟩ := of_ite_none h'
      cases h; exact .rdQuit b hg hpc hb
    · rename_i hpc
      obtain ⟨hb, h⟩ := of_ite_none h'
      cases h; exact .rdSearch b hg hpc hb
    · cases h'
  | eOpts k =>
    obtain ⟨⟨ho, hk, hsn, hqn⟩, h⟩ := of_ite_none h
    split at h
    · rename_i hpc; cases h
      cases k
      · exact .optsDone ho hk.symm hsn hqn hpc
      · exact .optsSwap ho hk.symm hsn hqn (.inl hpc)
    · rename_i hpc; cases h
      cases k
      · exact .optsDonePost ho hk.symm hsn hqn hpc
      · exact .optsSwap ho hk.symm hsn hqn (.inr hpc)
    · cases h
  | eBegin =>
    obtain ⟨hg, h⟩ := of_ite_none h
    cases h; exact .eBegin hg.1 hg.2
  | eInit =>
    obtain ⟨hg, h⟩ := of_ite_none h
    cases h; exact .eInit hg.1 hg.2
  | eJobNext =>
    obtain ⟨hg, h⟩ := of_ite_none h
    cases h; exact .eJobNext hg.1 hg.2
  | eSearchDone =>
    obtain ⟨hg, h⟩ := of_ite_none h
    cases h; exact .eSearchDone hg.1 hg.2
  | eHoldDone =>
    obtain ⟨hg, h⟩ := of_ite_none h
    split at h
    · rename_i hpc; cases h; exact .eHoldDone false hg.1 hg.2.1 hg.2.2 (.inl ⟨hpc, rfl⟩)
    · rename_i ws hpc; cases h; exact .eHoldDone ws hg.1 hg.2.1 hg.2.2 (.inr hpc)
    · cases h
  | eBest =>
    obtain ⟨hg, h⟩ := of_ite_none h
    split at h
    · rename_i ws hpc; cases h; exact .eBest ws hg hpc
    · cases h
  | eStopSend =>
    obtain ⟨hg, h⟩ := of_ite_none h
    cases h; exact .eStopSend hg.1 hg.2
  | eSearchEnd =>
    obtain ⟨hg, h⟩ := of_ite_none h
    cases h; exact .eSearchEnd hg.1 hg.2.1 hg.2.2.1 hg.2.2.2
  | eQuitSend =>
    obtain ⟨hg, h⟩ := of_ite_none h
    cases h
    by_cases hz : nChildren s r = 0
    · rw [if_pos hz]; exact .eQuitSend0 hg.1 hg.2 hz
    · rw [if_neg hz]; exact .eQuitSendN hg.1 hg.2 hz
  | pWr x b =>
    cases x
    · obtain ⟨hg, h⟩ := of_ite_none h
      cases h; exact .pWrPonder b hg.1 hg.2
    · obtain ⟨hg, h⟩ := of_ite_none h
      cases h; exact .pWrInfinite b hg.1 hg.2
    · obtain ⟨⟨a1, a2, a3, a4, a5, a6⟩, h⟩ := of_ite_none h
      cases h; subst a3; exact .pWrQuit a1 a2 a4 a5 a6
    · obtain ⟨⟨a1, a2, a3, a4, a5, a6, a7, a8⟩, h⟩ := of_ite_none h
      cases h; subst a3; exact .pWrSearch a1 a2 a4 a5 a6 a7 a8
    · cases h
  | pWd x =>
    cases x <;> simp only [step, stepP, stepPWd] at h
    · split at h
      · rename_i b hb; cases h; exact .pWdPonder b hb
      · cases h
    · split at h
      · rename_i b hb; cases h; exact .pWdInfinite b hb
      · cases h
    · split at h
      · rename_i b hb; cases h; exact .pWdQuit b hb
      · cases h
    · split at h
      · rename_i b hb; cases h; exact .pWdSearch b hb
      · cases h
    · cases h
  | pWaitStop =>
    obtain ⟨hg, h⟩ := of_ite_none h
    cases h; exact .pWaitStop hg.1 hg.2
  | pWaitOpts =>
    obtain ⟨hg, h⟩ := of_ite_none h
    cases h; exact .pWaitOpts hg
  | pSetOpt =>
    obtain ⟨hg, h⟩ := of_ite_none h
    cases h; exact .pSetOpt hg
  | pNotify t => cases h; exact .pNotify t

theorem Step.of_isSome {r : Fin n} {s : St n} {e : Ev n} (h : (step r s e).isSome = true) : ∃ s', Step r s e s' := by
  cases hs : step r s e with
  | none => rw [hs] at h; cases h
  | some s' => exact ⟨s', step_Step hs⟩

/-- a helper's handler changes only components of its own communicator -/
theorem handleW_shape (s : St n) (v : Fin n) (c : Cmd n) :
    ∃ ol sw cw qw g jb je hr, handleW s v c =
      { s with out := upd s.out v ol, selfWait := upd s.selfWait v sw, childWait := upd s.childWait v cw,
               quitWait := upd s.quitWait v qw, gen := upd s.gen v g, jobId := upd s.jobId v jb,
               jobEp := upd s.jobEp v je, hasResult := upd s.hasResult v hr } := by
  refine ⟨(handleW s v c).out v, (handleW s v c).selfWait v, (handleW s v c).childWait v, (handleW s v c).quitWait v,
    (handleW s v c).gen v, (handleW s v c).jobId v, (handleW s v c).jobEp v, (handleW s v c).hasResult v, ?_⟩
  cases c <;> simp only [handleW] <;> (try split) <;> simp

theorem handleE_eq (s : St n) (v : Fin n) (pc : Pc) (c : Cmd n) : handleE s v pc c = s ∨
    ((∃ d, c = .ack d) ∧ handleE s v pc c = { s with childWait := upd s.childWait v (s.childWait v - 1) }) ∨
    ((∃ d, c = .quitAck d) ∧ handleE s v pc c = { s with quitWait := upd s.quitWait v (s.quitWait v - 1) }) := by
  unfold handleE
  split
  · exact .inr (.inl ⟨⟨_, rfl⟩, rfl⟩)
  · exact .inr (.inr ⟨⟨_, rfl⟩, rfl⟩)
  · exact .inl rfl

theorem handleE_collect (s : St n) (v : Fin n) {c : Cmd n} (hc : ∀ d, c ≠ Cmd.ack d) : handleE s v .ecollect c = s := by
  cases c <;> first | rfl | exact absurd rfl (hc _)

theorem handleE_quit (s : St n) (v : Fin n) (c : Cmd n) :
    handleE s v .equit c = s ∨ handleE s v .equit c = { s with quitWait := upd s.quitWait v (s.quitWait v - 1) } := by
  cases c <;> first | exact .inl rfl | exact .inr rfl

end Conc
