import TexelVerif.Conc.Quiesce
/-! The activity invariant `G4`.  The ghost `gen v` counts the STOPs a communicator has processed (root: the stop
    rounds started); a helper is "old" while the current wave has not reached it (`gen v + 1 = gen r`).  A helper is
    active (job, inside `doSearch`, START queued or pending) only in its round, while the root searches, or while old. -/
namespace Conc

variable {n : Nat}

/-- the engine thread is between `sendInitSearch` and `sendStopSearch` -/
def actPc : Pc → Bool
  | .esearch => true
  | .ehold true => true
  | .ebest true => true
  | .estop => true
  | _ => false

def actR (s : St n) (r : Fin n) : Bool := actPc (s.pc r)

def isSearch : Pc → Bool
  | .search _ => true
  | _ => false

def act (s : St n) (v : Fin n) : Bool :=
  (s.jobId v).isSome || isSearch (s.pc v) || hasStart (s.q v) || hasPStart (s.out v)

/-- `gN`, `gN2`: a generation is the root's or one behind ("old").  `gM`: no child is ahead of its parent.
    `gX`, `gW`: a STOP in transit goes from a new parent to an old child; an old child has a STOP coming or an old parent.
    `gZ`, `gZ2`: in a round, or with an ack in transit, means new.  `j1`, `j2`: in a round there is no job and, after the
    self-ack, no `doSearch`.  `a`: an active helper is in a round, or old, or the root still searches. -/
structure G4 (r : Fin n) (s : St n) : Prop where
  gN : ∀ v, s.alive v = true → s.gen v ≤ s.gen r
  gN2 : ∀ v, s.alive v = true → s.gen r ≤ s.gen v + 1
  gM : ∀ p v, isChild s p v = true → s.gen v ≤ s.gen p
  gX : ∀ p v, isChild s p v = true → 0 < stopIn s p v → s.gen v + 1 = s.gen r ∧ s.gen p = s.gen r
  gW : ∀ p v, isChild s p v = true → s.gen v + 1 = s.gen r → 0 < stopIn s p v ∨ s.gen p + 1 = s.gen r
  gZ : ∀ v, s.alive v = true → v ≠ r → inRound s v = true → s.gen v = s.gen r
  gZ2 : ∀ p v, isChild s p v = true → 0 < ackIn s p v → s.gen v = s.gen r
  j1 : ∀ v, s.alive v = true → v ≠ r → inRound s v = true → s.jobId v = none
  j2 : ∀ v, s.alive v = true → v ≠ r → inRound s v = true → s.selfWait v = false → isSearch (s.pc v) = false
  a : ∀ v, s.alive v = true → v ≠ r → act s v = true → inRound s v = true ∨ actR s r = true ∨ s.gen v + 1 = s.gen r

/-- outside a stop round of the root every helper has seen all stop waves -/
theorem G4.all_new {r : Fin n} {s : St n} (h1 : G1 r s) (h : G4 r s) (hr : inRound s r = false) :
    ∀ v, s.alive v = true → s.gen v = s.gen r := by
  refine h1.tree_induction (fun v => s.gen v = s.gen r) rfl fun p v hc hgp => ?_
  have hv := ((isChild_iff s p v).1 hc).1
  have hN := h.gN v hv
  have hN2 := h.gN2 v hv
  by_cases hold : s.gen v + 1 = s.gen r
  · rcases h.gW p v hc hold with hst | hpo
    · have := h1.quiescent_edge hr hc
      unfold stopIn at hst; omega
    · omega
  · omega

/-- **idle helpers**: when the engine thread is neither searching nor collecting acks, no helper has a job,
    is inside `doSearch`, or has a START queued or pending -/
theorem G4.idle {r : Fin n} {s : St n} (h1 : G1 r s) (h : G4 r s) (hr : inRound s r = false) (ha : actR s r = false)
    (v : Fin n) (hv : s.alive v = true) (hvr : v ≠ r) : act s v = false := by
  cases hact : act s v
  · rfl
  · rcases h.a v hv hvr hact with h1' | h2 | h3
    · rw [h1.quiescent hr v hv] at h1'; cases h1'
    · rw [ha] at h2; cases h2
    · have := h.all_new h1 hr v hv; omega

end Conc
