import TexelVerif.Conc.StepG1
/-! Consequences of the counting invariant that need the tree to be well founded:
    when the root is outside a stop round, so is everybody else, and nothing of the stop / ack
    traffic is in flight on any edge. -/
namespace Conc

variable {n : Nat}

theorem G1.quiescent {r : Fin n} {s : St n} (h : G1 r s) (hr : inRound s r = false) :
    ∀ v, s.alive v = true → inRound s v = false :=
  h.tree_induction (fun v => inRound s v = false) hr fun _ _ hc hp => (h.idle_children hp hc).2.2.1

/-- the root has all acks: no STOP queued or pending, nobody in a round, no STOP_ACK queued or pending, on every edge -/
theorem G1.quiescent_edge {r : Fin n} {s : St n} (h : G1 r s) (hr : inRound s r = false) {p c : Fin n}
    (hc : isChild s p c = true) :
    cStop (s.q c) = 0 ∧ pStop (s.out p) c = 0 ∧ inRound s c = false ∧ cAck (s.q p) c = 0 ∧ pAck (s.out c) p c = 0 :=
  h.idle_children (h.quiescent hr p (h.parent_alive hc)) hc

end Conc
