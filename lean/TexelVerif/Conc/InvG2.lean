import TexelVerif.Conc.Quiesce
/-! The notifier invariant `G2`: the sticky `Notifier::notified` flag never loses a wake-up.
    A thread that is at (or on its way to) `Notifier::wait` with the flag clear has an empty queue,
    no job and no self-acknowledgement outstanding. -/
namespace Conc

variable {n : Nat}

/-- program points at which "flag clear ⇒ queue empty" holds (everything but the draining polls) -/
def quietPc : Pc → Bool
  | .wait | .search _ | .ackSelf | .ecwait | .eqwait => true
  | _ => false

/-- program points at which `stopAckWaitSelf` can be set -/
def selfPc : Pc → Bool
  | .poll | .search _ | .ackSelf | .eack => true
  | _ => false

def quitPc : Pc → Bool
  | .eQuit0 | .equit | .eqwait | .edone => true
  | _ => false

def Cmd.isQuit : Cmd n → Bool
  | .quit => true
  | .quitAck _ => true
  | _ => false

def Out.isQuit : Out n → Bool
  | .enq _ c => c.isQuit
  | _ => false

structure G2 (r : Fin n) (s : St n) : Prop where
  /-- QUIT traffic exists only once the engine thread has left its main loop -/
  qphase : ∀ v, s.alive v = true → ((s.q v).any Cmd.isQuit = true ∨ (s.out v).any Out.isQuit = true ∨ s.quitWait v ≠ -1) → quitPc (s.pc r) = true
  ns : ∀ v, s.alive v = true → s.selfWait v = true → selfPc (s.pc v) = true
  nq : ∀ v, s.alive v = true → quietPc (s.pc v) = true → s.flag v = false → s.q v = []
  nj : ∀ v, s.alive v = true → s.flag v = false →
        (∀ j, s.pc v = .search j → s.jobId v = some j) ∧ ((s.pc v = .ackSelf ∨ s.pc v = .wait) → s.jobId v = none)


theorem G2.local {r : Fin n} {s s' : St n} (h : G2 r s) (v : Fin n)
    (hfr : ∀ w, w ≠ v → s'.alive w = true → s.alive w = true ∧ s'.q w = s.q w ∧ s'.out w = s.out w ∧
      s'.quitWait w = s.quitWait w ∧ s'.selfWait w = s.selfWait w ∧ s'.flag w = s.flag w ∧ s'.jobId w = s.jobId w ∧
      s'.pc w = s.pc w)
    (hr : quitPc (s.pc r) = true → quitPc (s'.pc r) = true)
    (oq : s'.alive v = true → ((s'.q v).any Cmd.isQuit = true ∨ (s'.out v).any Out.isQuit = true ∨ s'.quitWait v ≠ -1) →
      quitPc (s'.pc r) = true)
    (os : s'.alive v = true → s'.selfWait v = true → selfPc (s'.pc v) = true)
    (on : s'.alive v = true → quietPc (s'.pc v) = true → s'.flag v = false → s'.q v = [])
    (oj : s'.alive v = true → s'.flag v = false →
      (∀ j, s'.pc v = .search j → s'.jobId v = some j) ∧ ((s'.pc v = .ackSelf ∨ s'.pc v = .wait) → s'.jobId v = none)) :
    G2 r s' := by
  refine ⟨?_, ?_, ?_, ?_⟩ <;> intro w hwa <;> by_cases hwv : w = v
  · subst hwv; exact oq hwa
  · obtain ⟨a, e1, e2, e3, _⟩ := hfr w hwv hwa
    rw [e1, e2, e3]; exact fun hq => hr (h.qphase w a hq)
  · subst hwv; exact os hwa
  · obtain ⟨a, _, _, _, e4, _, _, e7⟩ := hfr w hwv hwa
    rw [e4, e7]; exact h.ns w a
  · subst hwv; exact on hwa
  · obtain ⟨a, e1, _, _, _, e5, _, e7⟩ := hfr w hwv hwa
    rw [e1, e5, e7]; exact h.nq w a
  · subst hwv; exact oj hwa
  · obtain ⟨a, _, _, _, _, e5, e6, e7⟩ := hfr w hwv hwa
    rw [e5, e6, e7]; exact h.nj w a

theorem any_tail {α : Type} {p : α → Bool} {c : α} {l rest : List α} (hl : l = c :: rest) (h : rest.any p = true) :
    l.any p = true := by
  rw [hl, List.any_cons, h]; simp

theorem of_false {b : Bool} {P : Prop} (h0 : b = false) : b = true → P :=
  fun e => by rw [h0] at e; cases e

theorem quiet_trivial {x : Pc} {fl : Bool} {ql : List (Cmd n)} {jb : Option Nat} (hx : quietPc x = false) :
    quietPc x = true → fl = false →
      ql = [] ∧ (∀ j, x = .search j → jb = some j) ∧ ((x = .ackSelf ∨ x = .wait) → jb = none) :=
  of_false hx

/-- an untouched component is passed as `upd_keep` -/
theorem G2.local_upd {r : Fin n} {s s' : St n} (h : G2 r s) (v : Fin n) {x : Pc} {ql : List (Cmd n)} {ol : List (Out n)}
    {fl sw : Bool} {qw : Int} {jb : Option Nat}
    (ha : s'.alive = s.alive) (hq : s'.q = upd s.q v ql) (ho : s'.out = upd s.out v ol)
    (hf : s'.flag = upd s.flag v fl) (h3 : s'.selfWait = upd s.selfWait v sw) (hw : s'.quitWait = upd s.quitWait v qw)
    (hj : s'.jobId = upd s.jobId v jb) (hpc : s'.pc = upd s.pc v x)
    (hx : quitPc (s.pc v) = true → quitPc x = true)
    (oq : (ql.any Cmd.isQuit = true ∨ ol.any Out.isQuit = true ∨ qw ≠ -1) → quitPc (s.pc r) = true)
    (os : sw = true → selfPc x = true)
    (ow : quietPc x = true → fl = false →
      ql = [] ∧ (∀ j, x = .search j → jb = some j) ∧ ((x = .ackSelf ∨ x = .wait) → jb = none)) : G2 r s' := by
  have hr : quitPc (s.pc r) = true → quitPc (s'.pc r) = true := by
    intro hh; rw [hpc]
    by_cases hrv : r = v
    · subst hrv; rw [upd_same]; exact hx hh
    · rw [upd_other _ _ _ _ hrv]; exact hh
  refine h.local v ?_ hr ?_ ?_ ?_ ?_
  · intro w hwv hwa
    rw [ha] at hwa
    rw [hq, ho, hw, h3, hf, hj, hpc]
    exact ⟨hwa, upd_other _ _ _ _ hwv, upd_other _ _ _ _ hwv, upd_other _ _ _ _ hwv, upd_other _ _ _ _ hwv,
      upd_other _ _ _ _ hwv, upd_other _ _ _ _ hwv, upd_other _ _ _ _ hwv⟩
  · rw [hq, ho, hw]; simp only [upd_same]; exact fun _ hh => hr (oq hh)
  · rw [h3, hpc]; simp only [upd_same]; exact fun _ => os
  · rw [hpc, hf, hq]; simp only [upd_same]; exact fun _ hqp hff => (ow hqp hff).1
  · rw [hf, hpc, hj]; simp only [upd_same]
    intro _ hff
    by_cases hqp : quietPc x = true
    · exact (ow hqp hff).2
    · refine ⟨fun j e => ?_, fun e => ?_⟩
      · subst e; exact absurd rfl hqp
      · rcases e with e | e <;> subst e <;> exact absurd rfl hqp

def G2.view (s : St n) := (s.alive, s.q, s.out, s.flag, s.selfWait, s.quitWait, s.jobId, s.pc)

theorem G2.same {r : Fin n} {s s' : St n} (h : G2 r s) (e : G2.view s' = G2.view s) : G2 r s' := by
  simp only [G2.view, Prod.mk.injEq] at e
  obtain ⟨ha, hq, ho, hf, h3, hw, hj, hpc⟩ := e
  refine ⟨?_, ?_, ?_, ?_⟩
  · rw [ha, hq, ho, hw, hpc]; exact h.qphase
  · rw [ha, h3, hpc]; exact h.ns
  · rw [ha, hpc, hf, hq]; exact h.nq
  · rw [ha, hf, hpc, hj]; exact h.nj

theorem G2.pc_move {r : Fin n} {s : St n} (h : G2 r s) {v : Fin n} (va : s.alive v = true) (x : Pc)
    (hx : quitPc (s.pc v) = true → quitPc x = true)
    (os : s.selfWait v = true → selfPc x = true)
    (ow : quietPc x = true → s.flag v = false →
      s.q v = [] ∧ (∀ j, x = .search j → s.jobId v = some j) ∧ ((x = .ackSelf ∨ x = .wait) → s.jobId v = none)) :
    G2 r { s with pc := upd s.pc v x } :=
  h.local_upd v rfl (upd_keep s.q v) (upd_keep s.out v) (upd_keep s.flag v) (upd_keep s.selfWait v)
    (upd_keep s.quitWait v) (upd_keep s.jobId v) rfl hx (h.qphase v va) os ow

theorem G2.out_move {r : Fin n} {s : St n} (h : G2 r s) {v : Fin n} (va : s.alive v = true) (ol : List (Out n))
    (oq : ol.any Out.isQuit = true → (s.out v).any Out.isQuit = true) : G2 r { s with out := upd s.out v ol } :=
  h.local_upd v rfl (upd_keep s.q v) rfl (upd_keep s.flag v) (upd_keep s.selfWait v) (upd_keep s.quitWait v)
    (upd_keep s.jobId v) (upd_keep s.pc v) id (fun hh => h.qphase v va (hh.imp_right (Or.imp_left oq)))
    (h.ns v va) (fun hqp hf => ⟨h.nq v va hqp hf, h.nj v va hf⟩)

theorem G2.pop {r : Fin n} {s : St n} (h : G2 r s) {v : Fin n} (va : s.alive v = true) {c : Cmd n} {rest : List (Cmd n)}
    (hq : s.q v = c :: rest) : G2 r { s with q := upd s.q v rest } :=
  h.local_upd v rfl rfl (upd_keep s.out v) (upd_keep s.flag v) (upd_keep s.selfWait v) (upd_keep s.quitWait v)
    (upd_keep s.jobId v) (upd_keep s.pc v) id (fun hh => h.qphase v va (hh.imp_left (any_tail hq))) (h.ns v va)
    (fun hqp hf => nomatch hq.symm.trans (h.nq v va hqp hf))

theorem G2.quit_traffic {r : Fin n} {s : St n} (h : G2 r s) (hq : quitPc (s.pc r) = true) (o : Fin n → List (Out n))
    (w : Fin n → Int) : G2 r { s with out := o, quitWait := w } :=
  ⟨fun _ _ _ => hq, h.ns, h.nq, h.nj⟩

theorem G2.notify {r : Fin n} {s : St n} (h : G2 r s) (t : Fin n) : G2 r { s with flag := upd s.flag t true } :=
  h.local t (fun _ hwt hwa => ⟨hwa, rfl, rfl, rfl, rfl, upd_other _ _ _ _ hwt, rfl, rfl⟩) id (h.qphase t) (h.ns t)
    (fun _ _ e => by simp at e) (fun _ e => by simp at e)

theorem G2.enq {r : Fin n} {s : St n} (h : G2 r s) (t : Fin n) (ql : List (Cmd n)) (hf : s.flag t = true)
    (oq : s.alive t = true → ql.any Cmd.isQuit = true → quitPc (s.pc r) = true) : G2 r { s with q := upd s.q t ql } := by
  refine h.local t (fun _ hwt hwa => ⟨hwa, upd_other _ _ _ _ hwt, rfl, rfl, rfl, rfl, rfl, rfl⟩) id ?_ (h.ns t) ?_ ?_
  · intro ta hh
    simp only [upd_same] at hh
    exact hh.elim (oq ta) (fun hh => h.qphase t ta (.inr hh))
  · exact fun _ _ e => nomatch hf.symm.trans e
  · exact fun ta e => nomatch hf.symm.trans e

theorem G2.os_of {r : Fin n} {s : St n} (h : G2 r s) {v : Fin n} (va : s.alive v = true) (hp : selfPc (s.pc v) = false)
    (x : Pc) : s.selfWait v = true → selfPc x = true :=
  fun hh => of_false hp (h.ns v va hh)

theorem G2.root_move {r : Fin n} {s s' : St n} (h : G2 r s) (hra : s.alive r = true) (x : Pc)
    (e : G2.view s' = G2.view { s with pc := upd s.pc r x })
    (hp1 : selfPc (s.pc r) = false) (hp2 : quitPc (s.pc r) = false) (hx : quietPc x = false) : G2 r s' :=
  (h.pc_move hra x (of_false hp2) (h.os_of hra hp1 x) (quiet_trivial hx)).same e

end Conc
