/-! The stop / stop-ack sub-protocol of parallel.cpp alone, on an arbitrary static communicator tree: the per-edge debt
    invariant of DESIGN.md, Appendix B, in its smallest form.  The C10 theorems are about `Conc/Model.lean` and do not
    use this file. -/
namespace Proto

variable {n : Nat}

inductive Cmd (n : Nat) where
  | stop : Cmd n
  | ack : Fin n → Cmd n          -- ghost sender tag (the C++ STOP_ACK carries no sender)
deriving DecidableEq

structure St (n : Nat) where
  q : Fin n → List (Cmd n)        -- inbound queue of each communicator
  selfWait : Fin n → Bool         -- stopAckWaitSelf
  childWait : Fin n → Nat         -- stopAckWaitChildren

/-- static tree -/
structure Tree (n : Nat) where
  parent : Fin n → Option (Fin n)

variable (T : Tree n)

def isChild (p c : Fin n) : Bool := T.parent c == some p
def nChildren (p : Fin n) : Nat := ((List.finRange n).filter (isChild T p)).length

def cnt (l : List (Cmd n)) (x : Cmd n) : Nat := l.count x

/-- number of STOP_ACKs that child c still owes its parent p in state s -/
def debt (s : St n) (p c : Fin n) : Nat :=
  cnt (s.q c) .stop + (if s.selfWait c || decide (0 < s.childWait c) then 1 else 0) + cnt (s.q p) (.ack c)

def sumChildren (p : Fin n) (f : Fin n → Nat) : Nat :=
  ((List.finRange n).map (fun c => if isChild T p c then f c else 0)).sum

/-- the invariant -/
def Inv (s : St n) : Prop :=
  (∀ p, s.childWait p = sumChildren T p (debt s p)) ∧
  (∀ p c, isChild T p c = true → debt s p c ≤ 1) ∧
  (∀ p c, isChild T p c = false → cnt (s.q p) (.ack c) = 0)

def setQ (s : St n) (v : Fin n) (l : List (Cmd n)) : St n := { s with q := fun x => if x = v then l else s.q x }
/-- append cmd to the queue of every child of p -/
def bcast (s : St n) (p : Fin n) (cmd : Cmd n) : St n :=
  { s with q := fun x => if isChild T p x then s.q x ++ [cmd] else s.q x }
def sendUp (s : St n) (v : Fin n) : St n :=
  match T.parent v with
  | some p => { s with q := fun x => if x = p then s.q x ++ [.ack v] else s.q x }
  | none => s

inductive Step : St n → St n → Prop where
  /-- Communicator::sendStopSearch, at the root (engine thread) or in a worker's STOP handler -/
  | procStop (s : St n) (v : Fin n) (rest : List (Cmd n)) (h : s.q v = .stop :: rest) :
      Step s (bcast T { (setQ s v rest) with selfWait := fun x => if x = v then true else s.selfWait x,
                                             childWait := fun x => if x = v then nChildren T v else s.childWait x } v .stop)
  | rootStop (s : St n) (r : Fin n) (hr : T.parent r = none) (h1 : s.selfWait r = false) (h2 : s.childWait r = 0) :
      Step s (bcast T { s with selfWait := fun x => if x = r then true else s.selfWait x,
                               childWait := fun x => if x = r then nChildren T r else s.childWait x } r .stop)
  /-- sendStopAck(false) -/
  | selfAck (s : St n) (v : Fin n) (h : s.selfWait v = true) :
      Step s (let s1 : St n := { s with selfWait := fun x => if x = v then false else s.selfWait x }
              if s.childWait v = 0 then sendUp T s1 v else s1)
  /-- STOP_ACK handler: sendStopAck(true) -/
  | procAck (s : St n) (v c : Fin n) (rest : List (Cmd n)) (h : s.q v = .ack c :: rest) :
      Step s (let s1 : St n := { (setQ s v rest) with childWait := fun x => if x = v then s.childWait v - 1 else s.childWait x }
              if s.selfWait v = false ∧ s.childWait v - 1 = 0 then sendUp T s1 v else s1)

end Proto
