import TexelVerif.Conc.InvG4
/-! Every step of the protocol model preserves the activity invariant `G4`. -/
namespace Conc

variable {n : Nat}

theorem pStop_nil (d : Fin n) : pStop ([] : List (Out n)) d = 0 := rfl
theorem pAck_nil (p d : Fin n) : pAck ([] : List (Out n)) p d = 0 := rfl

theorem pStop_stop_bcast (s : St n) (v c : Fin n) :
    pStop (Out.notify v :: bcast s v Cmd.stop) c = if isChild s v c = true then 1 else 0 := by
  rw [pStop_notify_cons, pStop_bcast]; simp

theorem hasStart_tail {c : Cmd n} {rest : List (Cmd n)} (h : hasStart rest = true) : hasStart (c :: rest) = true := by
  rw [hasStart_cons, h]; simp

theorem stopIn_congr {s s' : St n} {p w : Fin n} (hq : s'.q w = s.q w) (ho : s'.out p = s.out p) :
    stopIn s' p w = stopIn s p w := by
  unfold stopIn; rw [hq, ho]

theorem ackIn_congr {s s' : St n} {p w : Fin n} (hq : s'.q p = s.q p) (ho : s'.out w = s.out w) :
    ackIn s' p w = ackIn s p w := by
  unfold ackIn; rw [hq, ho]

theorem act_congr {s s' : St n} {w : Fin n}
    (hj : s'.jobId w = s.jobId w) (hpc : s'.pc w = s.pc w) (hq : s'.q w = s.q w) (ho : s'.out w = s.out w) :
    act s' w = act s w := by
  unfold act; rw [hj, hpc, hq, ho]

theorem act_job {s : St n} {v : Fin n} (h : (s.jobId v).isSome = true) : act s v = true := by
  unfold act; rw [h]; rfl
theorem act_search {s : St n} {v : Fin n} (h : isSearch (s.pc v) = true) : act s v = true := by
  unfold act; rw [h]; simp
theorem act_qstart {s : St n} {v : Fin n} (h : hasStart (s.q v) = true) : act s v = true := by
  unfold act; rw [h]; simp
theorem act_pstart {s : St n} {v : Fin n} (h : hasPStart (s.out v) = true) : act s v = true := by
  unfold act; rw [h]; simp

theorem act_parts {jb : Option Nat} {x : Pc} {ql : List (Cmd n)} {ol : List (Out n)} {P : Prop}
    (a1 : jb.isSome = true → P) (a2 : isSearch x = true → P) (a3 : hasStart ql = true → P) (a4 : hasPStart ol = true → P)
    (hh : (jb.isSome || isSearch x || hasStart ql || hasPStart ol) = true) : P := by
  simp only [Bool.or_eq_true] at hh
  rcases hh with ((hh | hh) | hh) | hh
  · exact a1 hh
  · exact a2 hh
  · exact a3 hh
  · exact a4 hh

theorem actR_upd_other {s : St n} {r v : Fin n} (x : Pc) (h : r ≠ v) : actR { s with pc := upd s.pc v x } r = actR s r := by
  unfold actR; exact congrArg actPc (upd_other _ _ _ _ h)

theorem actPc_wait {p : Pc} (h : isWaitPc p = true) : actPc p = false := by
  cases p <;> first | rfl | cases h

theorem isSearch_afterWait {p : Pc} (h : isWaitPc p = true) : isSearch (afterWait p) = false := by
  cases p <;> first | rfl | cases h

theorem parts_local {s s' : St n} (v : Fin n) (ql : List (Cmd n)) (ol : List (Out n))
    (hq : s'.q = upd s.q v ql) (ho : s'.out = upd s.out v ol)
    (h1 : cStop ql = cStop (s.q v)) (h2 : ∀ d, cAck ql d = cAck (s.q v) d)
    (h3 : ∀ d, pStop ol d = pStop (s.out v) d) (h4 : ∀ p d, pAck ol p d = pAck (s.out v) p d) (p c : Fin n) :
    stopIn s' p c = stopIn s p c ∧ ackIn s' p c = ackIn s p c := by
  unfold stopIn ackIn
  rw [hq, ho, upd_congr_at cStop h1 c, upd_congr_at (pStop · c) (h3 c) p, upd_congr_at (cAck · c) (h2 c) p,
    upd_congr_at (pAck · p c) (h4 p c) c]
  exact ⟨rfl, rfl⟩

def St.shape (s : St n) := (s.alive, s.parent, s.gen, s.selfWait, s.childWait)

/-- everything `G4` reads -/
def St.readG4 (s : St n) := (s.alive, s.parent, s.gen, s.q, s.out, s.selfWait, s.childWait, s.jobId, s.pc)

def St.held (s : St n) := (s.shape, s.q, s.out, s.jobId)

/-- Steps that leave the generations alone: an ack may appear only above a helper that has seen the current wave,
    a helper may leave its round but not enter one, and what makes it active was there before or is justified afresh. -/
theorem G4.frame {r : Fin n} {s s' : St n} (h : G4 r s)
    (ha : ∀ v, s'.alive v = true → s.alive v = true)
    (hp : s'.parent = s.parent) (hg : s'.gen = s.gen)
    (hsi : ∀ p v, isChild s p v = true → stopIn s' p v = stopIn s p v)
    (hai : ∀ p v, isChild s p v = true → 0 < ackIn s' p v → 0 < ackIn s p v ∨ s.gen v = s.gen r)
    (hir : ∀ v, s.alive v = true → v ≠ r → inRound s' v = true → inRound s v = true)
    (hj : ∀ v, s.alive v = true → v ≠ r → inRound s v = true → s'.jobId v = none ∨ s'.jobId v = s.jobId v)
    (hs : ∀ v, s.alive v = true → v ≠ r → inRound s v = true → s'.selfWait v = false → isSearch (s'.pc v) = true →
            s.selfWait v = false ∧ isSearch (s.pc v) = true)
    (hact : ∀ v, s.alive v = true → v ≠ r → act s' v = true →
              (act s v = true ∧ (inRound s v = true → inRound s' v = true)) ∨
              inRound s' v = true ∨ actR s' r = true ∨ s.gen v + 1 = s.gen r)
    (hR : actR s r = true → actR s' r = true) : G4 r s' := by
  have hc : ∀ p v, isChild s' p v = true → isChild s p v = true := by
    intro p v hc
    obtain ⟨e1, e2⟩ := (isChild_iff s' p v).1 hc
    rw [hp] at e2
    exact (isChild_iff s p v).2 ⟨ha v e1, e2⟩
  refine ⟨?_, ?_, ?_, ?_, ?_, ?_, ?_, ?_, ?_, ?_⟩
  · intro v hv; rw [hg]; exact h.gN v (ha v hv)
  · intro v hv; rw [hg]; exact h.gN2 v (ha v hv)
  · intro p v hc'; rw [hg]; exact h.gM p v (hc p v hc')
  · intro p v hc' hst; rw [hsi p v (hc p v hc')] at hst; rw [hg]; exact h.gX p v (hc p v hc') hst
  · intro p v hc' ho; rw [hg] at ho; rw [hsi p v (hc p v hc'), hg]; exact h.gW p v (hc p v hc') ho
  · intro v hv hne hr; rw [hg]; exact h.gZ v (ha v hv) hne (hir v (ha v hv) hne hr)
  · intro p v hc' hak; rw [hg]
    rcases hai p v (hc p v hc') hak with e | e
    · exact h.gZ2 p v (hc p v hc') e
    · exact e
  · intro v hv hne hr
    have hr0 := hir v (ha v hv) hne hr
    rcases hj v (ha v hv) hne hr0 with e | e
    · exact e
    · rw [e]; exact h.j1 v (ha v hv) hne hr0
  · intro v hv hne hr hsw
    have hr0 := hir v (ha v hv) hne hr
    cases hh : isSearch (s'.pc v)
    · rfl
    · obtain ⟨e1, e2⟩ := hs v (ha v hv) hne hr0 hsw hh
      rw [h.j2 v (ha v hv) hne hr0 e1] at e2; cases e2
  · intro v hv hne hact'; rw [hg]
    rcases hact v (ha v hv) hne hact' with ⟨e, e'⟩ | e
    · rcases h.a v (ha v hv) hne e with e1 | e1 | e1
      · exact Or.inl (e' e1)
      · exact Or.inr (Or.inl (hR e1))
      · exact Or.inr (Or.inr e1)
    · exact e

theorem G4.neutral {r : Fin n} {s s' : St n} (h : G4 r s) (v : Fin n) (x : Pc) (ql : List (Cmd n)) (ol : List (Out n))
    (jb : Option Nat)
    (hst : s'.shape = s.shape) (hq : s'.q = upd s.q v ql) (ho : s'.out = upd s.out v ol) (hj : s'.jobId = upd s.jobId v jb) (hpc : s'.pc = upd s.pc v x)
    (c1 : cStop ql = cStop (s.q v)) (c2 : ∀ d, cAck ql d = cAck (s.q v) d)
    (c3 : ∀ d, pStop ol d = pStop (s.out v) d) (c4 : ∀ p d, pAck ol p d = pAck (s.out v) p d)
    (ojob : v ≠ r → inRound s v = true → jb = none ∨ jb = s.jobId v)
    (osearch : v ≠ r → inRound s v = true → isSearch x = true → isSearch (s.pc v) = true)
    (oact : v ≠ r → (jb.isSome || isSearch x || hasStart ql || hasPStart ol) = true → act s v = true)
    (oR : actR s r = true → actR s' r = true) : G4 r s' := by
  have ha : s'.alive = s.alive := congrArg (·.1) hst
  have hp : s'.parent = s.parent := congrArg (·.2.1) hst
  have hg : s'.gen = s.gen := congrArg (·.2.2.1) hst
  have h3 : s'.selfWait = s.selfWait := congrArg (·.2.2.2.1) hst
  have hir : ∀ w, inRound s' w = inRound s w := inRound_congr h3 (congrArg (·.2.2.2.2) hst)
  have hparts := parts_local v ql ol hq ho c1 c2 c3 c4
  refine h.frame (fun w hw => by rw [ha] at hw; exact hw) hp hg
    (fun p c _ => (hparts p c).1) (fun p c _ hh => by rw [(hparts p c).2] at hh; exact Or.inl hh)
    (fun w _ _ hr => by rw [hir] at hr; exact hr) ?_ ?_ ?_ oR
  · intro w _ hne hr
    by_cases hwv : w = v
    · subst hwv; rw [eq_upd_same hj]; exact ojob hne hr
    · exact Or.inr (eq_upd_other hj hwv)
  · intro w _ hne hr hsw hh
    rw [h3] at hsw
    refine ⟨hsw, ?_⟩
    by_cases hwv : w = v
    · subst hwv; rw [eq_upd_same hpc] at hh; exact osearch hne hr hh
    · rw [eq_upd_other hpc hwv] at hh; exact hh
  · intro w _ hne hh
    refine Or.inl ⟨?_, fun hr => by rw [hir]; exact hr⟩
    by_cases hwv : w = v
    · subst hwv
      unfold act at hh
      rw [eq_upd_same hj, eq_upd_same hpc, eq_upd_same hq, eq_upd_same ho] at hh
      exact oact hne hh
    · rw [act_congr (eq_upd_other hj hwv) (eq_upd_other hpc hwv) (eq_upd_other hq hwv) (eq_upd_other ho hwv)] at hh
      exact hh

theorem G4.helper_move {r : Fin n} {s s' : St n} (h : G4 r s) (v : Fin n) (va : s.alive v = true) (hvr : v ≠ r) (x : Pc) (jb : Option Nat)
    (hst : s'.shape = s.shape) (hq : s'.q = s.q) (ho : s'.out = s.out) (hj : s'.jobId = upd s.jobId v jb) (hpc : s'.pc = upd s.pc v x)
    (ojob : jb = none ∨ jb = s.jobId v)
    (osearch : isSearch x = true → isSearch (s.pc v) = true ∨ (s.jobId v).isSome = true) : G4 r s' := by
  refine h.neutral v x (s.q v) (s.out v) jb hst (by rw [hq, upd_self]) (by rw [ho, upd_self]) hj hpc
    rfl (fun _ => rfl) (fun _ => rfl) (fun _ _ => rfl) (fun _ _ => ojob) ?_ ?_ ?_
  · intro _ hr hx
    rcases osearch hx with e | e
    · exact e
    · rw [h.j1 v va hvr hr] at e; cases e
  · intro _
    refine act_parts ?_ ?_ act_qstart act_pstart
    · intro hjb
      rcases ojob with e | e
      · rw [e] at hjb; cases hjb
      · rw [e] at hjb; exact act_job hjb
    · intro hx
      rcases osearch hx with e | e
      · exact act_search e
      · exact act_job e
  · intro hh
    unfold actR; rw [eq_upd_other hpc (Ne.symm hvr)]; exact hh

theorem G4.root_move {r : Fin n} {s s' : St n} (h : G4 r s) (x : Pc) (ol : List (Out n))
    (hst : s'.shape = s.shape) (hq : s'.q = s.q) (ho : s'.out = upd s.out r ol) (hj : s'.jobId = s.jobId) (hpc : s'.pc = upd s.pc r x)
    (c3 : ∀ d, pStop ol d = pStop (s.out r) d) (c4 : ∀ p d, pAck ol p d = pAck (s.out r) p d)
    (oR : actPc (s.pc r) = true → actPc x = true) :
    G4 r s' := by
  refine h.neutral r x (s.q r) ol (s.jobId r) hst (by rw [hq, upd_self]) ho (by rw [hj, upd_self]) hpc
    rfl (fun _ => rfl) c3 c4 (fun hne => absurd rfl hne) (fun hne => absurd rfl hne) (fun hne => absurd rfl hne) ?_
  intro hh
  unfold actR; rw [eq_upd_same hpc]; exact oR hh

theorem G4.root_pc {r : Fin n} {s s' : St n} (h : G4 r s) (x : Pc) (hh : s'.held = s.held) (hpc : s'.pc = upd s.pc r x)
    (oR : actPc (s.pc r) = true → actPc x = true) : G4 r s' := by
  have ho : s'.out = s.out := congrArg (·.2.2.1) hh
  exact h.root_move x (s.out r) (congrArg (·.1) hh) (congrArg (·.2.1) hh) (by rw [ho, upd_self]) (congrArg (·.2.2.2) hh) hpc
    (fun _ => rfl) (fun _ _ => rfl) oR

theorem G4.helper_pc {r : Fin n} {s : St n} (h : G4 r s) {v : Fin n} (va : s.alive v = true) (hvr : v ≠ r) (x : Pc)
    (osearch : isSearch x = true → isSearch (s.pc v) = true ∨ (s.jobId v).isSome = true) : G4 r (setPc s v x) :=
  h.helper_move v va hvr x (s.jobId v) rfl (hq := rfl) (ho := rfl) (hj := upd_keep _ _) (hpc := rfl) (.inr rfl) osearch

theorem G4.root_pop {r : Fin n} {s s' : St n} (h : G4 r s) {c : Cmd n} {rest : List (Cmd n)} (hq : s.q r = c :: rest)
    (hc1 : c ≠ Cmd.stop) (hc2 : ∀ d, c ≠ Cmd.ack d)
    (hst : s'.shape = s.shape) (hq' : s'.q = upd s.q r rest) (ho : s'.out = s.out) (hj : s'.jobId = s.jobId) (hpc : s'.pc = s.pc) : G4 r s' := by
  refine h.neutral r (s.pc r) rest (s.out r) (s.jobId r) hst hq' (by rw [ho, upd_self]) (by rw [hj, upd_self])
    (by rw [hpc, upd_self]) (by rw [hq, cStop_cons, if_neg hc1]; rfl) (fun d => by rw [hq, cAck_cons, if_neg (hc2 d)]; rfl)
    (fun _ => rfl) (fun _ _ => rfl) (fun hne => absurd rfl hne) (fun hne => absurd rfl hne) (fun hne => absurd rfl hne) ?_
  intro hh; unfold actR; rw [hpc]; exact hh

/-- the handlers of INIT, START, QUIT, REPORT_RESULT, QUIT_ACK -/
theorem handleW_neutral_G4 {r : Fin n} {s : St n} (h1 : G1 r s) (h : G4 r s) (v : Fin n) (c : Cmd n) (rest : List (Cmd n))
    (va : s.alive v = true) (hne : v ≠ r) (hq : s.q v = c :: rest) (hout : s.out v = [])
    (hc1 : c ≠ Cmd.stop) (hc2 : ∀ d, c ≠ Cmd.ack d) :
    G4 r (handleW { s with q := upd s.q v rest } v c) := by
  have c1 : cStop rest = cStop (s.q v) := by rw [hq, cStop_cons, if_neg hc1]; rfl
  have c2 : ∀ d, cAck rest d = cAck (s.q v) d := fun d => by rw [hq, cAck_cons, if_neg (hc2 d)]; rfl
  have key : ∀ (s' : St n) (ol : List (Out n)) (jb : Option Nat),
      (s'.shape, s'.q, s'.pc) = (s.shape, upd s.q v rest, s.pc) → s'.out = upd s.out v ol →
      s'.jobId = upd s.jobId v jb → (jb = none ∨ jb = s.jobId v) →
      (∀ d, pStop ol d = 0) → (∀ p d, pAck ol p d = 0) → hasPStart ol = false → G4 r s' := by
    intro s' ol jb hfix ho hj hjb o1 o2 o3
    simp only [Prod.mk.injEq] at hfix
    obtain ⟨hst, hq', hpc⟩ := hfix
    refine h.neutral v (s.pc v) rest ol jb hst hq' ho hj (by rw [hpc, upd_self]) c1 c2
      (fun d => by rw [hout]; exact o1 d) (fun p d => by rw [hout]; exact o2 p d) (fun _ _ => hjb) (fun _ _ hx => hx) ?_ ?_
    · intro _
      refine act_parts ?_ act_search (fun e => act_qstart (by rw [hq]; exact hasStart_tail e)) (fun e => by rw [o3] at e; cases e)
      intro e
      rcases hjb with e' | e'
      · rw [e'] at e; cases e
      · rw [e'] at e; exact act_job e
    · intro hh; unfold actR; rw [hpc]; exact hh
  cases c with
  | stop => exact absurd rfl hc1
  | ack d => exact absurd rfl (hc2 d)
  | init =>
    exact key _ (bcast s v .init) none rfl rfl rfl (.inl rfl)
      (pStop_bcast_ne s v _ (by simp)) (fun p d => pAck_bcast s v _ p d (by simp)) (hasPStart_bcast s v _ rfl)
  | start e j =>
    -- a START is queued only outside a round, and made `v` active already
    have hst : hasStart (s.q v) = true := by rw [hq]; rfl
    have hnr : inRound s v = false := h1.startRound v va hne (Or.inl hst)
    refine h.neutral v (s.pc v) rest (bcast s v (.start e j)) (some j) rfl (hq := rfl) (ho := rfl) (hj := rfl)
      (hpc := upd_keep _ _) c1 c2 ?_ ?_ ?_ (fun _ _ hx => hx) (fun _ _ => act_qstart hst) (fun hh => hh)
    · intro d; rw [hout]; exact pStop_bcast_ne s v _ (by simp) d
    · intro p d; rw [hout]; exact pAck_bcast s v _ p d (by simp)
    · intro _ hr; rw [hnr] at hr; cases hr
  | quit =>
    simp only [handleW]
    split
    · exact key _ (toParent s v (.quitAck v)) _ rfl rfl (upd_keep _ _) (.inr rfl)
        (pStop_toParent s v _ (by simp)) (pAck_toParent_ne s v _ (by simp)) (hasPStart_toParent s v _ rfl)
    · exact key _ (bcast s v .quit) _ rfl rfl (upd_keep _ _) (.inr rfl)
        (pStop_bcast_ne s v _ (by simp)) (fun p d => pAck_bcast s v _ p d (by simp)) (hasPStart_bcast s v _ rfl)
  | report src e j =>
    simp only [handleW]
    split
    · exact key _ (toParent s v (.report v e j)) _ rfl rfl (upd_keep _ _) (.inr rfl)
        (pStop_toParent s v _ (by simp)) (pAck_toParent_ne s v _ (by simp)) (hasPStart_toParent s v _ rfl)
    · exact key _ [] _ rfl (by rw [← hout]; exact upd_keep _ _) (upd_keep _ _) (.inr rfl)
        pStop_nil pAck_nil rfl
  | quitAck src =>
    simp only [handleW]
    refine key _ _ _ rfl rfl (upd_keep _ _) (.inr rfl) ?_ ?_ ?_
    · intro d; split
      · exact pStop_toParent s v _ (by simp) d
      · rfl
    · intro p d; split
      · exact pAck_toParent_ne s v _ (by simp) p d
      · rfl
    · split
      · exact hasPStart_toParent s v _ rfl
      · rfl

/-- the STOP at the head of the queue is all the edge above `v` owes -/
theorem debt_stop_head {s : St n} {p v : Fin n} {rest : List (Cmd n)} (hle : debt s p v ≤ 1) (hq : s.q v = Cmd.stop :: rest) :
    cStop rest = 0 ∧ pStop (s.out p) v = 0 ∧ inRound s v = false := by
  unfold debt at hle
  rw [hq, cStop_cons, if_pos rfl] at hle
  cases hir : inRound s v
  · exact ⟨by omega, by omega, rfl⟩
  · rw [hir, if_pos rfl] at hle; omega

/-- STOP handler of a helper: the stop wave reaches `v` -/
theorem G4.stop_handler {r : Fin n} {s s' : St n} (h1 : G1 r s) (h : G4 r s) (v : Fin n) (rest : List (Cmd n))
    (va : s.alive v = true) (hne : v ≠ r) (hq : s.q v = Cmd.stop :: rest)
    (hs : s'.readG4 = (s.alive, s.parent, upd s.gen v (s.gen v + 1), upd s.q v rest,
      upd s.out v (Out.notify v :: bcast s v .stop), upd s.selfWait v true, upd s.childWait v (nChildren s v),
      upd s.jobId v none, s.pc)) : G4 r s' := by
  simp only [St.readG4, Prod.mk.injEq] at hs
  obtain ⟨ha, hp, hg, hq', ho', h3, h4, hj, hpc⟩ := hs
  have hic := isChild_congr ha hp
  obtain ⟨p0, hp0, _⟩ := h1.par v va hne
  have hcp : isChild s p0 v = true := (isChild_iff s p0 v).2 ⟨va, hp0⟩
  have hp0v : p0 ≠ v := fun e => h1.child_ne hcp e.symm
  have hpar : ∀ p, isChild s p v = true → p = p0 := by
    intro p hc; have := ((isChild_iff s p v).1 hc).2; rw [hp0] at this; cases this; rfl
  obtain ⟨hrest, hps, hnr⟩ := debt_stop_head (h1.le1 p0 v hcp) hq
  -- the STOP in transit shows that `v` is old and its parent new
  have hst : 0 < stopIn s p0 v := by
    unfold stopIn; rw [hq, cStop_cons, if_pos rfl]; exact Nat.lt_of_lt_of_le (Nat.succ_pos _) (Nat.le_add_right _ _)
  obtain ⟨hgv, hgp0⟩ := h.gX p0 v hcp hst
  have hgr : s'.gen r = s.gen r := eq_upd_other hg (Ne.symm hne)
  have hgv' : s'.gen v = s.gen r := by rw [eq_upd_same hg]; exact hgv
  have hgo : ∀ w, w ≠ v → s'.gen w = s.gen w := fun w hw => eq_upd_other hg hw
  have hch : ∀ c, isChild s v c = true → cStop (s.q c) = 0 ∧ ackIn s' v c = 0 ∧ s.gen c + 1 = s.gen r := by
    intro c hc
    have hi := h1.idle_children hnr hc
    have hle := cAck_tail_le Cmd.stop rest c
    rw [← hq, hi.2.2.2.1] at hle
    refine ⟨hi.1, ?_, Nat.le_antisymm ?_ (h.gN2 c ((isChild_iff s v c).1 hc).1)⟩
    · unfold ackIn
      rw [eq_upd_same hq', eq_upd_other ho' (h1.child_ne hc), Nat.eq_zero_of_le_zero hle, hi.2.2.2.2]
    · rw [← hgv]; exact Nat.succ_le_succ (h.gM v c hc)
  have hiro := (inRound_upd h3 h4).2
  have hirv : inRound s' v = true := inRound_of_selfWait (eq_upd_same h3)
  have hsi_up : stopIn s' p0 v = 0 := by
    unfold stopIn; rw [eq_upd_same hq', eq_upd_other ho' hp0v, hrest, hps]
  have hsi_down : ∀ c, isChild s v c = true → stopIn s' v c = 1 := by
    intro c hc
    unfold stopIn
    rw [eq_upd_other hq' (h1.child_ne hc), eq_upd_same ho', pStop_stop_bcast, (hch c hc).1, if_pos hc]
  have hsi_other : ∀ p w, p ≠ v → w ≠ v → stopIn s' p w = stopIn s p w :=
    fun p w hpv hwv => stopIn_congr (eq_upd_other hq' hwv) (eq_upd_other ho' hpv)
  have hai_other : ∀ p w, p ≠ v → w ≠ v → ackIn s' p w = ackIn s p w :=
    fun p w hpv hwv => ackIn_congr (eq_upd_other hq' hpv) (eq_upd_other ho' hwv)
  have hact_o : ∀ w, w ≠ v → act s' w = act s w := fun w hw =>
    act_congr (eq_upd_other hj hw) (by rw [hpc]) (eq_upd_other hq' hw) (eq_upd_other ho' hw)
  have hactR : actR s' r = actR s r := by unfold actR; rw [hpc]
  refine ⟨?_, ?_, ?_, ?_, ?_, ?_, ?_, ?_, ?_, ?_⟩
  · intro w hw; rw [ha] at hw; rw [hgr]
    by_cases hwv : w = v
    · subst hwv; rw [hgv']; exact Nat.le_refl _
    · rw [hgo w hwv]; exact h.gN w hw
  · intro w hw; rw [ha] at hw; rw [hgr]
    by_cases hwv : w = v
    · subst hwv; rw [hgv']; exact Nat.le_succ _
    · rw [hgo w hwv]; exact h.gN2 w hw
  · intro p w hc; rw [hic] at hc
    by_cases hwv : w = v
    · subst hwv
      have := hpar p hc; subst this
      rw [hgv', hgo p hp0v, hgp0]; exact Nat.le_refl _
    · rw [hgo w hwv]
      by_cases hpv : p = v
      · subst hpv; rw [hgv']; exact h.gN w ((isChild_iff s p w).1 hc).1
      · rw [hgo p hpv]; exact h.gM p w hc
  · intro p w hc hst'; rw [hic] at hc; rw [hgr]
    by_cases hwv : w = v
    · subst hwv
      have := hpar p hc; subst this
      rw [hsi_up] at hst'; cases hst'
    · by_cases hpv : p = v
      · subst hpv
        rw [hgo w hwv, hgv']; exact ⟨(hch w hc).2.2, rfl⟩
      · rw [hsi_other p w hpv hwv] at hst'
        rw [hgo w hwv, hgo p hpv]; exact h.gX p w hc hst'
  · intro p w hc ho; rw [hic] at hc; rw [hgr] at ho ⊢
    by_cases hwv : w = v
    · subst hwv; rw [hgv'] at ho; exact absurd ho (Nat.succ_ne_self _)
    · by_cases hpv : p = v
      · subst hpv; left; rw [hsi_down w hc]; exact Nat.one_pos
      · rw [hgo w hwv] at ho
        rw [hsi_other p w hpv hwv, hgo p hpv]; exact h.gW p w hc ho
  · intro w hw hwr hr; rw [ha] at hw; rw [hgr]
    by_cases hwv : w = v
    · subst hwv; exact hgv'
    · rw [hiro w hwv] at hr; rw [hgo w hwv]; exact h.gZ w hw hwr hr
  · intro p w hc hak; rw [hic] at hc; rw [hgr]
    by_cases hwv : w = v
    · subst hwv; exact hgv'
    · by_cases hpv : p = v
      · subst hpv; rw [(hch w hc).2.1] at hak; cases hak
      · rw [hai_other p w hpv hwv] at hak; rw [hgo w hwv]; exact h.gZ2 p w hc hak
  · intro w hw hwr hr; rw [ha] at hw
    by_cases hwv : w = v
    · subst hwv; exact eq_upd_same hj
    · rw [hiro w hwv] at hr; rw [eq_upd_other hj hwv]; exact h.j1 w hw hwr hr
  · intro w hw hwr hr hsw; rw [ha] at hw
    by_cases hwv : w = v
    · subst hwv; rw [eq_upd_same h3] at hsw; cases hsw
    · rw [hiro w hwv] at hr; rw [eq_upd_other h3 hwv] at hsw; rw [hpc]; exact h.j2 w hw hwr hr hsw
  · intro w hw hwr hact; rw [ha] at hw
    by_cases hwv : w = v
    · subst hwv; exact Or.inl hirv
    · rw [hact_o w hwv] at hact
      rw [hiro w hwv, hactR, hgr, hgo w hwv]; exact h.a w hw hwr hact

/-- `sendStopSearch` at the root: a new stop wave starts; every helper becomes old -/
theorem G4.root_stop {r : Fin n} {s s' : St n} (h1 : G1 r s) (h : G4 r s) (hnr : inRound s r = false)
    (hs : s'.readG4 = (s.alive, s.parent, upd s.gen r (s.gen r + 1), s.q, upd s.out r (Out.notify r :: bcast s r .stop),
      upd s.selfWait r true, upd s.childWait r (nChildren s r), s.jobId, upd s.pc r .eack)) : G4 r s' := by
  simp only [St.readG4, Prod.mk.injEq] at hs
  obtain ⟨ha, hp, hg, hq', ho', h3, h4, -, -⟩ := hs
  have hic := isChild_congr ha hp
  have hnew := h.all_new h1 hnr
  have hgr : s'.gen r = s.gen r + 1 := eq_upd_same hg
  have hgo : ∀ w, s.alive w = true → w ≠ r → s'.gen w = s.gen r := fun w hw hwr => by rw [eq_upd_other hg hwr, hnew w hw]
  have hqu := h1.quiescent hnr
  have hiro : ∀ w, s.alive w = true → w ≠ r → inRound s' w = true → False := by
    intro w hw hwr hr
    rw [(inRound_upd h3 h4).2 w hwr, hqu w hw] at hr; cases hr
  refine ⟨?_, ?_, ?_, ?_, ?_, ?_, ?_, ?_, ?_, ?_⟩
  · intro w hw; rw [ha] at hw; rw [hgr]
    by_cases hwr : w = r
    · subst hwr; rw [hgr]; exact Nat.le_refl _
    · rw [hgo w hw hwr]; exact Nat.le_succ _
  · intro w hw; rw [ha] at hw; rw [hgr]
    by_cases hwr : w = r
    · subst hwr; rw [hgr]; exact Nat.le_succ _
    · rw [hgo w hw hwr]; exact Nat.le_refl _
  · intro p w hc; rw [hic] at hc
    rw [hgo w ((isChild_iff s p w).1 hc).1 (h1.child_ne_root hc)]
    by_cases hpr : p = r
    · subst hpr; rw [hgr]; exact Nat.le_succ _
    · rw [hgo p (h1.parent_alive hc) hpr]; exact Nat.le_refl _
  · intro p w hc hst; rw [hic] at hc
    by_cases hpr : p = r
    · subst hpr; rw [hgo w ((isChild_iff s p w).1 hc).1 (h1.child_ne_root hc), hgr]; exact ⟨rfl, rfl⟩
    · have hq := h1.quiescent_edge hnr hc
      unfold stopIn at hst
      rw [hq', eq_upd_other ho' hpr, hq.1, hq.2.1] at hst; cases hst
  · intro p w hc _; rw [hic] at hc
    by_cases hpr : p = r
    · subst hpr; left
      unfold stopIn
      rw [hq', eq_upd_same ho', pStop_stop_bcast, (h1.quiescent_edge hnr hc).1, if_pos hc]; exact Nat.one_pos
    · right; rw [hgo p (h1.parent_alive hc) hpr, hgr]
  · intro w hw hwr hr; rw [ha] at hw; exact (hiro w hw hwr hr).elim
  · intro p w hc hak; rw [hic] at hc
    have hq := h1.quiescent_edge hnr hc
    unfold ackIn at hak
    rw [hq', eq_upd_other ho' (h1.child_ne_root hc), hq.2.2.2.1, hq.2.2.2.2] at hak; cases hak
  · intro w hw hwr hr; rw [ha] at hw; exact (hiro w hw hwr hr).elim
  · intro w hw hwr hr; rw [ha] at hw; exact (hiro w hw hwr hr).elim
  · intro w hw hwr _; rw [ha] at hw
    right; right; rw [hgo w hw hwr, hgr]

/-- STOP_ACK handler and self-ack: `v` stays in its round or leaves it -/
theorem G4.ack_step {r : Fin n} {s s' : St n} (h1 : G1 r s) (h : G4 r s) (v : Fin n) {x : Pc} {ql : List (Cmd n)} {ol : List (Out n)}
    {sw : Bool} {cw : Nat} (va : s.alive v = true) (hout : s.out v = [])
    (hin : v ≠ r → inRound s v = true)
    (hsame : (s'.alive, s'.parent, s'.gen, s'.jobId) = (s.alive, s.parent, s.gen, s.jobId))
    (hq' : s'.q = upd s.q v ql) (ho' : s'.out = upd s.out v ol)
    (h3 : s'.selfWait = upd s.selfWait v sw) (h4 : s'.childWait = upd s.childWait v cw) (hpc : s'.pc = upd s.pc v x)
    (hql : ql = s.q v ∨ ∃ d, s.q v = Cmd.ack d :: ql)
    (hol : (∀ d, pStop ol d = 0) ∧ hasPStart ol = false)
    (hx : v ≠ r → isSearch x = true → isSearch (s.pc v) = true ∧ sw = s.selfWait v)
    (hR : v = r → actPc (s.pc r) = true → actPc x = true) : G4 r s' := by
  simp only [Prod.mk.injEq] at hsame
  obtain ⟨ha, hp, hg, hj⟩ := hsame
  obtain ⟨c1, c2, cst⟩ : cStop ql = cStop (s.q v) ∧ (∀ d, cAck ql d ≤ cAck (s.q v) d) ∧
      (hasStart ql = true → hasStart (s.q v) = true) := by
    rcases hql with e | ⟨d, e⟩
    · rw [e]; exact ⟨rfl, fun _ => Nat.le_refl _, id⟩
    · rw [e]; exact ⟨by rw [cStop_cons, if_neg nofun]; rfl, cAck_tail_le _ _, hasStart_tail⟩
  have hiro := (inRound_upd h3 h4).2
  refine h.frame (fun w hw => by rw [ha] at hw; exact hw) hp hg ?_ ?_ ?_
    (fun w _ _ _ => Or.inr (by rw [hj])) ?_ ?_ ?_
  · intro p w _
    unfold stopIn
    rw [hq', ho', upd_congr_at cStop c1 w, upd_congr_at (pStop · w) ((hol.1 w).trans (by rw [hout, pStop_nil])) p]
  · -- acks on the edges below `v` can only disappear; the one above `v` may gain the pending ack, but `v` is new
    intro p w hc hh
    by_cases hwv : w = v
    · subst hwv
      have hwr := h1.child_ne_root hc
      exact Or.inr (h.gZ w va hwr (hin hwr))
    · left
      unfold ackIn at hh ⊢
      rw [eq_upd_other ho' hwv] at hh
      by_cases hpv : p = v
      · subst hpv; rw [eq_upd_same hq'] at hh; have := c2 w; omega
      · rw [eq_upd_other hq' hpv] at hh; exact hh
  · intro w _ hwr hr
    by_cases hwv : w = v
    · subst hwv; exact hin hwr
    · rw [hiro w hwv] at hr; exact hr
  · intro w _ hwr _ hsw hh
    by_cases hwv : w = v
    · subst hwv
      rw [eq_upd_same h3] at hsw; rw [eq_upd_same hpc] at hh
      obtain ⟨e1, e2⟩ := hx hwr hh
      exact ⟨by rw [← e2]; exact hsw, e1⟩
    · rw [eq_upd_other h3 hwv] at hsw; rw [eq_upd_other hpc hwv] at hh; exact ⟨hsw, hh⟩
  · intro w hw hwr hact
    by_cases hwv : w = v
    · subst hwv
      -- `v` was in its round: no job, no START queued; if it is still inside `doSearch`, its self-ack is still due
      have hin' := hin hwr
      right; left
      unfold act at hact
      rw [hj, h.j1 w hw hwr hin', eq_upd_same hpc, eq_upd_same hq', eq_upd_same ho'] at hact
      refine act_parts (fun e => by cases e) ?_ ?_ (fun e => by rw [hol.2] at e; cases e) hact
      · intro hs
        obtain ⟨e1, e2⟩ := hx hwr hs
        apply inRound_of_selfWait
        rw [eq_upd_same h3, e2]
        cases hsw0 : s.selfWait w
        · rw [h.j2 w hw hwr hin' hsw0] at e1; cases e1
        · rfl
      · intro hs
        have := h1.startRound w hw hwr (Or.inl (cst hs))
        rw [hin'] at this; cases this
    · rw [act_congr (by rw [hj]) (eq_upd_other hpc hwv) (eq_upd_other hq' hwv) (eq_upd_other ho' hwv)] at hact
      exact Or.inl ⟨hact, fun hr => by rw [hiro w hwv]; exact hr⟩
  · intro hh
    unfold actR; rw [hpc]
    by_cases hrv : r = v
    · subst hrv; rw [upd_same]; exact hR rfl hh
    · rw [upd_other _ _ _ _ hrv]; exact hh

theorem handleW_G4 {r : Fin n} {s : St n} (h1 : G1 r s) (h : G4 r s) (v : Fin n) (c : Cmd n) (rest : List (Cmd n))
    (va : s.alive v = true) (hne : v ≠ r) (hq : s.q v = c :: rest) (hout : s.out v = []) :
    G4 r (handleW { s with q := upd s.q v rest } v c) := by
  cases c with
  | stop => exact h.stop_handler h1 v rest va hne hq rfl
  | ack d =>
    -- the ack was owed to `v`, so `v` is still collecting
    have hpos : 0 < s.childWait v := (h1.ack_local rest [] va hq hout (fun _ => rfl)).1
    have hin : inRound s v = true := by unfold inRound; rw [decide_eq_true hpos]; exact Bool.or_true _
    exact h.ack_step h1 v va hout (fun _ => hin) rfl (hq' := rfl) (ho' := rfl) (h3 := upd_keep _ _) (h4 := rfl)
      (hpc := upd_keep _ _) (.inr ⟨d, hq⟩) (have ⟨a, _, b⟩ := ack_or_nil s v (.ack v) (by simp [mentions]) _; ⟨a, b⟩) (fun _ e => ⟨e, rfl⟩) (fun e => absurd e hne)
  | init | start _ _ | quit | report _ _ _ | quitAck _ =>
    exact handleW_neutral_G4 h1 h v _ rest va hne hq hout nofun (fun _ => nofun)

theorem G4.send_enq {r : Fin n} {s : St n} (h1 : G1 r s) (h : G4 r s) {v t : Fin n} {c : Cmd n} (va : s.alive v = true)
    (hmo : Out.enq t c ∈ s.out v) :
    G4 r (applyOut { s with out := upd s.out v ((s.out v).erase (Out.enq t c)) } (Out.enq t c)) := by
  have hparts := fun p d (hc : isChild s p d = true) =>
    send_parts (s' := { s with q := upd s.q t (pushCmd (s.q t) c), out := upd s.out v ((s.out v).erase (Out.enq t c)) }) h1 va hmo rfl rfl hc
  refine h.frame (fun _ hw => hw) rfl rfl (fun p d hc => (hparts p d hc).1)
    (fun p d hc hh => Or.inl (Nat.lt_of_lt_of_eq hh (hparts p d hc).2)) (fun _ _ _ hr => hr) (fun _ _ _ _ => Or.inr rfl)
    (fun _ _ _ _ hsw hh => ⟨hsw, hh⟩) ?_ (fun hh => hh)
  intro w hw hwr hact
  suffices key : act s w = true ∨ actR s r = true ∨ s.gen w + 1 = s.gen r by
    rcases key with e | e
    · exact Or.inl ⟨e, fun hr => hr⟩
    · exact Or.inr (Or.inr e)
  unfold act at hact
  refine act_parts (fun e => Or.inl (act_job e)) (fun e => Or.inl (act_search e)) ?_ ?_ hact
  · intro hh
    have hh' : hasStart (upd s.q t (pushCmd (s.q t) c) w) = true := hh
    by_cases hwt : w = t
    · subst hwt
      rw [upd_same] at hh'
      rcases hasStart_pushCmd hh' with k | k
      · exact Or.inl (act_qstart k)
      · -- a START arrives at `w`: its sender is active and outside a round
        have hps : hasPStart (s.out v) = true := hasPStart_of_mem hmo k
        rcases h1.outOk v _ va hmo with ⟨hvt, _⟩ | ⟨_, hment⟩
        · by_cases hvr : v = r
          · subst hvr
            right; left
            show actPc (s.pc v) = true
            rw [h1.rootStart hps]; rfl
          · rcases h.a v va hvr (act_pstart hps) with e | e | e
            · rw [h1.start_sender_idle va hps] at e; cases e
            · exact Or.inr (Or.inl e)
            · right; right
              have := h.gM v w hvt
              have := h.gN2 w hw
              omega
        · cases c <;> first | cases hment | cases k
    · rw [upd_other _ _ _ _ hwt] at hh'; exact Or.inl (act_qstart hh')
  · intro hh
    have hh' : hasPStart (upd s.out v ((s.out v).erase (Out.enq t c)) w) = true := hh
    by_cases hwv : w = v
    · subst hwv; rw [upd_same] at hh'; exact Or.inl (act_pstart (hasPStart_erase hh'))
    · rw [upd_other _ _ _ _ hwv] at hh'; exact Or.inl (act_pstart hh')

/-- a new helper starts with the generation of its parent, outside a round and idle -/
theorem G4.spawn {r : Fin n} {s s' : St n} (h : G4 r s) (v p0 : Fin n)
    (hap : s.alive p0 = true) (hvr : v ≠ r) (hvp : v ≠ p0) (hqv : s.q v = []) (hov : s.out v = [])
    (hqp : s.q p0 = []) (hop : s.out p0 = [])
    (hnoch : (List.finRange n).all (fun c => !(s.parent c == some v && s.alive c)) = true)
    (hs : s'.readG4 = (upd s.alive v true, upd s.parent v (some p0), upd s.gen v (s.gen p0), s.q, s.out,
      upd s.selfWait v false, upd s.childWait v 0, upd s.jobId v none, upd s.pc v .wait)) : G4 r s' := by
  simp only [St.readG4, Prod.mk.injEq] at hs
  obtain ⟨ha, hp, hg, hq, ho, h3, h4, hj, hpc⟩ := hs
  have hpv : p0 ≠ v := Ne.symm hvp
  have hedge : ∀ a b, isChild s' a b = true → (b = v ∧ a = p0) ∨ (b ≠ v ∧ a ≠ v ∧ isChild s a b = true) := by
    intro a b hc
    by_cases hb : b = v
    · subst hb; exact .inl ⟨rfl, isChild_spawn_new hp hc⟩
    · rw [isChild_spawn_other ha hp a hb] at hc
      exact .inr ⟨hb, (fun e => by rw [e, isChild_fresh hnoch] at hc; cases hc), hc⟩
  have hgr : s'.gen r = s.gen r := eq_upd_other hg (Ne.symm hvr)
  have hgv : s'.gen v = s.gen p0 := eq_upd_same hg
  have hgo : ∀ w, w ≠ v → s'.gen w = s.gen w := fun w hw => eq_upd_other hg hw
  obtain ⟨hirv, hiro⟩ := inRound_upd h3 h4
  have hthr : ∀ w, s'.alive w = true → inRound s' w = true → w ≠ v ∧ s.alive w = true ∧ inRound s w = true := by
    intro w hw hr
    by_cases hwv : w = v
    · rw [hwv, hirv] at hr; cases hr
    · exact ⟨hwv, alive_spawn_other ha hwv hw, by rw [← hiro w hwv]; exact hr⟩
  have hsi : ∀ a b, stopIn s' a b = stopIn s a b := fun a b => stopIn_congr (by rw [hq]) (by rw [ho])
  have hai : ∀ a b, ackIn s' a b = ackIn s a b := fun a b => ackIn_congr (by rw [hq]) (by rw [ho])
  have hsiv : stopIn s p0 v = 0 := by unfold stopIn; rw [hqv, hop]; rfl
  have haiv : ackIn s p0 v = 0 := by unfold ackIn; rw [hqp, hov]; rfl
  refine ⟨?_, ?_, ?_, ?_, ?_, ?_, ?_, ?_, ?_, ?_⟩
  · intro w hw; rw [hgr]
    by_cases hwv : w = v
    · rw [hwv, hgv]; exact h.gN p0 hap
    · rw [hgo w hwv]; exact h.gN w (alive_spawn_other ha hwv hw)
  · intro w hw; rw [hgr]
    by_cases hwv : w = v
    · rw [hwv, hgv]; exact h.gN2 p0 hap
    · rw [hgo w hwv]; exact h.gN2 w (alive_spawn_other ha hwv hw)
  · intro a b hc
    rcases hedge a b hc with ⟨hb, ha'⟩ | ⟨hb, ha', hc⟩
    · rw [hb, ha', hgv, hgo p0 hpv]; exact Nat.le_refl _
    · rw [hgo b hb, hgo a ha']; exact h.gM a b hc
  · intro a b hc hst
    rw [hsi] at hst
    rcases hedge a b hc with ⟨hb, ha'⟩ | ⟨hb, ha', hc⟩
    · rw [hb, ha', hsiv] at hst; cases hst
    · rw [hgo b hb, hgo a ha', hgr]; exact h.gX a b hc hst
  · intro a b hc ho'
    rw [hgr] at ho' ⊢
    rcases hedge a b hc with ⟨hb, ha'⟩ | ⟨hb, ha', hc⟩
    · rw [hb, hgv] at ho'; rw [ha', hgo p0 hpv]; exact Or.inr ho'
    · rw [hgo b hb] at ho'
      rw [hsi, hgo a ha']; exact h.gW a b hc ho'
  · intro w hw hwr hr
    obtain ⟨hwv, hw, hr⟩ := hthr w hw hr
    rw [hgo w hwv, hgr]; exact h.gZ w hw hwr hr
  · intro a b hc hak
    rw [hai] at hak
    rcases hedge a b hc with ⟨hb, ha'⟩ | ⟨hb, _, hc⟩
    · rw [hb, ha', haiv] at hak; cases hak
    · rw [hgo b hb, hgr]; exact h.gZ2 a b hc hak
  · intro w hw hwr hr
    obtain ⟨hwv, hw, hr⟩ := hthr w hw hr
    rw [eq_upd_other hj hwv]; exact h.j1 w hw hwr hr
  · intro w hw hwr hr hsw
    obtain ⟨hwv, hw, hr⟩ := hthr w hw hr
    rw [eq_upd_other h3 hwv] at hsw
    rw [eq_upd_other hpc hwv]; exact h.j2 w hw hwr hr hsw
  · intro w hw hwr hact
    by_cases hwv : w = v
    · unfold act at hact
      rw [hwv, eq_upd_same hj, eq_upd_same hpc, hq, ho, hqv, hov] at hact
      cases hact
    · rw [act_congr (eq_upd_other hj hwv) (eq_upd_other hpc hwv) (by rw [hq]) (by rw [ho])] at hact
      have hactR : actR s' r = actR s r := by unfold actR; rw [eq_upd_other hpc (Ne.symm hvr)]
      rw [hiro w hwv, hactR, hgo w hwv, hgr]; exact h.a w (alive_spawn_other ha hwv hw) hwr hact

theorem init_G4 (r : Fin n) : G4 r (init r) := by
  have hch : ∀ a b, isChild (init r) a b = false := by intro a b; simp [isChild, init]
  refine ⟨?_, ?_, ?_, ?_, ?_, ?_, ?_, ?_, ?_, ?_⟩
  · intro v _; simp [init]
  · intro v _; simp [init]
  · intro p v hc; rw [hch] at hc; cases hc
  · intro p v hc; rw [hch] at hc; cases hc
  · intro p v hc; rw [hch] at hc; cases hc
  · intro v hv hne; simp [init] at hv; exact absurd hv hne
  · intro p v hc; rw [hch] at hc; cases hc
  · intro v hv hne; simp [init] at hv; exact absurd hv hne
  · intro v hv hne; simp [init] at hv; exact absurd hv hne
  · intro v hv hne; simp [init] at hv; exact absurd hv hne

theorem step_G4 {r : Fin n} {s s' : St n} (h1 : G1 r s) (h : G4 r s) (e : Ev n) (hs : step r s e = some s') : G4 r s' := by
  cases step_Step hs with
  | waitRet v va _ hwp =>
    by_cases hvr : v = r
    · subst hvr
      exact h.root_pc _ rfl rfl
        (fun hh => by rw [actPc_wait hwp] at hh; cases hh)
    · exact h.helper_move v va hvr _ (s.jobId v) rfl (hq := rfl) (ho := rfl) (hj := upd_keep _ _) (hpc := rfl) (.inr rfl)
        (fun hx => by rw [isSearch_afterWait hwp] at hx; cases hx)
  | deqW v c rest va hout hq hpc =>
    have hne : v ≠ r := h1.worker_ne_root va (by rcases hpc with e | ⟨j, e⟩ <;> rw [e] <;> rfl)
    exact handleW_G4 h1 h v c rest va hne hq hout
  | deqSearch v c rest va _ hq hpc =>
    obtain rfl := h1.root_pc va (by rw [hpc]; rfl)
    obtain ⟨g1, g2⟩ := h1.root_head hq
    exact h.root_pop hq g1 (g2 (h1.root_not_inRound (by rw [hpc]; rfl))) rfl (hq' := rfl) (ho := rfl) (hj := rfl) (hpc := rfl)
  | deqCollect v c rest va hout hq hpc =>
    obtain rfl := h1.root_pc va (by rw [hpc]; rfl)
    have g1 := (h1.root_head hq).1
    by_cases hca : ∃ d, c = Cmd.ack d
    · obtain ⟨src, rfl⟩ := hca
      exact h.ack_step h1 v va hout (fun hne => absurd rfl hne) rfl (hq' := rfl) (ho' := upd_keep s.out v)
        (h3 := upd_keep _ _) (h4 := rfl) (hpc := upd_keep _ _) (.inr ⟨src, hq⟩)
        (by rw [hout]; exact ⟨fun _ => rfl, rfl⟩) (fun hne => absurd rfl hne) (fun _ hh => by rw [hpc] at hh; cases hh)
    · have hc2 : ∀ d, c ≠ Cmd.ack d := fun d e => hca ⟨d, e⟩
      rw [handleE_collect _ v hc2]
      exact h.root_pop hq g1 hc2 rfl (hq' := rfl) (ho := rfl) (hj := rfl) (hpc := rfl)
  | deqQuit v c rest va _ hq hpc =>
    obtain rfl := h1.root_pc va (by rw [hpc]; rfl)
    obtain ⟨g1, g2⟩ := h1.root_head hq
    have g2' := g2 (h1.root_not_inRound (by rw [hpc]; rfl))
    rcases handleE_quit { s with q := upd s.q v rest } v c with he | he <;> rw [he] <;>
      exact h.root_pop hq g1 g2' rfl (hq' := rfl) (ho := rfl) (hj := rfl) (hpc := rfl)
  | pollW v va _ _ hpc =>
    refine h.helper_pc va (h1.worker_ne_root va (by rw [hpc]; rfl)) _ (fun hx => Or.inr ?_)
    split at hx
    · cases hx
    · split at hx
      · rename_i j hj; rw [hj]; rfl
      · cases hx
  | pollCollectDone v va hout _ hpc =>
    obtain rfl := h1.root_pc va (by rw [hpc]; rfl)
    refine h.root_move .epost [Out.notify v] rfl (hq := rfl) (ho := rfl) (hj := rfl) (hpc := rfl) ?_ ?_ (fun hh => by rw [hpc] at hh; cases hh)
    · intro d; rw [hout]; rfl
    · intro p d; rw [hout]; rfl
  | pollCollectWait v va _ _ hpc | pollQuit v va _ _ hpc =>
    obtain rfl := h1.root_pc va (by rw [hpc]; rfl)
    exact h.root_pc _ rfl rfl (fun hh => by rw [hpc] at hh; cases hh)
  | send v o va hmo =>
    cases o with
    | notify t =>
      refine h.neutral v (s.pc v) (s.q v) ((s.out v).erase (Out.notify t)) (s.jobId v) rfl (hq := upd_keep _ _) (ho := rfl)
        (hj := upd_keep _ _) (hpc := upd_keep _ _) rfl (fun _ => rfl) ?_ ?_ (fun _ _ => Or.inr rfl) (fun _ _ hx => hx) ?_ (fun hh => hh)
      · intro d; rw [pStop_erase]; simp
      · intro p d; rw [pAck_erase]; simp
      · intro _; exact act_parts act_job act_search act_qstart (fun e => act_pstart (hasPStart_erase e))
    | enq t c => exact h.send_enq h1 va hmo
  | ackSelfW v va hout hpc hsw =>
    have hne : v ≠ r := h1.worker_ne_root va (by rw [hpc]; rfl)
    exact h.ack_step h1 v va hout (fun _ => inRound_of_selfWait hsw) rfl (hq' := upd_keep _ _) (ho' := rfl) (h3 := rfl)
      (h4 := upd_keep _ _) (hpc := rfl) (.inl rfl) (have ⟨a, _, b⟩ := ack_or_nil s v (.ack v) (by simp [mentions]) _; ⟨a, b⟩) (fun _ e => by cases e)
      (fun e => absurd e hne)
  | ackSelfE v va hout hpc =>
    obtain rfl := h1.root_pc va (by rw [hpc]; rfl)
    exact h.ack_step h1 v va hout (fun hne => absurd rfl hne) rfl (hq' := upd_keep _ _) (ho' := upd_keep s.out v) (h3 := rfl)
      (h4 := upd_keep _ _) (hpc := rfl) (.inl rfl)
      (by rw [hout]; exact ⟨fun _ => rfl, rfl⟩) (fun hne => absurd rfl hne) (fun _ hh => by rw [hpc] at hh; cases hh)
  | resultFwd v j va hout =>
    refine h.neutral v (s.pc v) (s.q v) (toParent s v (.report v (s.jobEp v) j)) (s.jobId v) rfl
      (hq := upd_keep _ _) (ho := rfl) (hj := upd_keep _ _) (hpc := upd_keep _ _) rfl (fun _ => rfl) ?_ ?_ (fun _ _ => Or.inr rfl)
      (fun _ _ hx => hx) ?_ (fun hh => hh)
    · intro d; rw [hout]; exact pStop_toParent s v (.report v (s.jobEp v) j) nofun d
    · intro p d; rw [hout]; exact pAck_toParent_ne s v (.report v (s.jobEp v) j) (fun _ => nofun) p d
    · intro _
      exact act_parts act_job act_search act_qstart (fun e => by rw [hasPStart_toParent s v _ rfl] at e; cases e)
  | leaveMax v j va _ hpc =>
    exact h.helper_move v va (h1.worker_ne_root va (by rw [hpc]; rfl)) .ackSelf none rfl (hq := rfl) (ho := rfl)
      (hj := rfl) (hpc := rfl) (.inl rfl) (fun hx => by cases hx)
  | leaveStop v j va _ hpc | ackSelfW0 v va _ hpc =>
    exact h.helper_pc va (h1.worker_ne_root va (by rw [hpc]; rfl)) _ (fun hx => by cases hx)
  | tend v va hvr => exact h.helper_pc va hvr _ (fun hx => by cases hx)
  | spawn v p _ hap hvr hvp hqv hov _ hqp hop _ _ _ hnoch =>
    exact h.spawn v p hap hvr hvp hqv hov hqp hop hnoch rfl
  | exit v =>
    exact h.frame (fun _ hw => (alive_exit rfl hw).2) rfl rfl (fun _ _ _ => rfl)
      (fun _ _ _ hh => Or.inl hh) (fun _ _ _ hr => hr) (fun _ _ _ _ => Or.inr rfl) (fun _ _ _ _ hsw hh => ⟨hsw, hh⟩)
      (fun _ _ _ hh => Or.inl ⟨hh, fun hr => hr⟩) (fun hh => hh)
  | rdPreQuit _ hpc | rdPreSearch _ hpc | rdQuit _ _ hpc | rdSearch _ _ hpc | optsDone _ _ _ _ hpc | optsDonePost _ _ _ _ hpc
  | eBegin _ hpc | eSearchEnd _ hpc | eQuitSend0 _ hpc =>
    exact h.root_pc _ rfl rfl (fun hh => by rw [hpc] at hh; cases hh)
  | eSearchDone => exact h.root_pc _ rfl rfl (fun _ => rfl)
  | eHoldDone ws _ _ _ hpc =>
    refine h.root_pc _ rfl rfl (fun hh => ?_)
    rcases hpc with ⟨hpc, _⟩ | hpc
    · rw [hpc] at hh; cases hh
    · rw [hpc] at hh; cases ws <;> exact hh
  | eBest ws _ hpc =>
    refine h.root_pc _ rfl rfl (fun hh => ?_)
    rw [hpc] at hh; cases ws <;> exact hh
  | eInit ho =>
    refine h.root_move .esearch (bcast s r .init) rfl (hq := rfl) (ho := rfl) (hj := rfl) (hpc := rfl) ?_ ?_ (fun _ => rfl)
    · intro d; rw [ho]; exact pStop_bcast_ne s r .init nofun d
    · intro p d; rw [ho]; exact pAck_bcast s r .init p d (fun _ => nofun)
  | eJobNext ho =>
    refine h.root_move (s.pc r) (bcast s r (.start s.epoch (s.ejob + 1))) rfl (hq := rfl) (ho := rfl) (hj := rfl)
      (hpc := upd_keep _ _) ?_ ?_ (fun hh => hh)
    · intro d; rw [ho]; exact pStop_bcast_ne s r (.start s.epoch (s.ejob + 1)) nofun d
    · intro p d; rw [ho]; exact pAck_bcast s r (.start s.epoch (s.ejob + 1)) p d (fun _ => nofun)
  | eQuitSendN ho hpc =>
    refine h.root_move .equit (bcast s r .quit) rfl (hq := rfl) (ho := rfl) (hj := rfl) (hpc := rfl) ?_ ?_ (fun hh => by rw [hpc] at hh; cases hh)
    · intro d; rw [ho]; exact pStop_bcast_ne s r .quit nofun d
    · intro p d; rw [ho]; exact pAck_bcast s r .quit p d (fun _ => nofun)
  | eStopSend _ hpc => exact h.root_stop h1 (h1.root_not_inRound (by rw [hpc]; rfl)) rfl
  | pollS | resultDrop | pWaitStop | pWaitOpts => exact h
  | _ => exact h.root_pc (s.pc r) rfl (upd_keep _ _) id

theorem reach_G4 {r : Fin n} {s : St n} (h : Reach r s) : G4 r s := by
  induction h with
  | init => exact init_G4 r
  | step s s' e hr hs ih => exact step_G4 (reach_G1 hr) ih e hs

end Conc
