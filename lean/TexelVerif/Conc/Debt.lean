import TexelVerif.Conc.Steps
/-! Stop / stop-ack accounting of the protocol model: the per-edge `debt` with its traffic parts `stopIn` / `ackIn`,
    sums over children, and the counting lemmas for queues and lists of pending actions. -/
namespace Conc

variable {n : Nat}

/-- `v` is inside a stop round: `!hasStopAck()` -/
def inRound (s : St n) (v : Fin n) : Bool := s.selfWait v || decide (0 < s.childWait v)

def cStop (l : List (Cmd n)) : Nat := l.count Cmd.stop
def cAck (l : List (Cmd n)) (c : Fin n) : Nat := l.count (Cmd.ack c)
def pStop (l : List (Out n)) (c : Fin n) : Nat := l.count (Out.enq c Cmd.stop)
def pAck (l : List (Out n)) (p c : Fin n) : Nat := l.count (Out.enq p (Cmd.ack c))

/-- number of STOP_ACKs child `c` still owes its parent `p`: a STOP on its way to `c` (queued or about
    to be enqueued by `p`), `c` inside its round, or `c`'s ack on its way to `p`. -/
def debt (s : St n) (p c : Fin n) : Nat :=
  cStop (s.q c) + pStop (s.out p) c + (if inRound s c then 1 else 0) + cAck (s.q p) c + pAck (s.out c) p c

/-- STOPs on their way from `p` to `v` -/
def stopIn (s : St n) (p v : Fin n) : Nat := cStop (s.q v) + pStop (s.out p) v
/-- STOP_ACKs on their way from `v` to `p` -/
def ackIn (s : St n) (p v : Fin n) : Nat := cAck (s.q p) v + pAck (s.out v) p v

theorem debt_split (s : St n) (p v : Fin n) :
    debt s p v = stopIn s p v + (if inRound s v then 1 else 0) + ackIn s p v := by
  unfold debt stopIn ackIn; omega

def sumAll (g : Fin n → Nat) : Nat := ((List.finRange n).map g).sum
def sumCh (s : St n) (p : Fin n) (f : Fin n → Nat) : Nat := sumAll (fun c => if isChild s p c then f c else 0)

/-! ### sums -/

theorem sumAll_congr (f g : Fin n → Nat) (h : ∀ c, f c = g c) : sumAll f = sumAll g := by
  have : f = g := funext h
  rw [this]

theorem sum_map_upd1 (f g : Fin n → Nat) (l : List (Fin n)) (c0 : Fin n) (hnd : l.Nodup) (hmem : c0 ∈ l)
    (hfg : ∀ c, c ≠ c0 → f c = g c) : (l.map f).sum + g c0 = (l.map g).sum + f c0 := by
  induction l with
  | nil => cases hmem
  | cons x l ih =>
    rw [List.nodup_cons] at hnd
    simp only [List.map_cons, List.sum_cons]
    by_cases hx : x = c0
    · subst hx
      have : (l.map f) = (l.map g) := by
        apply List.map_congr_left
        intro s hs; exact hfg s (fun e => hnd.1 (e ▸ hs))
      rw [this]; omega
    · have hm : c0 ∈ l := by
        rcases List.mem_cons.1 hmem with h | h
        · exact absurd h.symm hx
        · exact h
      have := ih hnd.2 hm
      rw [hfg x hx]; omega

/-- two functions that differ at most at `c0` -/
theorem sumAll_upd1 (f g : Fin n → Nat) (c0 : Fin n) (hfg : ∀ c, c ≠ c0 → f c = g c) :
    sumAll f + g c0 = sumAll g + f c0 :=
  sum_map_upd1 f g (List.finRange n) c0 (List.nodup_finRange n) (List.mem_finRange c0) hfg

theorem sumAll_zero (f : Fin n → Nat) (h : ∀ c, f c = 0) : sumAll f = 0 :=
  List.sum_eq_zero_iff_forall_eq_nat.2 fun x hx => by
    obtain ⟨c, _, rfl⟩ := List.mem_map.1 hx
    exact h c

theorem sumAll_eq_zero (f : Fin n → Nat) (h : sumAll f = 0) (c : Fin n) : f c = 0 :=
  List.sum_eq_zero_iff_forall_eq_nat.1 h (f c) (List.mem_map.2 ⟨c, List.mem_finRange c, rfl⟩)

theorem sumAll_ge (f : Fin n → Nat) (c : Fin n) : f c ≤ sumAll f := by
  have := sumAll_upd1 f (fun x => if x = c then 0 else f x) c (fun x hx => by simp [hx])
  simp only [if_true] at this
  omega

theorem length_filter_eq_sum (p : Fin n → Bool) (l : List (Fin n)) :
    (l.filter p).length = (l.map (fun c => if p c then 1 else 0)).sum := by
  induction l with
  | nil => rfl
  | cons x l ih =>
    simp only [List.filter_cons, List.map_cons, List.sum_cons]
    by_cases h : p x = true
    · simp [h, ih]; omega
    · simp [h, ih]

theorem sumCh_congr (s s' : St n) (p : Fin n) (f g : Fin n → Nat)
    (hc : ∀ c, isChild s' p c = isChild s p c)
    (h : ∀ c, isChild s p c = true → f c = g c) : sumCh s p f = sumCh s' p g := by
  unfold sumCh
  apply sumAll_congr
  intro c
  rw [hc c]
  by_cases hcc : isChild s p c = true
  · simp [hcc, h c hcc]
  · simp [hcc]

theorem sumCh_one (s : St n) (p : Fin n) : sumCh s p (fun _ => 1) = nChildren s p := by
  unfold sumCh sumAll nChildren children
  rw [length_filter_eq_sum]

theorem sumCh_eq_zero (s : St n) (p : Fin n) (f : Fin n → Nat) (h : sumCh s p f = 0) (c : Fin n)
    (hc : isChild s p c = true) : f c = 0 := by
  have := sumAll_eq_zero _ h c
  simpa [hc] using this

theorem sumCh_pos (s : St n) (p : Fin n) (f : Fin n → Nat) (h : 0 < sumCh s p f) : ∃ c, isChild s p c = true ∧ 0 < f c := by
  apply Classical.byContradiction
  intro hne
  have : sumCh s p f = 0 := sumAll_zero _ fun c => by
    by_cases hc : isChild s p c = true
    · rw [if_pos hc]; exact Nat.eq_zero_of_not_pos fun hf => hne ⟨c, hc, hf⟩
    · rw [if_neg hc]
  rw [this] at h; exact Nat.lt_irrefl 0 h

theorem sumCh_ge (s : St n) (p : Fin n) (f : Fin n → Nat) (c : Fin n) (hc : isChild s p c = true) :
    f c ≤ sumCh s p f := by
  have := sumAll_ge (fun c => if isChild s p c then f c else 0) c
  unfold sumCh
  simpa [hc] using this

/-- changing the summand at one child `c0` of `p` -/
theorem sumCh_upd1 (s s' : St n) (p c0 : Fin n) (f g : Fin n → Nat)
    (hc : ∀ c, isChild s' p c = isChild s p c) (hc0 : isChild s p c0 = true)
    (hfg : ∀ c, c ≠ c0 → isChild s p c = true → f c = g c) : sumCh s p f + g c0 = sumCh s' p g + f c0 := by
  unfold sumCh
  have := sumAll_upd1 (fun c => if isChild s p c then f c else 0) (fun c => if isChild s' p c then g c else 0) c0
    (by
      intro c hne
      show (if isChild s p c then f c else 0) = (if isChild s' p c then g c else 0)
      rw [hc c]
      by_cases hcc : isChild s p c = true
      · simp [hcc, hfg c hne hcc]
      · simp [hcc])
  simpa [hc c0, hc0] using this

/-! ### queues -/

theorem count_cons_ite {α : Type} [DecidableEq α] (a x : α) (l : List α) :
    (x :: l).count a = l.count a + (if x = a then 1 else 0) := by
  rw [List.count_cons]; simp only [beq_iff_eq]

theorem count_erase_ite {α : Type} [DecidableEq α] (a o : α) (l : List α) :
    (l.erase o).count a = l.count a - (if o = a then 1 else 0) := by
  rw [List.count_erase]; simp only [beq_iff_eq]

theorem count_pushCmd (l : List (Cmd n)) (x a : Cmd n) (ha : a.purgeable = false) :
    (pushCmd l x).count a = l.count a + (if x = a then 1 else 0) := by
  unfold pushCmd
  rw [List.count_append, count_cons_ite, List.count_nil, Nat.zero_add]
  split
  · unfold purge; rw [List.count_filter (by simp [ha])]
  · rfl

theorem cStop_purge (l : List (Cmd n)) : cStop (purge l) = 0 := by
  unfold cStop purge
  rw [List.count_eq_zero]
  intro h
  have := (List.mem_filter.1 h).2
  simp [Cmd.purgeable] at this

theorem cAck_purge (l : List (Cmd n)) (c : Fin n) : cAck (purge l) c = cAck l c := by
  unfold cAck purge
  exact List.count_filter (by simp [Cmd.purgeable])

theorem cStop_cons (x : Cmd n) (l : List (Cmd n)) : cStop (x :: l) = cStop l + (if x = Cmd.stop then 1 else 0) := by
  simp only [cStop, List.count_cons, beq_iff_eq]

theorem cAck_cons (x : Cmd n) (l : List (Cmd n)) (c : Fin n) :
    cAck (x :: l) c = cAck l c + (if x = Cmd.ack c then 1 else 0) := by
  simp only [cAck, List.count_cons, beq_iff_eq]

theorem cAck_push (l : List (Cmd n)) (x : Cmd n) (c : Fin n) :
    cAck (pushCmd l x) c = cAck l c + (if x = Cmd.ack c then 1 else 0) :=
  count_pushCmd l x (Cmd.ack c) rfl

theorem cStop_push (l : List (Cmd n)) (x : Cmd n) :
    cStop (pushCmd l x) = (if x.isPurger then 0 else cStop l) + (if x = Cmd.stop then 1 else 0) := by
  have hl : cStop (if x.isPurger then purge l else l) = if x.isPurger then 0 else cStop l := by
    split
    · exact cStop_purge l
    · rfl
  rw [← hl]
  simp only [cStop, pushCmd, List.count_append, List.count_singleton, beq_iff_eq]

/-! ### pending actions -/

theorem pStop_erase (l : List (Out n)) (o : Out n) (c : Fin n) :
    pStop (l.erase o) c = pStop l c - (if o = Out.enq c Cmd.stop then 1 else 0) := by
  simp only [pStop, List.count_erase, beq_iff_eq]

theorem pAck_erase (l : List (Out n)) (o : Out n) (p c : Fin n) :
    pAck (l.erase o) p c = pAck l p c - (if o = Out.enq p (Cmd.ack c) then 1 else 0) := by
  simp only [pAck, List.count_erase, beq_iff_eq]

theorem children_nodup (s : St n) (p : Fin n) : (children s p).Nodup := by
  unfold children
  exact List.Nodup.sublist List.filter_sublist (List.nodup_finRange n)

theorem mem_children (s : St n) (p c : Fin n) : c ∈ children s p ↔ isChild s p c = true := by
  unfold children
  simp [List.mem_filter, List.mem_finRange]

theorem count_map_enq (l : List (Fin n)) (hnd : l.Nodup) (x : Cmd n) (c : Fin n) (y : Cmd n) :
    (l.map (fun t => Out.enq t x)).count (Out.enq c y) = if x = y ∧ c ∈ l then 1 else 0 := by
  induction l with
  | nil => simp
  | cons a l ih =>
    rw [List.nodup_cons] at hnd
    simp only [List.map_cons, List.count_cons, ih hnd.2]
    by_cases hxy : x = y
    · subst hxy
      by_cases hac : a = c
      · subst hac; simp [hnd.1]
      · have : c ≠ a := fun e => hac e.symm
        simp [hac, this]
    · simp [hxy]

theorem pStop_bcast (s : St n) (p : Fin n) (x : Cmd n) (c : Fin n) :
    pStop (bcast s p x) c = if x = Cmd.stop ∧ isChild s p c = true then 1 else 0 := by
  unfold pStop bcast
  rw [count_map_enq _ (children_nodup s p)]
  simp only [mem_children]

theorem pAck_bcast (s : St n) (p : Fin n) (x : Cmd n) (q c : Fin n) (hx : ∀ d, x ≠ Cmd.ack d) :
    pAck (bcast s p x) q c = 0 := by
  unfold pAck bcast
  rw [count_map_enq _ (children_nodup s p)]
  simp [hx c]

theorem mem_bcast (s : St n) (p : Fin n) (x : Cmd n) (o : Out n) :
    o ∈ bcast s p x ↔ ∃ c, isChild s p c = true ∧ o = Out.enq c x := by
  unfold bcast
  simp only [List.mem_map, mem_children]
  constructor
  · rintro ⟨c, hc, e⟩; exact ⟨c, hc, e.symm⟩
  · rintro ⟨c, hc, e⟩; exact ⟨c, hc, e.symm⟩

end Conc
