import TexelVerif.Conc.InvG2
/-! The engine-thread / protocol-thread invariant `G3`: the main loop of the engine thread never
    misses a request (quit, options, start) of the protocol thread, and best moves are counted
    one per `go`. -/
namespace Conc

variable {n : Nat}

def Reg.active (g : Reg) : Bool := g.cur || (g.nxt == some true)

theorem Reg.active_of_cur {g : Reg} (h : g.cur = true) : g.active = true := by
  unfold Reg.active; rw [h]; rfl

theorem Reg.active_of_nxt {g : Reg} (h : g.nxt = some true) : g.active = true := by
  unfold Reg.active; rw [h]; exact Bool.or_true _

theorem Reg.active_false {g : Reg} (hc : g.cur = false) (hn : g.nxt = none) : g.active = false := by
  unfold Reg.active; rw [hc, hn]; rfl

/-- inside `doSearch` … until `search = false` -/
def searchPc : Pc → Bool
  | .eBegin | .eGo | .esearch | .ehold _ | .ebest _ | .estop | .eack | .ecollect | .ecwait | .epost | .eend => true
  | _ => false

/-- after `finishSearch` of the current search -/
def postBest : Pc → Bool
  | .estop | .eack | .ecollect | .ecwait | .epost | .eend => true
  | _ => false

/-- the protocol thread is in the middle of a request: it still owes the engine thread a notify -/
def PN (r : Fin n) (s : St n) : Prop := Out.notify r ∈ s.pOut ∨ s.quitF.nxt ≠ none ∨ s.search.nxt ≠ none

/-- what the engine thread may rely on at each point of its main loop when its flag is clear and no request is in progress -/
def need (s : St n) : Pc → Prop
  | .ewait => s.quitF.cur = false ∧ s.search.cur = false ∧ s.pend = false ∧ s.optsFin = true
  | .eQ1 => s.quitF.cur = true → s.quitF.seenF = false
  | .eOpts1 => s.quitF.cur = false
  | .eS0 => s.quitF.cur = false ∧ s.pend = false ∧ s.optsFin = true
  | .eS1 => s.quitF.cur = false ∧ s.pend = false ∧ s.optsFin = true ∧ (s.search.cur = true → s.search.seenF = false)
  | .eend => s.pend = false ∧ s.optsFin = true
  | _ => True

/-- `r1q`, `r1s`: the protocol thread only stores `true` to `quitFlag` / `search`.  `excl`: search and quit are never
    requested together.  `s1`, `q1`: inside `doSearch` the search flag is (being) set, after the main loop the quit flag.
    `r4`, `r5`: a lock-free load that may return `true` saw a flag that is (being) set.  `b1`: `go`s exceed best moves
    by one exactly while a requested search has not run `finishSearch`.  `ne`: with its notifier flag clear and no
    request in progress the engine thread has missed nothing. -/
structure G3 (r : Fin n) (s : St n) : Prop where
  r1q : s.quitF.nxt ≠ some false
  r1s : s.search.nxt ≠ some false
  excl : ¬ (s.quitF.active = true ∧ s.search.active = true)
  s1 : searchPc (s.pc r) = true → s.search.active = true
  q1 : quitPc (s.pc r) = true → s.quitF.active = true
  r4 : s.quitF.seenT = true → s.quitF.active = true
  r5 : s.pc r = .eS1 → s.search.seenT = true → s.search.active = true
  b1 : s.goCount = s.bmCount + (if s.search.active && !postBest (s.pc r) then 1 else 0)
  ne : s.flag r = false → ¬ PN r s → need s (s.pc r)

theorem need_congr {s s' : St n} (hq : s'.quitF = s.quitF) (hs : s'.search = s.search) (hpe : s'.pend = s.pend)
    (hof : s'.optsFin = s.optsFin) (p : Pc) (h : need s p) : need s' p := by
  unfold need at h ⊢
  rw [hq, hs, hpe, hof]
  exact h

theorem G3.need_at {r : Fin n} {s : St n} (h : G3 r s) {y : Pc} (hy : s.pc r = y) (hf : s.flag r = false)
    (hpn : ¬ PN r s) : need s y := hy ▸ h.ne hf hpn

theorem G3.b1_at {r : Fin n} {s : St n} (h : G3 r s) {y : Pc} (hy : s.pc r = y) :
    s.goCount = s.bmCount + (if s.search.active && !postBest y then 1 else 0) := hy ▸ h.b1

theorem G3.of_pc {r : Fin n} {s : St n} {x : Pc} (hx : s.pc r = x) (r1q : s.quitF.nxt ≠ some false)
    (r1s : s.search.nxt ≠ some false) (excl : ¬ (s.quitF.active = true ∧ s.search.active = true))
    (s1 : searchPc x = true → s.search.active = true) (q1 : quitPc x = true → s.quitF.active = true)
    (r4 : s.quitF.seenT = true → s.quitF.active = true)
    (r5 : x = .eS1 → s.search.seenT = true → s.search.active = true)
    (b1 : s.goCount = s.bmCount + (if s.search.active && !postBest x then 1 else 0))
    (ne : s.flag r = false → ¬ PN r s → need s x) : G3 r s := by
  subst hx; exact ⟨r1q, r1s, excl, s1, q1, r4, r5, b1, ne⟩

/-- the engine thread goes from `y` to `x` (or another thread moves and `x = y`).  `c5`: the best-move counter stays
    with the phase, or the best move of the running search is counted on passing `finishSearch`. -/
theorem G3.move {r : Fin n} {s s' : St n} (h : G3 r s) {y x : Pc} (hy : s.pc r = y) (hx : s'.pc r = x)
    (hreg : (s'.quitF.cur, s'.quitF.nxt, s'.search.cur, s'.search.nxt, s'.goCount) =
            (s.quitF.cur, s.quitF.nxt, s.search.cur, s.search.nxt, s.goCount))
    (c1 : searchPc x = true → s.search.active = true) (c2 : quitPc x = true → s.quitF.active = true)
    (c3 : s'.quitF.seenT = true → s.quitF.active = true)
    (c4 : x = .eS1 → s'.search.seenT = true → s.search.active = true)
    (c5 : (s'.bmCount = s.bmCount ∧ postBest x = postBest y) ∨
          (s'.bmCount = s.bmCount + 1 ∧ s.search.active = true ∧ postBest y = false ∧ postBest x = true))
    (c6 : s'.flag r = false → ¬ PN r s' → need s' x) : G3 r s' := by
  simp only [Prod.mk.injEq] at hreg
  obtain ⟨q1, q2, s1, s2, hg⟩ := hreg
  have hqa : s'.quitF.active = s.quitF.active := by unfold Reg.active; rw [q1, q2]
  have hsa : s'.search.active = s.search.active := by unfold Reg.active; rw [s1, s2]
  have b1 := h.b1_at hy
  refine G3.of_pc hx ?_ ?_ ?_ ?_ ?_ ?_ ?_ ?_ c6
  · rw [q2]; exact h.r1q
  · rw [s2]; exact h.r1s
  · rw [hqa, hsa]; exact h.excl
  · rw [hsa]; exact c1
  · rw [hqa]; exact c2
  · rw [hqa]; exact c3
  · rw [hsa]; exact c4
  · rw [hsa, hg]
    rcases c5 with ⟨hb, c⟩ | ⟨hb, ha, cy, cx⟩
    · rw [hb, c]; exact b1
    · rw [ha, cy] at b1; rw [hb, ha, cx]; exact b1

def G3.regs (s : St n) := (s.quitF, s.search, s.goCount, s.bmCount)

/-- `G3.regs` and what only `need` and `PN` read -/
def G3.view (s : St n) := (G3.regs s, s.pend, s.optsFin, s.pOut)

def G3.phase (p : Pc) := (searchPc p, quitPc p, postBest p, decide (p = .eS1))

theorem G3.stay {r : Fin n} {s s' : St n} (h : G3 r s) {y x : Pc} (hy : s.pc r = y) (hx : s'.pc r = x)
    (hreg : G3.regs s' = G3.regs s) (hph : G3.phase x = G3.phase y)
    (c6 : s'.flag r = false → ¬ PN r s' → need s' x) : G3 r s' := by
  simp only [G3.regs, G3.phase, Prod.mk.injEq] at hreg hph
  obtain ⟨hq, hs, hg, hb⟩ := hreg
  obtain ⟨p1, p2, p3, p4⟩ := hph
  subst hy
  refine h.move rfl hx ?_ ?_ ?_ ?_ ?_ (.inl ⟨hb, p3⟩) c6
  · rw [hq, hs, hg]
  · rw [p1]; exact h.s1
  · rw [p2]; exact h.q1
  · rw [hq]; exact h.r4
  · rw [hs]; exact fun e => h.r5 (of_decide_eq_true (p4 ▸ decide_eq_true e))

/-- steps of other threads: nothing `G3` reads changes, except that the root's flag may get set -/
theorem G3.frame {r : Fin n} {s s' : St n} (h : G3 r s)
    (hpc : s'.pc r = s.pc r) (hf : s'.flag r = s.flag r ∨ s'.flag r = true) (hv : G3.view s' = G3.view s) : G3 r s' := by
  simp only [G3.view, Prod.mk.injEq] at hv
  obtain ⟨hreg, hpe, hof, hpo⟩ := hv
  refine h.stay rfl hpc hreg rfl (fun hfl hpn => ?_)
  simp only [G3.regs, Prod.mk.injEq] at hreg
  refine need_congr hreg.1 hreg.2.1 hpe hof _ (h.ne ?_ ?_)
  · rcases hf with e | e
    · rw [← e]; exact hfl
    · rw [e] at hfl; cases hfl
  · unfold PN at hpn ⊢; rw [hpo, hreg.1, hreg.2.1] at hpn; exact hpn

end Conc
