import TexelVerif.Conc.InvG6
import TexelVerif.Conc.StepG3
/-! Every step preserves `G6`, given `G1`, `G4` and, where the protocol thread starts a new search, `G3`. -/
namespace Conc

variable {n : Nat}

theorem actPc_not_round {p : Pc} (h : actPc p = true) : roundPc p = false := by
  cases p <;> simp [actPc] at h <;> rfl

theorem job_not_passed {r : Fin n} {s : St n} (h1 : G1 r s) (h4 : G4 r s) {v : Fin n} (hv : s.alive v = true) (hvr : v ≠ r)
    (hjob : s.jobId v ≠ none) :
    NotPassed r s v := by
  have hact : act s v = true := by
    unfold act
    cases hj : s.jobId v with
    | none => exact absurd hj hjob
    | some j => simp
  rcases h4.a v hv hvr hact with e | e | e
  · exact absurd (h4.j1 v hv hvr e) hjob
  · refine ⟨Or.inl e, fun p hc => ?_⟩
    have hnr : inRound s r = false := h1.root_not_inRound (actPc_not_round e)
    have := h1.quiescent_edge hnr hc
    unfold ackIn; omega
  · refine ⟨Or.inr e, fun p hc => ?_⟩
    cases hk : ackIn s p v with
    | zero => rfl
    | succ k => have := h4.gZ2 p v hc (by omega); omega

theorem G6.stop_handler {r : Fin n} {s s' : St n} (h : G6 r s) (v : Fin n) (rest : List (Cmd n))
    (va : s.alive v = true) (hne : v ≠ r) (hq : s.q v = Cmd.stop :: rest)
    (hk : (s'.alive, s'.parent, s'.epoch, s'.jobEp, s'.pc) = (s.alive, s.parent, s.epoch, s.jobEp, s.pc))
    (hg : s'.gen = upd s.gen v (s.gen v + 1)) (hq' : s'.q = upd s.q v rest)
    (ho' : s'.out = upd s.out v (Out.notify v :: bcast s v .stop))
    (hsw : s'.selfWait = upd s.selfWait v true) (hcw : s'.childWait = upd s.childWait v (nChildren s v))
    (hj : s'.jobId = upd s.jobId v none) : G6 r s' := by
  simp only [Prod.mk.injEq] at hk
  obtain ⟨ha, hp, hep, hje, hpc⟩ := hk
  have hgr : s'.gen r = s.gen r := eq_upd_other hg (fun e => hne e.symm)
  have hactR : actR s' r = actR s r := by unfold actR; rw [hpc]
  obtain ⟨hirv, hiro⟩ := inRound_upd hsw hcw
  refine h.local v va (.inr ⟨_, hq⟩) ha hp hep hq' ho' hj (hje.trans (upd_keep _ _))
    (fun t e j hm => by cases mem_stop_bcast hm) (fun t src e j hm => by cases mem_stop_bcast hm)
    (fun _ hjb => absurd rfl hjb) ?_ (fun w hwv _ _ a => by rw [hactR, hgr, eq_upd_other hg hwv]; exact a) ?_
  · intro _ hpo; rw [hasPReport_stop_bcast] at hpo; cases hpo
  · intro p src hc hrf
    by_cases hsv : src = v
    · subst hsv; exact .inr (.inr (.inr (.inl hirv)))
    · by_cases hpv : p = v
      · subst hpv
        refine .inr (.inr (.inl ?_))
        unfold stopIn; rw [ho', upd_same, pStop_stop_bcast]; simp [hc]
      · rw [upd_other _ _ _ _ hpv] at hrf
        rw [hactR, hgr, eq_upd_other hg hsv, stopIn_congr (eq_upd_other hq' hsv) (eq_upd_other ho' hpv), hiro src hsv,
          ackIn_congr (eq_upd_other hq' hpv) (eq_upd_other ho' hsv)]
        exact h.rp p src hc hrf

/-- `b`: `v` thereby completes its round and sets the ack to its parent pending -/
theorem G6.ack_step {r : Fin n} {s s' : St n} (h : G6 r s) (v : Fin n) (va : s.alive v = true)
    {ql : List (Cmd n)} {sw : Bool} {cw : Nat} {b : Prop} [Decidable b] (hout : s.out v = [])
    (hk : (s'.alive, s'.parent, s'.gen, s'.epoch, s'.jobId, s'.jobEp) = (s.alive, s.parent, s.gen, s.epoch, s.jobId, s.jobEp))
    (hq' : s'.q = upd s.q v ql) (ho' : s'.out = upd s.out v (if b then toParent s v (Cmd.ack v) else []))
    (hsw : s'.selfWait = upd s.selfWait v sw) (hcw : s'.childWait = upd s.childWait v cw)
    (hql : ql = s.q v ∨ ∃ c, s.q v = c :: ql ∧ c ≠ Cmd.stop)
    (hkeep : ∀ p, isChild s p v = true → sw = true ∨ 0 < cw ∨ b)
    (hR : actR s r = true → actR s' r = true) : G6 r s' := by
  simp only [Prod.mk.injEq] at hk
  obtain ⟨ha, hp, hg, hep, hj, hje⟩ := hk
  have hql' : ql = s.q v ∨ ∃ c, s.q v = c :: ql := hql.imp_right fun ⟨c, e, _⟩ => ⟨c, e⟩
  obtain ⟨_, hmem, _, hrep⟩ := pop_sub (h.ord v va) hql'
  have c1 : cStop ql = cStop (s.q v) := by
    rcases hql with e | ⟨c, e, hc⟩
    · rw [e]
    · rw [e, cStop_cons, if_neg hc]; rfl
  have hcmd : ∀ t c, Out.enq t c ∈ (if b then toParent s v (Cmd.ack v) else []) → c = Cmd.ack v := by
    intro t c hm
    split at hm
    · exact mem_toParent hm
    · cases hm
  obtain ⟨hirv, hiro⟩ := inRound_upd hsw hcw
  have c3 : ∀ d, pStop (if b then toParent s v (Cmd.ack v) else []) d = pStop (s.out v) d := fun d => by
    rw [hout]; exact List.count_eq_zero.2 (fun hm => by cases hcmd _ _ hm)
  have hsi : ∀ p w, stopIn s' p w = stopIn s p w := fun p w => by
    unfold stopIn; rw [hq', ho', upd_congr_at cStop c1 w, upd_congr_at (pStop · w) (c3 w) p]
  refine h.local v va hql' ha hp hep hq' ho' (hj.trans (upd_keep _ _)) (hje.trans (upd_keep _ _))
    (fun t e j hm => by cases hcmd _ _ hm) (fun t src e j hm => by cases hcmd _ _ hm) (h.e5 v va) ?_
    (fun w _ _ _ a => by rw [hg]; exact a.imp_left hR) ?_
  · intro _ hpo
    obtain ⟨t, src, e, j, hm⟩ := mem_of_hasPReport hpo
    cases hcmd _ _ hm
  · intro p src hc hrf
    rw [hg, hsi]
    by_cases hsv : src = v
    · subst hsv
      rcases hkeep p hc with e | e | e
      · exact .inr (.inr (.inr (.inl (by rw [hirv, e]; rfl))))
      · exact .inr (.inr (.inr (.inl (by rw [hirv]; simp [e]))))
      · refine .inr (.inr (.inr (.inr ?_)))
        unfold ackIn; rw [ho', upd_same, if_pos e]; simp [toParent, ((isChild_iff s p src).1 hc).2, pAck]
    · have hae : ackIn s' p src = ackIn s p src := by
        unfold ackIn; rw [hq', ho', upd_other _ _ _ _ hsv]
        by_cases hpv : p = v
        · subst hpv; rw [upd_same] at hrf ⊢; rw [hrep src hrf]
        · rw [upd_other _ _ _ _ hpv]
      rw [hiro src hsv, hae]
      exact (h.rp p src hc (hasReportFrom_upd_sub hmem hrf)).imp_left hR

/-- `sendStopSearch` at the root: every helper becomes one the stop wave has not passed yet -/
theorem G6.root_stop {r : Fin n} {s s' : St n} (h1 : G1 r s) (h4g : G4 r s) (h : G6 r s) (hnr : inRound s r = false)
    (hk : (s'.alive, s'.parent, s'.epoch, s'.q, s'.jobId, s'.jobEp) = (s.alive, s.parent, s.epoch, s.q, s.jobId, s.jobEp))
    (hg : s'.gen = upd s.gen r (s.gen r + 1)) (ho' : s'.out = upd s.out r (Out.notify r :: bcast s r .stop)) : G6 r s' := by
  simp only [Prod.mk.injEq] at hk
  obtain ⟨ha, hp, hep, hq', hj, hje⟩ := hk
  have hold : ∀ w, s.alive w = true → w ≠ r → s'.gen w + 1 = s'.gen r := by
    intro w hw hwr; rw [hg, upd_same, upd_other _ _ _ _ hwr, h4g.all_new h1 hnr w hw]
  refine h.local r h1.rootAlive (.inl rfl) ha hp hep (hq'.trans (upd_keep _ _)) ho' (hj.trans (upd_keep _ _))
    (hje.trans (upd_keep _ _)) (fun t e j hm => by cases mem_stop_bcast hm) (fun t src e j hm => by cases mem_stop_bcast hm)
    (fun hne => absurd rfl hne) (fun hne => absurd rfl hne) (fun w _ hw hwr _ => .inr (hold w hw hwr)) ?_
  intro p src hc _
  exact .inr (.inl (hold src ((isChild_iff s p src).1 hc).1 (h1.child_ne_root hc)))

theorem handleW_G6 {r : Fin n} {s : St n} (h1 : G1 r s) (h4 : G4 r s) (h : G6 r s) (v : Fin n) (c : Cmd n) (rest : List (Cmd n))
    (va : s.alive v = true) (hne : v ≠ r) (hq : s.q v = c :: rest) (hout : s.out v = []) :
    G6 r (handleW { s with q := upd s.q v rest } v c) := by
  have hhead : c ∈ s.q v := by rw [hq]; exact List.mem_cons_self
  cases c with simp only [handleW]
  | stop => exact h.stop_handler v rest va hne hq rfl (hg := rfl) (hq' := rfl) (ho' := rfl) (hsw := rfl) (hcw := rfl) (hj := rfl)
  | ack d =>
    refine h.ack_step v va hout rfl (hq' := rfl) (ho' := rfl) (hsw := upd_keep _ _) (hcw := rfl) (.inr ⟨_, hq, nofun⟩) ?_ id
    intro p _
    by_cases hsw : s.selfWait v = true
    · exact .inl hsw
    · by_cases hz : s.childWait v - 1 = 0
      · exact .inr (.inr ⟨Bool.eq_false_iff.2 hsw, hz⟩)
      · exact .inr (.inl (Nat.pos_of_ne_zero hz))
  | init =>
    refine h.emit v va hout (.inr ⟨_, hq, nofun, fun _ => nofun⟩) rfl (hq := rfl) (ho := rfl) (hj := rfl) (hje := upd_keep _ _) ?_ (fun _ hjb => absurd rfl hjb) id
    intro t x hm; cases mem_bcast_cmd hm; trivial
  | start e j =>
    have hee : e = s.epoch := h.e1 v e j va hhead
    refine h.emit v va hout (.inr ⟨_, hq, nofun, fun _ => nofun⟩) rfl (hq := rfl) (ho := rfl) (hj := rfl) (hje := rfl) ?_ (fun _ _ => hee) id
    intro t x hm; cases mem_bcast_cmd hm; exact hee
  | quit =>
    split
    · refine h.emit_same_job v va hout (.inr ⟨_, hq, nofun, fun _ => nofun⟩) rfl (hq := rfl) (ho := rfl) ?_ id
      intro t x hm; cases mem_toParent hm; trivial
    · refine h.emit_same_job v va hout (.inr ⟨_, hq, nofun, fun _ => nofun⟩) rfl (hq := rfl) (ho := rfl) ?_ id
      intro t x hm; cases mem_bcast_cmd hm; trivial
  | report src e j =>
    split
    · rename_i hfw
      refine h.emit_same_job v va hout (.inr ⟨_, hq, nofun, fun _ => nofun⟩) rfl (hq := rfl) (ho := rfl) ?_ id
      intro t x hm; cases mem_toParent hm
      exact ⟨h.e3 v src e j va hhead, job_not_passed h1 h4 va hne (by rw [hfw.2]; nofun)⟩
    · refine h.emit_same_job v va hout (.inr ⟨_, hq, nofun, fun _ => nofun⟩) rfl (hq := rfl) (ho := upd_keep _ _) ?_ id
      intro t x hm; rw [hout] at hm; cases hm
  | quitAck src =>
    refine h.emit_same_job v va hout (.inr ⟨_, hq, nofun, fun _ => nofun⟩) rfl (hq := rfl) (ho := rfl) ?_ id
    intro t x hm
    split at hm
    · cases mem_toParent hm; trivial
    · cases hm

theorem G6.send {r : Fin n} {s : St n} (h1 : G1 r s) (h : G6 r s) (v t : Fin n) (c : Cmd n) (va : s.alive v = true)
    (hmo : Out.enq t c ∈ s.out v) :
    G6 r { s with q := upd s.q t (pushCmd (s.q t) c), out := upd s.out v ((s.out v).erase (Out.enq t c)) } := by
  have hparts := fun p d (hc : isChild s p d = true) =>
    send_parts (s' := { s with q := upd s.q t (pushCmd (s.q t) c), out := upd s.out v ((s.out v).erase (Out.enq t c)) }) h1 va hmo rfl rfl hc
  -- a report being sent comes from `v` itself
  have hsrc : ∀ src e j, c = Cmd.report src e j →
      src = v ∧ (actR s r = true ∨ s.gen v + 1 = s.gen r) ∧ ackIn s t v = 0 := by
    intro src e j hc; subst hc
    rcases h1.outOk v _ va hmo with ⟨_, hdown⟩ | ⟨hpar, hment⟩
    · cases hdown
    · have hvr : v ≠ r := by intro e; rw [e, h1.rootPar] at hpar; cases hpar
      obtain ⟨a1, a2⟩ := h.pr v va hvr (hasPReport_of_mem hmo)
      exact ⟨by simpa [mentions] using hment, a1, a2 t ((isChild_iff s t v).2 ⟨va, hpar⟩)⟩
  refine ⟨?_, ?_, ?_, ?_, ?_, ?_, ?_, h.e5⟩
  · intro p hpa
    show okOrder (upd s.q t (pushCmd (s.q t) c) p) = true
    by_cases hpt : p = t
    · subst hpt; rw [upd_same]
      refine okOrder_pushCmd _ _ (h.ord p hpa) (fun src hs hm => ?_)
      obtain ⟨e, j, hc⟩ := Cmd.eq_of_isReportFrom hs
      obtain ⟨rfl, _, hz⟩ := hsrc src e j hc
      unfold ackIn cAck at hz
      exact List.count_eq_zero.1 (by omega) hm
    · rw [upd_other _ _ _ _ hpt]; exact h.ord p hpa
  · intro w hw hwr hpo
    obtain ⟨t', src, e, j, hm⟩ := mem_of_hasPReport hpo
    obtain ⟨a1, a2⟩ := h.pr w hw hwr (hasPReport_of_mem (mem_upd_erase hm))
    exact ⟨a1, fun p hc => by rw [(hparts p w hc).2]; exact a2 p hc⟩
  · intro p src hc hrf
    rw [(hparts p src hc).1, (hparts p src hc).2]
    obtain ⟨e, j, hm⟩ := mem_of_hasReportFrom hrf
    rcases mem_upd_push hm with k | ⟨_, k⟩
    · exact h.rp p src hc (hasReportFrom_of_mem k)
    · obtain ⟨rfl, a, _⟩ := hsrc src e j k.symm
      exact a.elim .inl (fun b => .inr (.inl b))
  · intro w e j hw hm
    rcases mem_upd_push hm with k | ⟨rfl, rfl⟩
    · exact h.e1 w e j hw k
    · exact h.e2 v _ e j va hmo
  · intro w t' e j hw hm; exact h.e2 w t' e j hw (mem_upd_erase hm)
  · intro w src e j hw hm
    rcases mem_upd_push hm with k | ⟨rfl, rfl⟩
    · exact h.e3 w src e j hw k
    · exact h.e4 v _ src e j va hmo
  · intro w t' src e j hw hm; exact h.e4 w t' src e j hw (mem_upd_erase hm)

/-- when the root is neither searching nor in a round nothing tagged with an epoch exists -/
theorem G6.idle_clean {r : Fin n} {s : St n} (h1 : G1 r s) (h4 : G4 r s) (h : G6 r s) (hnr : inRound s r = false) (hna : actR s r = false) :
    (∀ v e j, s.alive v = true → Cmd.start e j ∉ s.q v) ∧
    (∀ v t e j, s.alive v = true → Out.enq t (Cmd.start e j) ∉ s.out v) ∧
    (∀ v src e j, s.alive v = true → Cmd.report src e j ∉ s.q v) ∧
    (∀ v t src e j, s.alive v = true → Out.enq t (Cmd.report src e j) ∉ s.out v) ∧
    (∀ v, s.alive v = true → v ≠ r → s.jobId v = none) := by
  have hsplit : ∀ v, s.alive v = true → v ≠ r →
      (s.jobId v).isSome = false ∧ hasStart (s.q v) = false ∧ hasPStart (s.out v) = false := by
    intro v hv hvr
    have := h4.idle h1 hnr hna v hv hvr
    unfold act at this
    simp only [Bool.or_eq_false_iff] at this
    exact ⟨this.1.1.1, this.1.2, this.2⟩
  refine ⟨?_, ?_, ?_, ?_, ?_⟩
  · intro v e j hv hm
    by_cases hvr : v = r
    · subst hvr; exact h1.qOk v _ hv hm rfl
    · exact List.any_eq_false.1 (hsplit v hv hvr).2.1 _ hm rfl
  · intro v t e j hv hm
    have hps : hasPStart (s.out v) = true := hasPStart_of_mem hm rfl
    by_cases hvr : v = r
    · subst hvr
      have := h1.rootStart hps
      unfold actR at hna; rw [this] at hna; cases hna
    · rw [(hsplit v hv hvr).2.2] at hps; cases hps
  · intro v src e j hv hm
    have hc : isChild s v src = true := h1.qOk v _ hv hm
    have hsa : s.alive src = true := ((isChild_iff s v src).1 hc).1
    have hq := h1.quiescent_edge hnr hc
    have hnew := h4.all_new h1 hnr src hsa
    rcases h.rp v src hc (hasReportFrom_of_mem hm) with a | a | a | a | a
    · rw [hna] at a; cases a
    · omega
    · unfold stopIn at a; omega
    · rw [hq.2.2.1] at a; cases a
    · unfold ackIn at a; omega
  · intro v t src e j hv hm
    by_cases hvr : v = r
    · subst hvr
      rcases h1.outOk v _ hv hm with ⟨_, hd⟩ | ⟨hp, _⟩
      · cases hd
      · rw [h1.rootPar] at hp; cases hp
    · obtain ⟨a1, _⟩ := h.pr v hv hvr (hasPReport_of_mem hm)
      rcases a1 with a | a
      · rw [hna] at a; cases a
      · have := h4.all_new h1 hnr v hv; omega
  · intro v hv hvr
    have := (hsplit v hv hvr).1
    cases hj : s.jobId v
    · rfl
    · rw [hj] at this; cases this

theorem searchPc_of_roundPc {p : Pc} (h : roundPc p = true) : searchPc p = true := by
  cases p <;> first | rfl | cases h

theorem searchPc_of_actPc {p : Pc} (h : actPc p = true) : searchPc p = true := by
  cases p <;> first | rfl | cases h

theorem searchPc_of_mainLoop {p : Pc} (h : mainLoopPc p = true) : searchPc p = false := by
  cases p <;> first | rfl | cases h

/-- outside `doSearch`, and at its last two points, the engine thread is neither in a stop round nor searching -/
theorem quiet_pc {p : Pc} (h : searchPc p = false ∨ p = .epost ∨ p = .eend) : roundPc p = false ∧ actPc p = false := by
  rcases h with h | rfl | rfl
  · exact ⟨Bool.eq_false_iff.2 fun hh => (by rw [searchPc_of_roundPc hh] at h; cases h),
      Bool.eq_false_iff.2 fun hh => (by rw [searchPc_of_actPc hh] at h; cases h)⟩
  · exact ⟨rfl, rfl⟩
  · exact ⟨rfl, rfl⟩

/-- while nothing carries an epoch, the epoch may change -/
theorem G6.epoch_bump {r : Fin n} {s : St n} (h1 : G1 r s) (h3 : G3 r s) (h4 : G4 r s) (h : G6 r s)
    (hinact : s.search.cur = false ∧ s.search.nxt = none) (e : Nat) : G6 r { s with epoch := e } := by
  have hns : searchPc (s.pc r) = false := by
    cases hh : searchPc (s.pc r)
    · rfl
    · have := h3.s1 hh; simp [Reg.active, hinact.1, hinact.2] at this
  obtain ⟨hnr, hna⟩ := quiet_pc (.inl hns)
  obtain ⟨k1, k2, k3, k4, k5⟩ := h.idle_clean h1 h4 (h1.root_not_inRound hnr) hna
  exact ⟨h.ord, h.pr, h.rp, fun v e j hv hm => absurd hm (k1 v e j hv), fun v t e j hv hm => absurd hm (k2 v t e j hv),
    fun v src e j hv hm => absurd hm (k3 v src e j hv), fun v t src e j hv hm => absurd hm (k4 v t src e j hv),
    fun v hv hne hjn => absurd (k5 v hv hne) hjn⟩

theorem actR_upd {r v : Fin n} {s s' : St n} {x : Pc} (hpc : s'.pc = upd s.pc v x)
    (h : v ≠ r ∨ actPc (s.pc v) = false ∨ actPc x = true) (hh : actR s r = true) : actR s' r = true := by
  unfold actR at hh ⊢
  rw [hpc]
  by_cases hrv : r = v
  · subst hrv; rw [upd_same]
    rcases h with e | e | e
    · exact absurd rfl e
    · rw [e] at hh; cases hh
    · exact e
  · rw [upd_other _ _ _ _ hrv]; exact hh

theorem not_mem_toParent_ack_start (s : St n) (v t : Fin n) (e j : Nat) : Out.enq t (Cmd.start e j) ∉ toParent s v (Cmd.ack v) := by
  intro hm; cases mem_toParent hm

theorem hasReportFrom_tail' {c : Cmd n} {rest : List (Cmd n)} {src : Fin n} (h : hasReportFrom rest src = true) :
    hasReportFrom (c :: rest) src = true := by
  unfold hasReportFrom at h ⊢; rw [List.any_cons, h, Bool.or_true]

/-- a pop by the engine thread: only a STOP_ACK touches a counter `G6` reads -/
theorem G6.root_pop {r : Fin n} {s s' : St n} (h1 : G1 r s) (h : G6 r s) {c : Cmd n} {rest : List (Cmd n)}
    (hq : s.q r = c :: rest) (hout : s.out r = []) {cw : Nat}
    (hk : (s'.alive, s'.parent, s'.gen, s'.epoch, s'.out, s'.selfWait, s'.jobId, s'.jobEp, s'.pc) =
      (s.alive, s.parent, s.gen, s.epoch, s.out, s.selfWait, s.jobId, s.jobEp, s.pc))
    (hq' : s'.q = upd s.q r rest) (h4 : s'.childWait = upd s.childWait r cw) : G6 r s' := by
  simp only [Prod.mk.injEq] at hk
  obtain ⟨ha, hp, hg, hep, ho, h3, hj, hje, hpc⟩ := hk
  refine h.ack_step r h1.rootAlive (b := False) hout (by rw [ha, hp, hg, hep, hj, hje]) hq' (ho.trans (hout ▸ upd_keep _ _))
    (h3.trans (upd_keep _ _)) h4 (.inr ⟨_, hq, (h1.root_head hq).1⟩) (fun p hc => absurd rfl (h1.child_ne_root hc)) ?_
  intro hh; unfold actR at hh ⊢; rw [hpc]; exact hh

theorem G6.spawn {r : Fin n} {s s' : St n} (h : G6 r s) (v p0 : Fin n)
    (hvr : v ≠ r) (hqv : s.q v = []) (hov : s.out v = []) (hqp : s.q p0 = [])
    (hk : (s'.epoch, s'.q, s'.out, s'.jobEp) = (s.epoch, s.q, s.out, s.jobEp))
    (ha : s'.alive = upd s.alive v true) (hp : s'.parent = upd s.parent v (some p0))
    (hg : s'.gen = upd s.gen v (s.gen p0)) (hsw : s'.selfWait = upd s.selfWait v false)
    (hcw : s'.childWait = upd s.childWait v 0) (hj : s'.jobId = upd s.jobId v none) (hpc : s'.pc = upd s.pc v .wait) :
    G6 r s' := by
  simp only [Prod.mk.injEq] at hk
  obtain ⟨hep, hq, ho, hje⟩ := hk
  have hrv : r ≠ v := fun e => hvr e.symm
  have hgr : s'.gen r = s.gen r := eq_upd_other hg hrv
  have hsi : ∀ a b, stopIn s' a b = stopIn s a b := by intro a b; unfold stopIn; rw [hq, ho]
  have hai : ∀ a b, ackIn s' a b = ackIn s a b := by intro a b; unfold ackIn; rw [hq, ho]
  have hactR : actR s' r = actR s r := by unfold actR; rw [hpc, upd_other _ _ _ _ hrv]
  -- a thread with a queued command or a pending action is not the new one
  have hqm : ∀ {w : Fin n} {x : Cmd n}, x ∈ s.q w → w ≠ v := by intro w x hm e; rw [e, hqv] at hm; cases hm
  have hom : ∀ {w : Fin n} {x : Out n}, x ∈ s.out w → w ≠ v := by intro w x hm e; rw [e, hov] at hm; cases hm
  refine ⟨?_, ?_, ?_, ?_, ?_, ?_, ?_, ?_⟩
  · intro p hpa; rw [hq]
    by_cases hpv : p = v
    · rw [hpv, hqv]; rfl
    · exact h.ord p (alive_spawn_other ha hpv hpa)
  · intro w hw hwr hpr; rw [ho] at hpr
    obtain ⟨t, src, e, j, hm⟩ := mem_of_hasPReport hpr
    have hwv := hom hm
    obtain ⟨a1, a2⟩ := h.pr w (alive_spawn_other ha hwv hw) hwr hpr
    refine ⟨by rw [hactR, hgr, eq_upd_other hg hwv]; exact a1, fun p hc => ?_⟩
    rw [isChild_spawn_other ha hp p hwv] at hc; rw [hai]; exact a2 p hc
  · intro p src hc hrf; rw [hq] at hrf
    obtain ⟨e, j, hm⟩ := mem_of_hasReportFrom hrf
    have hsv : src ≠ v := by
      intro e; subst e
      rw [isChild_spawn_new hp hc, hqp] at hm; cases hm
    rw [isChild_spawn_other ha hp p hsv] at hc
    rw [hactR, hgr, eq_upd_other hg hsv, hsi, hai, (inRound_upd hsw hcw).2 src hsv]; exact h.rp p src hc hrf
  · intro w e j hw hm; rw [hq] at hm; rw [hep]; exact h.e1 w e j (alive_spawn_other ha (hqm hm) hw) hm
  · intro w t e j hw hm; rw [ho] at hm; rw [hep]; exact h.e2 w t e j (alive_spawn_other ha (hom hm) hw) hm
  · intro w src e j hw hm; rw [hq] at hm; rw [hep]; exact h.e3 w src e j (alive_spawn_other ha (hqm hm) hw) hm
  · intro w t src e j hw hm; rw [ho] at hm; rw [hep]; exact h.e4 w t src e j (alive_spawn_other ha (hom hm) hw) hm
  · intro w hw hwr hjn; rw [hj] at hjn; rw [hje, hep]
    by_cases hwv : w = v
    · rw [hwv, upd_same] at hjn; exact absurd rfl hjn
    · rw [upd_other _ _ _ _ hwv] at hjn; exact h.e5 w (alive_spawn_other ha hwv hw) hwr hjn

/-- every clause of `G6` speaks about live threads only -/
theorem G6.exit {r : Fin n} {s : St n} (h : G6 r s) (v : Fin n) : G6 r { s with alive := upd s.alive v false } := by
  have hal : ∀ w, upd s.alive v false w = true → s.alive w = true := fun w hw =>
    (alive_exit (s' := { s with alive := upd s.alive v false }) rfl hw).2
  have hic : ∀ a b, isChild { s with alive := upd s.alive v false } a b = true → isChild s a b = true := fun a b hc =>
    (isChild_exit hc rfl rfl).2
  refine ⟨fun p hpa => h.ord p (hal p hpa), ?_, fun p src hc hrf => h.rp p src (hic p src hc) hrf,
    fun w e j hw hm => h.e1 w e j (hal w hw) hm, fun w t e j hw hm => h.e2 w t e j (hal w hw) hm,
    fun w src e j hw hm => h.e3 w src e j (hal w hw) hm, fun w t src e j hw hm => h.e4 w t src e j (hal w hw) hm,
    fun w hw hwr hjn => h.e5 w (hal w hw) hwr hjn⟩
  intro w hw hwr hpr
  obtain ⟨a1, a2⟩ := h.pr w (hal w hw) hwr hpr
  exact ⟨a1, fun p hc => a2 p (hic p w hc)⟩

theorem init_G6 (r : Fin n) : G6 r (init r) := by
  exact ⟨fun _ _ => rfl, nofun, nofun, nofun, nofun, nofun, nofun, fun _ _ _ _ => rfl⟩

theorem step_G6 {r : Fin n} {s s' : St n} (h1 : G1 r s) (h3 : G3 r s) (h4 : G4 r s) (h : G6 r s) (e : Ev n)
    (hs : step r s e = some s') : G6 r s' := by
  have hra := h1.rootAlive
  cases step_Step hs with
  | pollS | resultDrop | pWaitStop | pWaitOpts => exact h
  | deqW v c rest va hout hq hpc =>
    have hne : v ≠ r := h1.worker_ne_root va (by rcases hpc with e | ⟨j, e⟩ <;> rw [e] <;> rfl)
    exact handleW_G6 h1 h4 h v c rest va hne hq hout
  | deqSearch v c rest va hout hq hpc =>
    obtain rfl := h1.root_pc va (by rw [hpc]; rfl)
    exact h.root_pop h1 hq hout rfl (hq' := rfl) (h4 := upd_keep _ _)
  | deqCollect v c rest va hout hq hpc | deqQuit v c rest va hout hq hpc =>
    obtain rfl := h1.root_pc va (by rw [hpc]; rfl)
    rcases handleE_eq { s with q := upd s.q v rest } v _ c with he | ⟨_, he⟩ | ⟨_, he⟩ <;> rw [he]
    · exact h.root_pop h1 hq hout rfl (hq' := rfl) (h4 := upd_keep _ _)
    · exact h.root_pop h1 hq hout rfl (hq' := rfl) (h4 := rfl)
    · exact h.root_pop h1 hq hout rfl (hq' := rfl) (h4 := upd_keep _ _)
  | waitRet v _ _ hwp =>
    exact h.frame rfl (actR_upd rfl (.inr (.inl (actPc_wait hwp))))
  -- the thread moves on from a point outside the engine thread's active phase
  | pollW v _ _ _ hpc | pollCollectWait v _ _ _ hpc | pollQuit v _ _ _ hpc | ackSelfW0 v _ _ hpc | leaveStop v j _ _ hpc
  | tend v _ _ hpc | rdPreQuit _ hpc | rdPreSearch _ hpc | rdQuit b _ hpc | rdSearch b _ hpc | optsDone _ _ _ _ hpc
  | optsDonePost _ _ _ _ hpc | eBegin _ hpc | eSearchEnd _ hpc | eQuitSend0 _ hpc =>
    exact h.frame rfl (actR_upd rfl (.inr (.inl (congrArg actPc hpc))))
  | eSearchDone => exact h.frame rfl (actR_upd rfl (.inr (.inr rfl)))
  | eHoldDone ws _ _ _ hpc =>
    refine h.frame rfl (actR_upd rfl (.inr ?_))
    cases ws
    · exact .inl (by rcases hpc with ⟨e, _⟩ | e <;> rw [e] <;> rfl)
    · exact .inr rfl
  | eBest ws _ hpc =>
    refine h.frame rfl (actR_upd rfl (.inr ?_))
    cases ws
    · exact .inl (by rw [hpc]; rfl)
    · exact .inr rfl
  | pollCollectDone v va hout _ hpc =>
    exact h.emit_same_job v va hout (.inl rfl) rfl (hq := upd_keep _ _) (ho := rfl) (fun t c hm => by simp at hm) (actR_upd rfl (.inr (.inl (congrArg actPc hpc))))
  | eQuitSendN hout hpc =>
    refine h.emit_same_job r hra hout (.inl rfl) rfl (hq := upd_keep _ _) (ho := rfl) ?_ (actR_upd rfl (.inr (.inl (congrArg actPc hpc))))
    intro t c hm; cases mem_bcast_cmd hm; trivial
  | eInit hout =>
    refine h.emit_same_job r hra hout (.inl rfl) rfl (hq := upd_keep _ _) (ho := rfl) ?_ (actR_upd rfl (.inr (.inr rfl)))
    intro t c hm; cases mem_bcast_cmd hm; trivial
  | eJobNext hout =>
    refine h.emit_same_job r hra hout (.inl rfl) rfl (hq := upd_keep _ _) (ho := rfl) ?_ id
    intro t c hm; cases mem_bcast_cmd hm; exact rfl
  | resultFwd v j va hout hpc _ hjob =>
    have hne : v ≠ r := h1.worker_ne_root va (by rw [hpc]; rfl)
    have hjn : s.jobId v ≠ none := by rw [hjob]; simp
    refine h.emit_same_job v va hout (.inl rfl) rfl (hq := upd_keep _ _) (ho := rfl) ?_ id
    intro t c hm; cases mem_toParent hm
    exact ⟨h.e5 v va hne hjn, job_not_passed h1 h4 va hne hjn⟩
  | leaveMax v j va hout hpc =>
    exact h.emit v va hout (.inl rfl) rfl (hq := upd_keep _ _) (ho := upd_keep _ _) (hj := rfl) (hje := upd_keep _ _)
      (fun t c hm => by rw [hout] at hm; cases hm) (fun _ hjb => absurd rfl hjb)
      (actR_upd rfl (.inr (.inl (congrArg actPc hpc))))
  | ackSelfW v va hout hpc =>
    refine h.ack_step v va hout rfl (hq' := upd_keep _ _) (ho' := rfl) (hsw := rfl) (hcw := upd_keep _ _) (.inl rfl) ?_ (actR_upd rfl (.inr (.inl (congrArg actPc hpc))))
    intro p _
    by_cases hz : s.childWait v = 0
    · exact .inr (.inr hz)
    · exact .inr (.inl (Nat.pos_of_ne_zero hz))
  | ackSelfE v va hout hpc =>
    exact h.ack_step v va (b := False) hout rfl (hq' := upd_keep _ _) (ho' := hout ▸ upd_keep _ _) (hsw := rfl)
      (hcw := upd_keep _ _) (.inl rfl)
      (fun p hc => absurd (h1.root_pc va (by rw [hpc]; rfl)) (h1.child_ne_root hc)) (actR_upd rfl (.inr (.inl (congrArg actPc hpc))))
  | eStopSend hout hpc =>
    exact h.root_stop h1 h4 (h1.root_not_inRound (by rw [hpc]; rfl)) rfl (hg := rfl) (ho' := rfl)
  | send v o va hmo =>
    cases o with unfold applyOut
    | enq t c => exact (h.send h1 v t c va hmo).frame rfl id
    | notify t =>
      refine h.neutral v va (.inl rfl) rfl (hq := upd_keep _ _) (ho := rfl) (hj := upd_keep _ _) (hje := upd_keep _ _) ?_ ?_ (fun hne hpo => h.pr v va hne (hasPReport_erase hpo))
        (fun t' e j hm => h.e2 v t' e j va (List.mem_of_mem_erase hm))
        (fun t' src e j hm => h.e4 v t' src e j va (List.mem_of_mem_erase hm)) (h.e5 v va) id
      · intro d; rw [pStop_erase]; simp
      · intro p d; rw [pAck_erase]; simp
  | spawn v p _ _ hvr _ hqv hov _ hqp =>
    exact h.spawn v p hvr hqv hov hqp rfl (ha := rfl) (hp := rfl) (hg := rfl) (hsw := rfl) (hcw := rfl) (hj := rfl) (hpc := rfl)
  | exit v => exact h.exit v
  | pWrSearch _ hsn hsc =>
    exact (h.epoch_bump h1 h3 h4 ⟨hsc, hsn⟩ (s.epoch + 1)).frame rfl id
  | _ => exact h.frame rfl id

theorem reach_G6 {r : Fin n} {s : St n} (h : Reach r s) : G6 r s := by
  induction h with
  | init => exact init_G6 r
  | step s s' e hr hs ih => exact step_G6 (reach_G1 hr) (reach_G3 hr) (reach_G4 hr) ih e hs

end Conc
