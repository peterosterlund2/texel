import TexelVerif.Conc.InvG2
/-! Every step preserves the notifier invariant `G2` (given the counting invariant `G1`). -/
namespace Conc

variable {n : Nat}

theorem any_erase {α : Type} [BEq α] [LawfulBEq α] {p : α → Bool} {l : List α} {o : α} (h : (l.erase o).any p = true) : l.any p = true := by
  rw [List.any_eq_true] at h ⊢
  obtain ⟨x, hx, hp⟩ := h
  exact ⟨x, List.mem_of_mem_erase hx, hp⟩

theorem any_isQuit_bcast (s : St n) (p : Fin n) (x : Cmd n) (hx : x.isQuit = false) : (bcast s p x).any Out.isQuit = false := by
  unfold bcast
  rw [List.any_eq_false]
  intro o ho
  obtain ⟨c, _, e⟩ := List.mem_map.1 ho
  subst e
  simp [Out.isQuit, hx]

theorem any_isQuit_toParent (s : St n) (v : Fin n) (x : Cmd n) (hx : x.isQuit = false) : (toParent s v x).any Out.isQuit = false := by
  unfold toParent
  split <;> simp [Out.isQuit, hx]

theorem any_isQuit_pushCmd {l : List (Cmd n)} {c : Cmd n} (h : (pushCmd l c).any Cmd.isQuit = true) :
    l.any Cmd.isQuit = true ∨ c.isQuit = true := by
  rw [List.any_eq_true] at h
  obtain ⟨x, hx, hp⟩ := h
  unfold pushCmd at hx
  rcases List.mem_append.1 hx with h1 | h1
  · left; rw [List.any_eq_true]
    refine ⟨x, ?_, hp⟩
    split at h1
    · exact (List.mem_filter.1 h1).1
    · exact h1
  · right; simp at h1; rw [← h1]; exact hp

theorem handleW_noQuit (s : St n) (v : Fin n) {c : Cmd n} (hout : s.out v = []) (hc : c.isQuit = false) :
    ((handleW s v c).out v).any Out.isQuit = false ∧ (handleW s v c).quitWait v = s.quitWait v := by
  cases c with
  | quit | quitAck => cases hc
  | init | start => exact ⟨by simp only [handleW, upd_same]; exact any_isQuit_bcast s v _ rfl, rfl⟩
  | stop =>
    refine ⟨?_, rfl⟩
    simp only [handleW, upd_same, List.any_cons, any_isQuit_bcast s v .stop rfl]; rfl
  | report src e j =>
    rw [handleW]
    split
    · exact ⟨by simp only [upd_same]; exact any_isQuit_toParent s v _ rfl, rfl⟩
    · exact ⟨by rw [hout]; rfl, rfl⟩
  | ack src =>
    refine ⟨?_, rfl⟩
    simp only [handleW, upd_same]
    split
    · exact any_isQuit_toParent s v _ rfl
    · rfl

theorem afterWait_spec {p : Pc} (hw : isWaitPc p = true) :
    quietPc (afterWait p) = false ∧ selfPc p = false ∧ (quitPc p = true → quitPc (afterWait p) = true) := by
  cases p <;> first | exact ⟨rfl, rfl, id⟩ | cases hw

theorem enginePc_not_worker {x : Pc} {jb : Option Nat} (hx : isEnginePc x = true) :
    (∀ j, x = .search j → jb = some j) ∧ ((x = .ackSelf ∨ x = .wait) → jb = none) := by
  refine ⟨fun j e => ?_, fun e => ?_⟩
  · subst e; cases hx
  · rcases e with e | e <;> subst e <;> cases hx

/-- the QUIT phase excludes stop rounds everywhere -/
theorem quit_no_round {r : Fin n} {s : St n} (h1 : G1 r s) (hq : quitPc (s.pc r) = true) (v : Fin n) (va : s.alive v = true) :
    s.selfWait v = false ∧ s.childWait v = 0 := by
  have hnr : inRound s r = false := h1.root_not_inRound (by
    generalize s.pc r = p at hq ⊢
    cases p <;> first | rfl | cases hq)
  have := h1.quiescent hnr v va
  simp [inRound] at this
  exact this

theorem G2.qphase_keep {r : Fin n} {s : St n} (h : G2 r s) (v : Fin n) (va : s.alive v = true) :
    ((s.q v).any Cmd.isQuit = true ∨ (s.out v).any Out.isQuit = true ∨ s.quitWait v ≠ -1) → quitPc (s.pc r) = true :=
  h.qphase v va

/-- what a helper going from `ackSelf` to `wait` owes `pc_move` / `local_upd` -/
theorem G2.to_wait {r : Fin n} {s : St n} (h : G2 r s) {v : Fin n} (va : s.alive v = true) (hpc : s.pc v = .ackSelf) :
    quietPc Pc.wait = true → s.flag v = false →
      s.q v = [] ∧ (∀ j, Pc.wait = .search j → s.jobId v = some j) ∧ ((Pc.wait = .ackSelf ∨ Pc.wait = .wait) → s.jobId v = none) :=
  fun _ hf => ⟨h.nq v va (hpc ▸ rfl) hf, fun _ e => (nomatch e), fun _ => (h.nj v va hf).2 (.inl hpc)⟩

theorem init_G2 (r : Fin n) : G2 r (init r) := by
  refine ⟨?_, ?_, ?_, ?_⟩
  · intro v _ hq; simp [init] at hq
  · intro v _ hsw; simp [init] at hsw
  · intro v _ _ _; simp [init]
  · intro v hv _
    simp [init] at hv; subst hv
    simp [init]

theorem step_G2 {r : Fin n} {s s' : St n} (h1 : G1 r s) (h : G2 r s) (e : Ev n) (hs : step r s e = some s') : G2 r s' := by
  have hra := h1.rootAlive
  cases step_Step hs with
  | waitRet v va _ hwp =>
    obtain ⟨a1, a2, a3⟩ := afterWait_spec hwp
    exact h.local_upd v rfl (upd_keep s.q v) (upd_keep s.out v) rfl (upd_keep s.selfWait v) (upd_keep s.quitWait v)
      (upd_keep s.jobId v) rfl a3 (h.qphase v va) (h.os_of va a2 _) (quiet_trivial a1)
  | deqW v c rest va hout hq hpc =>
    obtain ⟨ol, sw, cw, qw, g, jb, je, hr, he⟩ := handleW_shape { s with q := upd s.q v rest } v c
    have hnq := handleW_noQuit { s with q := upd s.q v rest } v (c := c) hout
    rw [he] at hnq ⊢
    simp only [upd_same] at hnq
    refine h.local_upd v rfl rfl rfl (upd_keep s.flag v) rfl rfl rfl (upd_keep s.pc v) id ?_ ?_ ?_
    · intro hh
      cases hc : c.isQuit
      · obtain ⟨f1, f2⟩ := hnq hc
        rw [f1, f2] at hh
        exact h.qphase v va (hh.imp (any_tail hq) (Or.imp_left (fun e => nomatch e)))
      · exact h.qphase v va (.inl (by rw [hq, List.any_cons, hc]; rfl))
    · intro _
      rcases hpc with e | ⟨j, e⟩ <;> rw [e] <;> rfl
    · -- the queue was not empty, so the thread had been notified if it was searching
      intro hqp hf
      have := h.nq v va hqp hf
      rw [hq] at this; cases this
  | deqSearch v c rest va _ hq => exact h.pop va hq
  | deqCollect v c rest va _ hq => exact (h.pop va hq).same (by cases c <;> rfl)
  | deqQuit v c rest va _ hq hpc =>
    have hvr := h1.root_pc va (hpc ▸ rfl)
    subst hvr
    rcases handleE_quit { s with q := upd s.q v rest } v c with he | he <;> rw [he]
    · exact h.pop va hq
    · exact (h.pop va hq).quit_traffic (hpc ▸ rfl) _ _
  | pollW v va _ hqe hpc =>
    refine h.pc_move va _ (of_false (hpc ▸ rfl)) ?_ ?_
    · -- `if (comm->hasQuitAck()) break`: the QUIT phase excludes stop rounds
      intro hsw
      split
      · rename_i hqw
        have hqp := h.qphase v va (.inr (.inr (by rw [hqw]; decide)))
        rw [(quit_no_round h1 hqp v va).1] at hsw; cases hsw
      · split <;> rfl
    · split
      · exact quiet_trivial rfl
      · split
        · rename_i j hj
          exact fun _ _ => ⟨hqe, fun _ e => by cases e; exact hj, fun e => by rcases e with e | e <;> cases e⟩
        · rename_i hj
          exact fun _ _ => ⟨hqe, fun _ e => (nomatch e), fun _ => hj⟩
  | pollCollectDone v va _ _ hpc =>
    exact (h.pc_move va _ (of_false (hpc ▸ rfl)) (h.os_of va (hpc ▸ rfl) _) (quiet_trivial rfl)).out_move va _
      (fun e => nomatch e)
  | pollCollectWait v va _ hqe hpc =>
    exact h.pc_move va _ (of_false (hpc ▸ rfl))
      (h.os_of va (hpc ▸ rfl) _) (fun _ _ => ⟨hqe, enginePc_not_worker rfl⟩)
  | pollQuit v va _ hqe hpc =>
    exact h.pc_move va _ (fun _ => by split <;> rfl)
      (h.os_of va (hpc ▸ rfl) _) (fun _ _ => ⟨hqe, enginePc_not_worker (by split <;> rfl)⟩)
  | send v o va hmo =>
    have hs1 : G2 r { s with out := upd s.out v ((s.out v).erase o) } :=
      h.out_move va _ any_erase
    cases o with
    | notify t => exact hs1.notify t
    | enq t c =>
      refine (hs1.notify t).enq t _ (upd_same ..) (fun ta hh => ?_)
      rcases any_isQuit_pushCmd hh with hl | hc
      · exact h.qphase t ta (.inl hl)
      · exact h.qphase v va (.inr (.inl (List.any_eq_true.2 ⟨_, hmo, hc⟩)))
  | ackSelfW v va _ hpc =>
    refine h.local_upd v rfl (upd_keep s.q v) rfl (upd_keep s.flag v) rfl (upd_keep s.quitWait v) (upd_keep s.jobId v) rfl
      (of_false (hpc ▸ rfl)) (fun hh => h.qphase v va (hh.imp_right (Or.imp_left ?_))) (fun e => nomatch e) (h.to_wait va hpc)
    split
    · exact of_false (any_isQuit_toParent s v _ rfl)
    · exact fun e => nomatch e
  | ackSelfW0 v va _ hpc hns =>
    exact h.pc_move va _ (of_false (hpc ▸ rfl)) (fun hh => absurd hh hns) (h.to_wait va hpc)
  | ackSelfE v va _ hpc =>
    exact h.local_upd v rfl (upd_keep s.q v) (upd_keep s.out v) (upd_keep s.flag v) rfl (upd_keep s.quitWait v)
      (upd_keep s.jobId v) rfl (of_false (hpc ▸ rfl)) (h.qphase v va) (fun e => nomatch e)
      (quiet_trivial rfl)
  | resultFwd v j va =>
    exact (h.out_move va _ (of_false (any_isQuit_toParent s v _ rfl))).same rfl
  | leaveMax v j va _ hpc =>
    exact h.local_upd v rfl (upd_keep s.q v) (upd_keep s.out v) (upd_keep s.flag v) (upd_keep s.selfWait v)
      (upd_keep s.quitWait v) rfl rfl (of_false (hpc ▸ rfl)) (h.qphase v va) (fun _ => rfl)
      (fun _ hf => ⟨h.nq v va (hpc ▸ rfl) hf, fun _ e => (nomatch e), fun _ => rfl⟩)
  | leaveStop v j va _ hpc hjob =>
    exact h.pc_move va _ (of_false (hpc ▸ rfl)) (fun _ => rfl)
      (fun _ hf => absurd ((h.nj v va hf).1 j hpc) hjob)
  | spawn v p _ _ hvr _ hqv hov =>
    refine h.local v (fun w hw hwa => by simpa [hw] using hwa) (fun hh => by simpa [Ne.symm hvr] using hh) ?_ ?_ ?_ ?_
    · exact fun _ hh => by simp [hqv, hov] at hh
    · exact fun _ hh => by simp at hh
    · exact fun _ _ _ => hqv
    · exact fun _ _ => by simp
  | tend v va _ hpc _ _ hsw => exact h.pc_move va _ (of_false (hpc ▸ rfl)) (of_false hsw) (quiet_trivial rfl)
  | exit v =>
    refine h.local v (fun w hw hwa => by simpa [hw] using hwa) id ?_ ?_ ?_ ?_
    all_goals exact fun hva => by simp at hva
  | rdPreQuit _ hpc | rdPreSearch _ hpc | optsDone _ _ _ _ hpc | optsDonePost _ _ _ _ hpc | eBegin _ hpc
  | eSearchDone _ hpc | eSearchEnd _ hpc =>
    exact h.root_move hra _ rfl (hpc ▸ rfl) (hpc ▸ rfl) rfl
  | rdQuit b _ hpc | rdSearch b _ hpc | eBest b _ hpc =>
    exact h.root_move hra _ rfl (hpc ▸ rfl) (hpc ▸ rfl) (by cases b <;> rfl)
  | eHoldDone ws _ _ _ hpc =>
    have hp : s.pc r = .eGo ∨ s.pc r = .ehold ws := hpc.imp_left And.left
    exact h.root_move hra _ rfl (by rcases hp with e | e <;> rw [e] <;> rfl)
      (by rcases hp with e | e <;> rw [e] <;> rfl) rfl
  | eInit _ hpc =>
    exact (h.out_move hra _ (of_false (any_isQuit_bcast s r .init rfl))).pc_move hra _ (of_false (hpc ▸ rfl))
      (h.os_of hra (hpc ▸ rfl) _) (quiet_trivial rfl)
  | eJobNext => exact (h.out_move hra _ (of_false (any_isQuit_bcast s r _ rfl))).same rfl
  | eStopSend _ hpc =>
    refine h.local_upd r rfl (upd_keep s.q r) rfl (upd_keep s.flag r) rfl (upd_keep s.quitWait r) (upd_keep s.jobId r) rfl
      (of_false (hpc ▸ rfl)) (fun hh => h.qphase r hra (hh.imp_right (Or.imp_left (of_false ?_))))
      (fun _ => rfl) (quiet_trivial rfl)
    rw [List.any_cons, any_isQuit_bcast s r _ rfl]; rfl
  | eQuitSend0 _ hpc | eQuitSendN _ hpc =>
    have hs1 := h.pc_move hra .equit (fun _ => rfl) (h.os_of hra (hpc ▸ rfl) _) (quiet_trivial rfl)
    exact hs1.quit_traffic (by simp [quitPc]) _ _
  | pNotify t => exact (h.notify t).same rfl
  | _ => exact h.same rfl

theorem reach_G2 {r : Fin n} {s : St n} (h : Reach r s) : G2 r s := by
  induction h with
  | init => exact init_G2 r
  | step s s' e hr hs ih => exact step_G2 (reach_G1 hr) ih e hs

end Conc
