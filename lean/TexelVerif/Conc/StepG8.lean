import TexelVerif.Conc.InvG8
/-! Every step preserves `G9` and `G8`. -/
namespace Conc

variable {n : Nat}

/-- QUIT handler of a helper / `sendQuit` at the root: `v` had not seen a QUIT yet (`quitWait v = -1`);
    all children get a pending QUIT, or (no children) `v` acknowledges at once -/
theorem G8.quit_step {r : Fin n} {s s' : St n} (h1 : G1 r s) (h : G8 r s) (v : Fin n) (ql : List (Cmd n)) (ol : List (Out n))
    (hout : s.out v = []) (hm1 : s.quitWait v = -1) (ht : G8.tree s' = G8.tree s)
    (c2 : ∀ d, cQAck (s.q v) d = cQAck ql d)
    (hol : (0 < nChildren s v ∧ ol = bcast s v .quit) ∨ (nChildren s v = 0 ∧ ol = toParent s v (.quitAck v)))
    (hup : ∀ p, isChild s p v = true → cQuit (s.q v) = cQuit ql + 1)
    (hw : s'.quitWait = upd s.quitWait v (nChildren s v : Nat) := by rfl) (hq : s'.q = upd s.q v ql := by rfl)
    (ho : s'.out = upd s.out v ol := by rfl) : G8 r s' := by
  -- children of v: everything was zero, now exactly the pending QUIT
  have hch : ∀ c, isChild s v c = true → qdebt s' v c = 1 ∧ s.quitWait c = -1 := by
    intro c hc
    obtain ⟨hcq, hz⟩ := h.qzero v c hc hm1
    have e := (qdebt_down (k := 0) hw hq ho hout (h1.child_ne hc) (c2 c)).2
    rcases hol with ⟨_, eo⟩ | ⟨e0, _⟩
    · rw [hz, eo, pQuit_bcast, if_pos ⟨rfl, hc⟩] at e; exact ⟨e, hcq⟩
    · have := List.length_pos_of_mem ((mem_children s v c).2 hc)
      rw [← nChildren, e0] at this; cases this
  refine h.local h1 v _ ql ol ht hw hq ho (Int.natCast_nonneg _) ?_ (fun c hc => ?_) (fun p hc => ?_)
  · rw [← sumCh_one]; congr 1
    exact sumCh_congr s s v _ _ (fun _ => rfl) (fun c hc => (hch c hc).1.symm)
  · exact ⟨Nat.le_of_eq (hch c hc).1, fun _ => (hch c hc).2⟩
  · -- the QUIT that `v` consumed was on this edge (the root has no parent edge)
    obtain ⟨e1, e2⟩ := qdebt_up hw hq ho hout (fun e => h1.child_ne hc e.symm) (hup p hc)
    have hone : (if (0 : Int) < (nChildren s v : Nat) then 1 else 0) + pQAck ol p v = 1 := by
      rcases hol with ⟨h0, e⟩ | ⟨h0, e⟩
      · rw [e, pQAck_bcast s v _ p v (by simp), if_pos (Int.natCast_pos.2 h0)]
      · rw [e, h0, if_neg (by decide), pQAck_toParent_self ((isChild_iff s p v).1 hc).2]
    rw [hm1, if_neg (by decide), hone] at e2
    have hle := Nat.le_trans (quitIn_le_qdebt s p v) (h.qle1 p v hc)
    rw [← e1] at hle
    refine ⟨Nat.add_right_cancel e2, fun hh => ?_⟩
    rcases hh with hm | hqi
    · have := quitIn_le_qdebt s p v
      rw [(h.qzero p v hc hm).2, ← e1] at this; cases this
    · exact absurd (Nat.le_of_succ_le_succ hle) (Nat.not_le_of_gt hqi)

/-- a queued QUIT_ACK is part of its sender's `qdebt`, and the counter is the sum of these (`G8.qsum`) -/
theorem G8.qack_counted {r : Fin n} {s : St n} (h8 : G8 r s) (h1 : G1 r s) {v d : Fin n} {rest : List (Cmd n)}
    (va : s.alive v = true) (hq : s.q v = .quitAck d :: rest) : 1 ≤ s.quitWait v := by
  have hcs : isChild s v d = true := h1.qOk v (.quitAck d) va (by rw [hq]; exact List.mem_cons_self)
  have hc : 1 ≤ cQAck (s.q v) d := by rw [hq, cQAck_cons, if_pos rfl]; exact Nat.le_add_left 1 _
  have hdd : 1 ≤ qdebt s v d := Nat.le_trans hc (Nat.le_trans (Nat.le_add_right _ _) (Nat.le_add_left _ _))
  have hnm1 : s.quitWait v ≠ -1 := fun e => by rw [(h8.qzero v d hcs e).2] at hdd; cases hdd
  have hge0 : 0 ≤ s.quitWait v := by have := h8.qrange v va; omega
  rw [h8.qsum v va hge0]
  exact Int.ofNat_le.2 (Nat.le_trans hdd (sumCh_ge s v (qdebt s v) d hcs))

/-- QUIT_ACK handler: the acknowledging child's debt goes from 1 to 0; when the last one arrives the ack is passed up -/
theorem G8.qack_step {r : Fin n} {s s' : St n} (h1 : G1 r s) (h : G8 r s) (v src : Fin n) (rest : List (Cmd n))
    (va : s.alive v = true) (hq0 : s.q v = Cmd.quitAck src :: rest) (hout : s.out v = []) (ht : G8.tree s' = G8.tree s)
    (hw : s'.quitWait = upd s.quitWait v (s.quitWait v - 1) := by rfl) (hq : s'.q = upd s.q v rest := by rfl)
    (ho : s'.out = upd s.out v (if s.quitWait v - 1 = 0 then toParent s v (.quitAck v) else []) := by rfl) : G8 r s' := by
  have hcs : isChild s v src = true := h1.qOk v (Cmd.quitAck src) va (by rw [hq0]; exact List.mem_cons_self)
  have hpos := h.qack_counted h1 va hq0
  have hnm1 : s.quitWait v ≠ -1 := fun e => by rw [e] at hpos; exact absurd hpos (by decide)
  have hsum := h.qsum v va (Int.le_trans (by decide) hpos)
  have hpq : ∀ d, pQuit (if s.quitWait v - 1 = 0 then toParent s v (.quitAck v) else []) d = 0 := by
    intro d; split
    · exact pQuit_toParent s v _ (by simp) d
    · exact pQuit_nil d
  have hdown : ∀ c, isChild s v c = true → quitIn s' v c = quitIn s v c ∧
      qdebt s' v c + (if Cmd.quitAck src = Cmd.quitAck c then 1 else 0) = qdebt s v c := by
    intro c hc
    have := qdebt_down hw hq ho hout (h1.child_ne hc) (by rw [hq0, cQAck_cons])
    rwa [hpq] at this
  refine h.local h1 v _ rest _ ht hw hq ho (Int.sub_nonneg_of_le hpos) ?_ (fun c hc => ?_) (fun p hc => ?_)
  · have hsrc := (hdown src hcs).2
    rw [if_pos rfl] at hsrc
    have := sumCh_upd1 s s v src (qdebt s v) (qdebt s' v) (fun _ => rfl) hcs (fun c hne hc => by
      have := (hdown c hc).2
      rw [if_neg (fun e => by cases e; exact hne rfl)] at this
      exact this.symm)
    rw [← hsrc, ← Nat.add_assoc, Nat.add_right_comm] at this
    rw [hsum, Nat.add_right_cancel this, Int.natCast_add]
    exact Int.add_sub_cancel _ _
  · obtain ⟨e, d⟩ := hdown c hc
    exact ⟨Nat.le_trans (Nat.le_add_right _ _) (Nat.le_trans (Nat.le_of_eq d) (h.qle1 v c hc)), fun hqi => h.qpre v c hc (e ▸ hqi)⟩
  · obtain ⟨e1, e2⟩ := qdebt_up hw hq ho hout (fun e => h1.child_ne hc e.symm)
      (show cQuit (s.q v) = cQuit rest + 0 by rw [hq0, cQuit_cons, if_neg (fun e => by cases e)])
    have hone : (if 0 < s.quitWait v - 1 then 1 else 0) +
        pQAck (if s.quitWait v - 1 = 0 then toParent s v (.quitAck v) else []) p v = 1 := by
      by_cases hz : s.quitWait v - 1 = 0
      · rw [hz, if_pos rfl, if_neg (by decide), pQAck_toParent_self ((isChild_iff s p v).1 hc).2]
      · rw [if_neg hz, pQAck_nil, if_pos (show (0 : Int) < s.quitWait v - 1 by omega)]
    rw [if_pos (show (0 : Int) < s.quitWait v by omega), hone] at e2
    -- `v` had seen the QUIT, so had its parent, and no second QUIT is on its way
    refine ⟨Nat.add_right_cancel e2, fun hh => ?_⟩
    rcases hh with hm | hqi
    · exact hnm1 (h.qzero p v hc hm).1
    · exact hnm1 (h.qpre p v hc (e1 ▸ hqi))

theorem handleW_quitWait_other (s : St n) (v w : Fin n) (c : Cmd n) (hw : w ≠ v) :
    (handleW s v c).quitWait w = s.quitWait w ∧ (handleW s v c).pc = s.pc := by
  obtain ⟨ol, sw, cw, qw, g, jb, je, hr, he⟩ := handleW_shape s v c
  rw [he]; exact ⟨upd_other _ _ _ _ hw, rfl⟩

theorem step_G9 {r : Fin n} {s s' : St n} (h1 : G1 r s) (h : G9 r s) (e : Ev n) (hs : step r s e = some s') : G9 r s' := by
  cases step_Step hs with
  | eQuitSend0 | eQuitSendN => exact ⟨fun _ => by show postQuitPc (upd _ r .equit r) = true; rw [upd_same]; rfl⟩
  | deqQuit v c rest va _ _ hpc =>
    obtain rfl : v = r := h1.root_pc va (by rw [hpc]; rfl)
    refine ⟨fun _ => ?_⟩
    rcases handleE_quit { s with q := upd s.q v rest } v c with he | he <;> rw [he] <;> exact hpc ▸ rfl
  | deqW v c rest va _ _ hpc =>
    have hk : isEnginePc (s.pc v) = false := by rcases hpc with e | ⟨j, e⟩ <;> rw [e] <;> rfl
    have hrv : r ≠ v := fun e => h1.worker_ne_root va hk e.symm
    obtain ⟨a, b⟩ := handleW_quitWait_other { s with q := upd s.q v rest } v r c hrv
    exact h.keep a (by rw [b]; exact id)
  | spawn v p _ _ hvr =>
    have hrv : r ≠ v := fun e => hvr e.symm
    exact h.keep (upd_other _ _ _ _ hrv) (fun hh => by show postQuitPc (upd s.pc v .wait r) = true; rw [upd_other _ _ _ _ hrv]; exact hh)
  | waitRet v => exact h.move rfl rfl (postQuitPc_afterWait _)
  | pollQuit v => exact h.move rfl rfl (fun _ => by split <;> rfl)
  | eHoldDone ws _ _ _ hpc =>
    rcases hpc with ⟨e, _⟩ | e <;> exact h.move rfl rfl (fun hh => by rw [e] at hh; cases hh)
  | pollW v _ _ _ hpc | pollCollectDone v _ _ _ hpc | pollCollectWait v _ _ _ hpc | ackSelfW v _ _ hpc | ackSelfW0 v _ _ hpc
  | ackSelfE v _ _ hpc | leaveMax v j _ _ hpc | leaveStop v j _ _ hpc | tend v _ _ hpc | rdPreQuit _ hpc | rdPreSearch _ hpc
  | rdQuit b _ hpc | rdSearch b _ hpc | optsDone _ _ _ _ hpc | optsDonePost _ _ _ _ hpc | eBegin _ hpc | eInit _ hpc
  | eSearchDone _ hpc | eBest ws _ hpc | eStopSend _ hpc | eSearchEnd _ hpc =>
    exact h.move rfl rfl (fun hh => by rw [hpc] at hh; cases hh)
  | send v o => cases o <;> exact h.keep rfl id
  | deqCollect v c rest => cases c <;> exact h.keep rfl id
  | _ => exact h.keep rfl id

theorem reach_G9 {r : Fin n} {s : St n} (h : Reach r s) : G9 r s := by
  induction h with
  | init => exact ⟨fun hh => by simp [init] at hh⟩
  | step s s' e hr hs ih => exact step_G9 (reach_G1 hr) ih e hs

theorem quitPc_of_mainLoop {p : Pc} (h : mainLoopPc p = true) : quitPc p = false := by
  cases p <;> first | rfl | cases h

theorem G2.idle {r : Fin n} {s : St n} (h2 : G2 r s) (hnq : quitPc (s.pc r) = false) (w : Fin n) (hw : s.alive w = true) :
    s.quitWait w = -1 :=
  Decidable.byContradiction fun hne => by have := h2.qphase w hw (.inr (.inr hne)); rw [hnq] at this; cases this

theorem G2.head_noQuit {r : Fin n} {s : St n} (h2 : G2 r s) (hnq : quitPc (s.pc r) = false) {v : Fin n} (va : s.alive v = true)
    {c : Cmd n} {rest : List (Cmd n)} (hq : s.q v = c :: rest) : c.isQuit = false := by
  cases hc : c.isQuit
  · rfl
  · have := h2.qphase v va (.inl (by rw [hq, List.any_cons, hc]; rfl))
    rw [hnq] at this; cases this

theorem count_send {q : Fin n → List (Cmd n)} {out : Fin n → List (Out n)} {v t : Fin n} {c : Cmd n}
    (hmo : Out.enq t c ∈ out v) (a b : Fin n) (x : Cmd n) (hx : x.purgeable = false) (hb : t = a → c = x → b = v) :
    (upd q t (pushCmd (q t) c) a).count x + (upd out v ((out v).erase (Out.enq t c)) b).count (Out.enq a x)
      = (q a).count x + (out b).count (Out.enq a x) := by
  by_cases hh : t = a ∧ c = x
  · obtain ⟨rfl, rfl⟩ := hh
    obtain rfl := hb rfl rfl
    rw [upd_same, upd_same, count_pushCmd _ _ _ hx, if_pos rfl, List.count_erase_self]
    have := List.one_le_count_iff.2 hmo
    omega
  · have e1 : (upd q t (pushCmd (q t) c) a).count x = (q a).count x := by
      by_cases hat : a = t
      · subst hat; rw [upd_same, count_pushCmd _ _ _ hx, if_neg (fun e => hh ⟨rfl, e⟩), Nat.add_zero]
      · rw [upd_other _ _ _ _ hat]
    have e2 : (upd out v ((out v).erase (Out.enq t c)) b).count (Out.enq a x) = (out b).count (Out.enq a x) := by
      by_cases hbv : b = v
      · subst hbv; rw [upd_same, List.count_erase_of_ne (fun e => hh (by cases e; exact ⟨rfl, rfl⟩))]
      · rw [upd_other _ _ _ _ hbv]
    rw [e1, e2]

/-- performing a pending enqueue moves QUIT / QUIT_ACK traffic from "pending" to "queued" -/
theorem G8.send {r : Fin n} {s : St n} (h1 : G1 r s) (h : G8 r s) (v t : Fin n) (c : Cmd n) (va : s.alive v = true)
    (hmo : Out.enq t c ∈ s.out v) :
    G8 r { s with q := upd s.q t (pushCmd (s.q t) c), out := upd s.out v ((s.out v).erase (Out.enq t c)), flag := upd s.flag t true } := by
  have hok := h1.outOk v _ va hmo
  refine h.frame rfl rfl (fun p d hc => ?_) (fun p d hc => ?_)
  · -- a QUIT goes to a child of `v`, and `d` has one parent
    refine count_send hmo d p .quit rfl (fun e1 e2 => ?_)
    subst e1; subst e2
    rcases hok with ⟨a, _⟩ | ⟨_, b⟩
    · have e := ((isChild_iff s p t).1 hc).2
      rw [((isChild_iff s v t).1 a).2] at e; cases e; rfl
    · cases b
  · -- a QUIT_ACK in a pending action of `v` is `v`'s own
    refine count_send hmo p d (.quitAck d) rfl (fun e1 e2 => ?_)
    subst e1; subst e2
    rcases hok with ⟨_, b⟩ | ⟨_, b⟩
    · cases b
    · exact eq_of_beq b

theorem G8.idle_edge {r : Fin n} {s : St n} (h1 : G1 r s) (h2 : G2 r s) (h : G8 r s) (hml : mainLoopPc (s.pc r) = true)
    {a b : Fin n} (hc : isChild s a b = true) : qdebt s a b = 0 :=
  (h.qzero a b hc (h2.idle (quitPc_of_mainLoop hml) a (h1.parent_alive hc))).2

theorem G8.popE {r : Fin n} {s : St n} (h : G8 r s) (v : Fin n) (c : Cmd n) (rest : List (Cmd n)) (pc : Pc)
    (hq : s.q v = c :: rest) (hc : c.isQuit = false) (hout : s.out v = []) :
    G8 r (handleE { s with q := upd s.q v rest } v pc c) := by
  rcases handleE_eq { s with q := upd s.q v rest } v pc c with he | ⟨_, he⟩ | ⟨⟨d, rfl⟩, _⟩
  case inr.inr => cases hc
  all_goals rw [he]; exact h.quiet v rest [] hout rfl rfl (pop_noQuit hq hc) (ho := by rw [← hout, upd_self])

theorem handleW_G8 {r : Fin n} {s : St n} (h1 : G1 r s) (h : G8 r s) (v : Fin n) (c : Cmd n) (rest : List (Cmd n))
    (va : s.alive v = true) (hout : s.out v = []) (hq : s.q v = c :: rest) (hk : isEnginePc (s.pc v) = false) :
    G8 r (handleW { s with q := upd s.q v rest } v c) := by
  cases c with
  | quit =>
    obtain ⟨p0, hp0, _⟩ := h1.par v va (h1.worker_ne_root va hk)
    have hcq : cQuit (s.q v) = cQuit rest + 1 := by rw [hq, cQuit_cons, if_pos rfl]
    have hm1 := h.qpre p0 v ((isChild_iff s p0 v).2 ⟨va, hp0⟩) (by unfold quitIn; rw [hcq]; exact Nat.lt_of_lt_of_le (Nat.succ_pos _) (Nat.le_add_right _ _))
    have c2 : ∀ d, cQAck (s.q v) d = cQAck rest d := fun d => by rw [hq, cQAck_cons, if_neg (fun e => by cases e), Nat.add_zero]
    simp only [handleW]
    split
    · rename_i hz
      have hz' : nChildren s v = 0 := hz
      exact h.quit_step h1 v rest _ hout hm1 rfl c2 (.inr ⟨hz', rfl⟩) (fun _ _ => hcq) (hw := by rw [hz']; rfl)
    · rename_i hz
      have hz' : ¬ nChildren s v = 0 := hz
      exact h.quit_step h1 v rest _ hout hm1 rfl c2 (.inl ⟨by omega, rfl⟩) (fun _ _ => hcq)
  | quitAck d => exact h.qack_step h1 v d rest va hq hout rfl
  | init | start =>
    exact h.quiet v rest _ hout (any_isQuit_bcast s v _ rfl) rfl (pop_noQuit hq rfl)
  | stop =>
    exact h.quiet v rest (Out.notify v :: bcast s v .stop) hout (any_isQuit_bcast s v _ rfl) rfl (pop_noQuit hq rfl)
  | report src e j =>
    simp only [handleW]
    split
    · exact h.quiet v rest _ hout (any_isQuit_toParent s v _ rfl) rfl (pop_noQuit hq rfl)
    · exact h.quiet v rest [] hout rfl rfl (pop_noQuit hq rfl) (ho := by rw [← hout, upd_self])
  | ack src =>
    refine h.quiet v rest _ hout ?_ rfl (pop_noQuit hq rfl)
    split
    · exact any_isQuit_toParent s v _ rfl
    · rfl

theorem step_G8 {r : Fin n} {s s' : St n} (h1 : G1 r s) (h2 : G2 r s) (h9 : G9 r s) (h : G8 r s) (e : Ev n)
    (hs : step r s e = some s') : G8 r s' := by
  cases step_Step hs with
  | deqW v c rest va hout hq hpc =>
    exact handleW_G8 h1 h v c rest va hout hq (by rcases hpc with e | ⟨j, e⟩ <;> rw [e] <;> rfl)
  | deqSearch v c rest va hout hq hpc =>
    obtain rfl : v = r := h1.root_pc va (by rw [hpc]; rfl)
    have hc := h2.head_noQuit (by rw [hpc]; rfl) va hq
    exact h.quiet v rest [] hout rfl rfl (pop_noQuit hq hc) (ho := by rw [← hout, upd_self])
  | deqCollect v c rest va hout hq hpc =>
    obtain rfl : v = r := h1.root_pc va (by rw [hpc]; rfl)
    exact h.popE v c rest _ hq (h2.head_noQuit (by rw [hpc]; rfl) va hq) hout
  | deqQuit v c rest va hout hq hpc =>
    obtain rfl : v = r := h1.root_pc va (by rw [hpc]; rfl)
    cases c with
    | quitAck d =>
      -- the root has no parent to pass the last QUIT_ACK to
      refine h.qack_step h1 v d rest va hq hout rfl (ho := ?_)
      show s.out = _
      unfold toParent; rw [h1.rootPar, ite_self, ← hout, upd_self]
    | quit => exact absurd rfl (h1.qOk v .quit va (by rw [hq]; exact List.mem_cons_self))
    | _ => exact h.popE v _ rest _ hq rfl hout
  | send v o va hmo =>
    cases o with
    | notify t =>
      exact h.neutral v (s.q v) ((s.out v).erase (.notify t)) rfl ⟨rfl, fun _ => rfl⟩ (fun d => by rw [pQuit_erase, if_neg (fun e => by cases e)]; rfl)
        (fun p d => by rw [pQAck_erase, if_neg (fun e => by cases e)]; rfl) (hq := upd_keep _ _)
    | enq t c => exact h.send h1 v t c va hmo
  | pollCollectDone v _ hout => exact h.quiet v _ [Out.notify v] hout rfl rfl ⟨rfl, fun _ => rfl⟩ (hq := upd_keep _ _)
  | resultFwd v j _ hout =>
    exact h.quiet v _ _ hout (any_isQuit_toParent s v _ rfl) rfl ⟨rfl, fun _ => rfl⟩ (hq := upd_keep _ _)
  | ackSelfW v _ hout =>
    refine h.quiet v _ _ hout ?_ rfl ⟨rfl, fun _ => rfl⟩ (hq := upd_keep _ _)
    split
    · exact any_isQuit_toParent s v _ rfl
    · rfl
  | eInit hout | eJobNext hout =>
    exact h.quiet r _ _ hout (any_isQuit_bcast s r _ rfl) rfl ⟨rfl, fun _ => rfl⟩ (hq := upd_keep _ _)
  | eStopSend hout =>
    exact h.quiet r _ (Out.notify r :: bcast s r .stop) hout (any_isQuit_bcast s r _ rfl) rfl ⟨rfl, fun _ => rfl⟩ (hq := upd_keep _ _)
  | eQuitSend0 hout hpc hz =>
    refine h.quit_step h1 r (s.q r) (s.out r) hout (h9.pre (by rw [hpc]; rfl)) rfl (fun _ => rfl) (.inr ⟨hz, ?_⟩)
      (fun p hc => absurd rfl (h1.child_ne_root hc)) (hw := by rw [hz]; rfl) (hq := upd_keep _ _) (ho := upd_keep _ _)
    rw [hout]; unfold toParent; rw [h1.rootPar]
  | eQuitSendN hout hpc hz =>
    exact h.quit_step h1 r (s.q r) _ hout (h9.pre (by rw [hpc]; rfl)) rfl (fun _ => rfl) (.inl ⟨by omega, rfl⟩)
      (fun p hc => absurd rfl (h1.child_ne_root hc)) (hq := upd_keep _ _)
  | spawn v p _ _ _ _ hqv hov hml hqp hop =>
    refine G8.of_idle (fun w hw => ?_) (fun a b hc => ?_)
    · by_cases hwv : w = v
      · rw [hwv]; exact upd_same _ _ _
      · exact (upd_other _ _ _ _ hwv).trans (h2.idle (quitPc_of_mainLoop hml) w (alive_spawn_other rfl hwv hw))
    · by_cases hbv : b = v
      · subst hbv
        obtain rfl := isChild_spawn_new rfl hc
        show _ + _ + (if 0 < upd s.quitWait b (-1) b then 1 else 0) + (_ + _) = 0
        rw [upd_same, hqv, hop, hqp, hov, if_neg (by decide)]; rfl
      · rw [isChild_spawn_other rfl rfl a hbv] at hc
        rw [← h.idle_edge h1 h2 hml hc]
        show _ + (if 0 < upd s.quitWait v (-1) b then 1 else 0) + _ = _
        rw [upd_other _ _ _ _ hbv]; rfl
  | exit v _ _ _ _ _ hml =>
    exact G8.of_idle (fun w hw => h2.idle (quitPc_of_mainLoop hml) w (alive_exit rfl hw).2)
      (fun a b hc => h.idle_edge h1 h2 hml (isChild_exit hc rfl rfl).2)
  | _ => exact h.same rfl

theorem init_G8 (r : Fin n) : G8 r (init r) :=
  G8.of_idle (fun _ _ => rfl) (fun a b hc => by simp [isChild, init] at hc)

theorem reach_G8 {r : Fin n} {s : St n} (h : Reach r s) : G8 r s := by
  induction h with
  | init => exact init_G8 r
  | step s s' e hr hs ih => exact step_G8 (reach_G1 hr) (reach_G2 hr) (reach_G9 hr) ih e hs

end Conc
