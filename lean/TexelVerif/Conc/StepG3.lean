import TexelVerif.Conc.InvG3
/-! Every step preserves `G3`.  A store of the protocol thread leaves a request in progress, so `need` is not
    owed until its notify has arrived. -/
namespace Conc

variable {n : Nat}

theorem afterWait_comm {p : Pc} (hw : isWaitPc p = true) :
    G3.phase (afterWait p) = G3.phase p ∧ ∀ t : St n, need t (afterWait p) := by
  unfold isWaitPc at hw
  split at hw <;> first | exact ⟨rfl, fun _ => trivial⟩ | cases hw

theorem snap_seenF_false {g : Reg} (hc : g.cur = true) (hn : g.nxt ≠ some false) : g.snap.seenF = false := by
  simp [Reg.snap, hc, hn]

theorem snap_seenT_active (g : Reg) : g.snap.seenT = g.active := by
  simp [Reg.snap, Reg.active]

theorem postBest_searchPc {p : Pc} (h : postBest p = true) : searchPc p = true := by
  unfold postBest at h
  split at h <;> first | rfl | cases h

/-- a load returned `false` although the sample of a set register shows only `true`: the register is clear -/
theorem cur_false_of_seen {g : Reg} (hseen : g.seen false = true) (h : g.cur = true → g.seenF = false) : g.cur = false := by
  cases hc : g.cur
  · rfl
  · rw [Reg.seen, if_neg Bool.false_ne_true, h hc] at hseen; cases hseen

theorem nxt_true {g : Reg} {b : Bool} (hb : g.nxt = some b) (h : g.nxt ≠ some false) : b = true := by
  cases b
  · exact absurd hb h
  · rfl

theorem init_G3 (r : Fin n) : G3 r (init r) :=
  G3.of_pc (if_pos rfl) nofun nofun nofun nofun nofun nofun nofun rfl (fun _ _ => ⟨rfl, rfl, rfl, rfl⟩)

theorem step_G3 {r : Fin n} {s s' : St n} (h1 : G1 r s) (h : G3 r s) (e : Ev n) (hs : step r s e = some s') : G3 r s' := by
  cases step_Step hs with
  | waitRet v va _ hwp =>
    by_cases hvr : v = r
    · subst hvr
      obtain ⟨c1, c5⟩ := afterWait_comm (n := n) hwp
      exact h.stay rfl (upd_same ..) rfl c1 (fun _ _ => c5 _)
    · exact h.frame (upd_other _ _ _ _ (Ne.symm hvr)) (.inl (upd_other _ _ _ _ (Ne.symm hvr))) rfl
  | deqW v c rest =>
    obtain ⟨ol, sw, cw, qw, g, jb, je, hr, he⟩ := handleW_shape { s with q := upd s.q v rest } v c
    rw [he]; exact h.frame rfl (.inl rfl) rfl
  | deqCollect v c rest | deqQuit v c rest =>
    rcases handleE_eq { s with q := upd s.q v rest } v _ c with he | ⟨_, he⟩ | ⟨_, he⟩ <;> rw [he] <;>
      exact h.frame rfl (.inl rfl) rfl
  | send v o => cases o <;> (unfold applyOut; exact h.frame rfl (upd_true_or ..) rfl)
  | pollW v va _ _ hpc | ackSelfW v va _ hpc | ackSelfW0 v va _ hpc | leaveMax v _ va _ hpc | leaveStop v _ va _ hpc =>
    have hne : v ≠ r := h1.worker_ne_root va (by rw [hpc]; rfl)
    exact h.frame (upd_other _ _ _ _ hne.symm) (.inl rfl) rfl
  | spawn v _ _ _ hne => exact h.frame (upd_other _ _ _ _ hne.symm) (.inl (upd_other _ _ _ _ hne.symm)) rfl
  | tend v _ hne => exact h.frame (upd_other _ _ _ _ hne.symm) (.inl rfl) rfl
  | pollCollectDone v va _ _ hpc | pollCollectWait v va _ _ hpc | ackSelfE v va _ hpc =>
    obtain rfl : v = r := h1.root_pc va (by rw [hpc]; rfl)
    exact h.stay hpc (upd_same ..) rfl rfl (fun _ _ => trivial)
  | pollQuit v va _ _ hpc =>
    obtain rfl : v = r := h1.root_pc va (by rw [hpc]; rfl)
    split <;> exact h.stay hpc (upd_same ..) rfl rfl (fun _ _ => trivial)
  | eBegin _ hpc | eInit _ hpc | eSearchDone _ hpc | eStopSend _ hpc | eQuitSend0 _ hpc | eQuitSendN _ hpc =>
    exact h.stay hpc (upd_same ..) rfl rfl (fun _ _ => trivial)
  | eHoldDone ws _ _ _ hpc =>
    rcases hpc with ⟨hpc, rfl⟩ | hpc <;> exact h.stay hpc (upd_same ..) rfl rfl (fun _ _ => trivial)
  | rdPreQuit _ hpc =>
    exact h.move hpc (upd_same ..) rfl nofun nofun (fun hh => snap_seenT_active s.quitF ▸ hh) nofun
      (.inl ⟨rfl, rfl⟩) (fun _ _ hc => snap_seenF_false hc h.r1q)
  | rdPreSearch _ hpc =>
    refine h.move hpc (upd_same ..) rfl nofun nofun h.r4 (fun _ hh => snap_seenT_active s.search ▸ hh)
      (.inl ⟨rfl, rfl⟩) (fun hf hpn => ?_)
    have old := h.need_at hpc hf hpn
    exact ⟨old.1, old.2.1, old.2.2, fun hc => snap_seenF_false hc h.r1s⟩
  | rdQuit b _ hpc hseen =>
    cases b
    · -- read `false`: continue with setOptions
      exact h.stay hpc (upd_same ..) rfl rfl (fun hf hpn => cur_false_of_seen hseen (h.need_at hpc hf hpn))
    · -- read `true`: leave the main loop
      exact h.move hpc (upd_same ..) rfl nofun (fun _ => h.r4 hseen) h.r4 nofun (.inl ⟨rfl, rfl⟩) (fun _ _ => trivial)
  | rdSearch b _ hpc hseen =>
    cases b
    · refine h.move hpc (upd_same ..) rfl nofun nofun h.r4 nofun (.inl ⟨rfl, rfl⟩) (fun hf hpn => ?_)
      have old := h.need_at hpc hf hpn
      exact ⟨old.1, cur_false_of_seen hseen old.2.2.2, old.2.1, old.2.2.1⟩
    · exact h.move hpc (upd_same ..) rfl (fun _ => h.r5 hpc hseen) nofun h.r4 nofun (.inl ⟨rfl, rfl⟩)
        (fun _ _ => trivial)
  | optsSwap _ _ _ _ hpc =>
    refine h.stay rfl rfl rfl rfl (fun hf hpn => ?_)
    have old := h.ne hf hpn
    rcases hpc with e | e <;> rw [e] at old ⊢ <;> exact old
  | optsDone _ hk _ _ hpc =>
    exact h.stay hpc (upd_same ..) rfl rfl (fun hf hpn => ⟨h.need_at hpc hf hpn, hk, rfl⟩)
  | optsDonePost _ hk _ _ hpc => exact h.stay hpc (upd_same ..) rfl rfl (fun _ _ => ⟨hk, rfl⟩)
  | eBest ws _ hpc =>
    have hact : s.search.active = true := h.s1 (by rw [hpc]; rfl)
    cases ws <;>
      exact h.move hpc (upd_same ..) rfl (fun _ => hact) nofun h.r4 nofun (.inr ⟨rfl, hact, rfl, rfl⟩)
        (fun _ _ => trivial)
  | eSearchEnd _ hpc hsn _ =>
    -- `search` is cleared; `quit` is clear since the two requests exclude each other
    have hact : s.search.active = true := h.s1 (by rw [hpc]; rfl)
    have hqc : s.quitF.cur = false := by
      cases hc : s.quitF.cur
      · rfl
      · exact absurd ⟨Reg.active_of_cur hc, hact⟩ h.excl
    have hsa : ({ s.search with cur := false } : Reg).active = false := Reg.active_false rfl hsn
    have b1 := h.b1_at hpc
    rw [hact] at b1
    refine G3.of_pc (upd_same ..) h.r1q h.r1s (fun hh => ?_) nofun nofun h.r4 nofun ?_ (fun hf hpn => ?_)
    · cases hsa.symm.trans hh.2
    · show _ = _ + if (({ s.search with cur := false } : Reg).active && _) = true then 1 else 0
      rw [hsa]; exact b1
    · have old := h.need_at hpc hf hpn
      exact ⟨hqc, rfl, old.1, old.2⟩
  | pWrQuit _ _ hsc hsn =>
    have hqa : (s.quitF.wr true).active = true := Reg.active_of_nxt rfl
    refine ⟨nofun, h.r1s, ?_, h.s1, fun _ => hqa, fun _ => hqa, h.r5, h.b1, ?_⟩
    · intro hh; cases (Reg.active_false hsc hsn).symm.trans hh.2
    · exact fun _ hpn => absurd (.inr (.inl nofun)) hpn
  | pWrSearch _ hsn hsc hqc hqn =>
    have hsa : s.search.active = false := Reg.active_false hsc hsn
    have hwa : (s.search.wr true).active = true := Reg.active_of_nxt rfl
    have hnpost : postBest (s.pc r) = false := by
      cases hp : postBest (s.pc r)
      · rfl
      · cases hsa.symm.trans (h.s1 (postBest_searchPc hp))
    refine ⟨h.r1q, nofun, ?_, fun _ => hwa, h.q1, h.r4, fun _ _ => hwa, ?_, ?_⟩
    · intro hh; cases (Reg.active_false hqc hqn).symm.trans hh.1
    · have hb := h.b1
      rw [hsa] at hb
      show s.goCount + 1 = s.bmCount + if ((s.search.wr true).active && !postBest (s.pc r)) = true then 1 else 0
      rw [hwa, hnpost, hb]; rfl
    · exact fun _ hpn => absurd (.inr (.inr nofun)) hpn
  | pWdQuit b hb =>
    obtain rfl := nxt_true hb h.r1q
    have hqa : ({ s.quitF with cur := true, nxt := none } : Reg).active = true := Reg.active_of_cur rfl
    refine ⟨nofun, h.r1s, ?_, h.s1, fun _ => hqa, fun _ => hqa, h.r5, h.b1, ?_⟩
    · exact fun hh => h.excl ⟨Reg.active_of_nxt hb, hh.2⟩
    · exact fun _ hpn => absurd (.inl (List.mem_singleton.2 rfl)) hpn
  | pWdSearch b hb =>
    obtain rfl := nxt_true hb h.r1s
    have hsa : s.search.active = true := Reg.active_of_nxt hb
    have hwa : ({ s.search with cur := true, nxt := none } : Reg).active = true := Reg.active_of_cur rfl
    refine ⟨h.r1q, nofun, ?_, fun _ => hwa, h.q1, h.r4, fun _ _ => hwa, ?_, ?_⟩
    · exact fun hh => h.excl ⟨hh.1, hsa⟩
    · have hb1 := h.b1
      rw [hsa] at hb1
      exact hb1.trans (congrArg (s.bmCount + if · && _ then 1 else 0) hwa.symm)
    · exact fun _ hpn => absurd (.inl (List.mem_singleton.2 rfl)) hpn
  | pSetOpt => exact h.stay rfl rfl rfl rfl (fun _ hpn => absurd (.inl (List.mem_singleton.2 rfl)) hpn)
  | pNotify t =>
    refine h.stay rfl rfl rfl rfl (fun hf hpn => ?_)
    have hrt : r ≠ t := by
      intro e; subst e; cases (upd_same s.flag r true).symm.trans hf
    have hne : Out.notify r ≠ Out.notify t := by intro e; cases e; exact hrt rfl
    refine need_congr rfl rfl rfl rfl _ (h.ne ((upd_other _ _ _ _ hrt).symm.trans hf) (fun hh => hpn ?_))
    rcases hh with hh | hh
    · exact .inl ((List.mem_erase_of_ne hne).2 hh)
    · exact .inr hh
  | _ => exact h.frame rfl (.inl rfl) rfl

theorem reach_G3 {r : Fin n} {s : St n} (h : Reach r s) : G3 r s := by
  induction h with
  | init => exact init_G3 r
  | step s s' e hr hs ih => exact step_G3 (reach_G1 hr) ih e hs

end Conc
