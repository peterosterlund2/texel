import TexelVerif.Conc.StepG2
import TexelVerif.Conc.StepG3
import TexelVerif.Conc.InvAux
/-! Progress: a state in which every thread is blocked is never inside a stop-ack collection, and a
    thread that is not blocked has an enabled step of its own. -/
namespace Conc

variable {n : Nat}

/-- the thread owning `v` cannot move: nothing pending, and either inside `Notifier::wait` with the flag clear or terminated -/
def Blocked (s : St n) (v : Fin n) : Prop :=
  s.out v = [] ∧ ((isWaitPc (s.pc v) = true ∧ s.flag v = false) ∨ s.pc v = .done ∨ s.pc v = .edone ∨ s.pc v = .gone)

theorem Blocked.flag {s : St n} {v : Fin n} (hb : Blocked s v) (hw : isWaitPc (s.pc v) = true) : s.flag v = false := by
  rcases hb.2 with ⟨_, hf⟩ | hd | hd | hd
  · exact hf
  all_goals rw [hd] at hw; cases hw

theorem wait_of_helper {p : Pc} (hw : isWaitPc p = true) (hk : isEnginePc p = false) : p = .wait := by
  cases p with
  | wait => rfl
  | ewait | ecwait | eqwait => cases hk
  | _ => cases hw

theorem G7.none_gone {r : Fin n} {s : St n} (h7 : G7 r s) (hact : s.search.active = true ∨ s.quitF.active = true) :
    ∀ v, s.alive v = true → s.pc v ≠ .gone := by
  intro v hv hg
  obtain ⟨a, b, c, d⟩ := h7.gn v hv hg
  simp [Reg.active, a, b, c, d] at hact

theorem blocked_helper {r : Fin n} {s : St n} (h1 : G1 r s) (h2 : G2 r s) (hng : ∀ v, s.alive v = true → s.pc v ≠ .gone)
    {c : Fin n} (hc : s.alive c = true) (hcr : c ≠ r) (hb : Blocked s c) : (s.pc c = .wait ∧ s.q c = []) ∨ s.pc c = .done := by
  have hk : isEnginePc (s.pc c) = false := by
    cases hh : isEnginePc (s.pc c)
    · rfl
    · exact absurd ((h1.pcKind c hc).1 hh) hcr
  rcases hb.2 with ⟨hw, hf⟩ | hd | hd | hd
  · have hpw := wait_of_helper hw hk
    exact .inl ⟨hpw, h2.nq c hc (by rw [hpw]; rfl) hf⟩
  · exact .inr hd
  · rw [hd] at hk; cases hk
  · exact absurd hd (hng c hc)

/-- a helper with outstanding child acks cannot be blocked together with its whole subtree -/
theorem no_stuck_round {r : Fin n} {s : St n} (h1 : G1 r s) (h2 : G2 r s) (h5 : G5 r s) (hq : quitPc (s.pc r) = false)
    (hng : ∀ v, s.alive v = true → s.pc v ≠ .gone)
    (hall : ∀ v, s.alive v = true → Blocked s v) :
    ∀ p, s.alive p = true → ¬ (0 < s.childWait p ∧ s.out p = [] ∧ s.q p = []) := by
  refine h1.no_descent _ fun p hp ⟨hcw, hop, hqp⟩ => ?_
  rw [h1.sum p hp] at hcw
  obtain ⟨c, hc, hd⟩ := sumCh_pos s p _ hcw
  have hca : s.alive c = true := ((isChild_iff s p c).1 hc).1
  have hbc := hall c hca
  rcases blocked_helper h1 h2 hng hca (h1.child_ne_root hc) hbc with ⟨hpcc, hqc⟩ | hdn
  · unfold debt at hd
    rw [hqc, hop, hqp, hbc.1] at hd
    -- only the "c is inside its round" term is left
    have hir : inRound s c = true := by
      cases hh : inRound s c
      · rw [hh] at hd; simp [cStop, pStop, cAck, pAck] at hd
      · rfl
    simp only [inRound, Bool.or_eq_true, decide_eq_true_eq] at hir
    rcases hir with hsw | hcwc
    · have := h2.ns c hca hsw
      rw [hpcc] at this; cases this
    · exact ⟨c, hc, hcwc, hbc.1, hqc⟩
  · -- a helper leaves its loop only in the quit phase
    have := h2.qphase c hca (.inr (.inr (by rw [h5.dn c hca hdn]; decide)))
    rw [hq] at this; cases this

/-- **no stuck ack collection**: if every thread is blocked, the engine thread is not waiting for stop acks -/
theorem collect_not_stuck {r : Fin n} {s : St n} (hr : Reach r s) (hall : ∀ v, s.alive v = true → Blocked s v) :
    s.pc r ≠ .ecwait := by
  intro hpc
  have h1 := reach_G1 hr
  have h2 := reach_G2 hr
  have hra := h1.rootAlive
  have hb := hall r hra
  have hqr : s.q r = [] := h2.nq r hra (by rw [hpc]; rfl) (hb.flag (by rw [hpc]; rfl))
  have hcw : 0 < s.childWait r := by
    have hir := (reach_G5 hr).ecw hpc
    simp only [inRound, Bool.or_eq_true, decide_eq_true_eq] at hir
    rcases hir with hsw | hcw
    · have := h2.ns r hra hsw; rw [hpc] at this; cases this
    · exact hcw
  have hng := G7.none_gone (reach_G7 hr) (.inl ((reach_G3 hr).s1 (by rw [hpc]; rfl)))
  exact no_stuck_round h1 h2 (reach_G5 hr) (by rw [hpc]; rfl) hng hall r hra ⟨hcw, hb.1, hqr⟩

/-- events performed by the thread that owns communicator `v` (the engine thread for `v = r`) -/
def Own (r v : Fin n) : Ev n → Prop
  | .waitRet w => w = v
  | .deq w => w = v
  | .pollEmpty w => w = v
  | .send w _ => w = v
  | .ackSelf w => w = v
  | .searchResult w => w = v
  | .searchLeave w _ => w = v
  | .tend w => w = v
  | .eRdPre _ => v = r
  | .eRd _ _ => v = r
  | .eOpts _ => v = r
  | .eBegin => v = r
  | .eInit => v = r
  | .eJobNext => v = r
  | .eSearchDone => v = r
  | .eHoldDone => v = r
  | .eBest => v = r
  | .eStopSend => v = r
  | .eSearchEnd => v = r
  | .eQuitSend => v = r
  | _ => False

/-- the engine thread's step where it neither waits, polls nor loads a flag -/
def engineEv (s : St n) : Pc → Ev n
  | .eQ0 => .eRdPre .quit
  | .eS0 => .eRdPre .search
  | .ehold _ => .eRdPre .hold
  | .eOpts1 | .epost => .eOpts s.pend
  | .eGo => .eInit
  | .esearch => .eSearchDone
  | .ebest _ => .eBest
  | .estop => .eStopSend
  | .eend => .eSearchEnd
  | .eQuit0 => .eQuitSend
  | _ => .eBegin

/-- a thread that is not blocked has an enabled step of its own (the engine thread's critical sections
    need `EngineMainThread::mutex`, i.e. no store window of the protocol thread open) -/
theorem thread_enabled {r : Fin n} {s : St n} (h1 : G1 r s) (h5 : G5 r s) (v : Fin n) (va : s.alive v = true)
    (hnb : ¬ Blocked s v) (hwin : s.search.nxt = none ∧ s.quitF.nxt = none) :
    ∃ e, Own r v e ∧ (step r s e).isSome = true := by
  cases hout : s.out v with
  | cons o l => exact ⟨.send v o, rfl, by simp [step, stepSend, va, hout]⟩
  | nil =>
    have root : isEnginePc (s.pc v) = true → v = r := (h1.pcKind v va).1
    cases hpc : s.pc v with
    | done | edone | gone => exact absurd ⟨hout, .inr (by simp [hpc])⟩ hnb
    | wait | ewait | ecwait | eqwait =>
      have hf : s.flag v = true := by
        cases hf : s.flag v
        · exact absurd ⟨hout, .inl ⟨by rw [hpc]; rfl, hf⟩⟩ hnb
        · rfl
      exact ⟨.waitRet v, rfl, by simp [step, stepWaitRet, va, hout, hpc, isWaitPc, hf]⟩
    | poll | equit | ecollect =>
      cases hh : s.q v with
      | cons c rest => exact ⟨.deq v, rfl, by simp [step, stepDeq, va, hout, hpc, hh]⟩
      | nil => exact ⟨.pollEmpty v, rfl, by simp [step, stepPollEmpty, va, hout, hpc, hh, apply_ite Option.isSome]⟩
    | search j => exact ⟨.searchLeave v true, rfl, by simp [step, stepSearchLeave, va, hout, hpc]⟩
    | ackSelf | eack => exact ⟨.ackSelf v, rfl, by simp [step, stepAckSelf, va, hout, hpc, apply_ite Option.isSome]⟩
    | eQ1 =>
      obtain rfl := root (by rw [hpc]; rfl)
      rcases h5.rdq hpc with hh | hh
      · exact ⟨.eRd .quit false, rfl, by simp [step, stepERd, hout, hpc, Reg.seen, hh]⟩
      · exact ⟨.eRd .quit true, rfl, by simp [step, stepERd, hout, hpc, Reg.seen, hh]⟩
    | eS1 =>
      obtain rfl := root (by rw [hpc]; rfl)
      rcases h5.rds hpc with hh | hh
      · exact ⟨.eRd .search false, rfl, by simp [step, stepERd, hout, hpc, Reg.seen, hh]⟩
      · exact ⟨.eRd .search true, rfl, by simp [step, stepERd, hout, hpc, Reg.seen, hh]⟩
    | _ =>
      obtain rfl := root (by rw [hpc]; rfl)
      refine ⟨engineEv s (s.pc v), by rw [hpc]; rfl, ?_⟩
      rw [hpc]; dsimp only [engineEv, step]
      simp [stepE, stepERdPre, stepEOpts, hout, hpc, hwin.1, hwin.2]

end Conc
