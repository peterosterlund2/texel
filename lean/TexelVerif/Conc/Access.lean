import TexelVerif.Conc.InvG4
/-! Shared locations of the thread communication layer, their protection discipline, and the accesses
    each model step performs (property C09).  The table is read off the C++ source; that the source's
    data members obey it (locks held at every site, atomic types, complete member list of the thread-layer classes) is checked
    statically by `Conc/LockTable.lean` + `Bridge/LockFacts.lean` over facts regenerated from the source (tools/locktie.py);
    what a lexical analysis cannot see (thread roles, globals, aliasing) is validated dynamically (ThreadSanitizer). -/
namespace Conc

variable {n : Nat}

/-- threads: the protocol thread and one thread per communicator (`T r` = engine thread) -/
inductive Thr (n : Nat) where
  | P : Thr n
  | T (v : Fin n) : Thr n
deriving DecidableEq, Repr

inductive Lock (n : Nat) where
  | qmutex (v : Fin n) : Lock n     -- Communicator::mutex of v
  | nmutex (v : Fin n) : Lock n     -- Notifier::mutex of v's notifier
  | emutex : Lock n                 -- EngineMainThread::mutex
deriving DecidableEq, Repr

inductive Loc (n : Nat) where
  | queue (v : Fin n) : Loc n       -- Communicator::cmdQueue                       guarded by qmutex v
  | flag (v : Fin n) : Loc n        -- Notifier::notified                           guarded by nmutex v
  | counters (v : Fin n) : Loc n    -- stopAckWaitSelf/Children, quitAckWaitChildren owned by the thread of v
  | job (v : Fin n) : Loc n         -- WorkerThread: jobId, hasResult, pos, sti, kt, ht, et …   owned by the thread of v
  | children (v : Fin n) : Loc n    -- Communicator::children: written under qmutex v (addChild / removeChild),
                                    -- read WITHOUT the lock by the thread of v (sendXxx loops, poll's doPoll loop)
  | regs : Loc n                    -- search, quitFlag, ponder, infinite            std::atomic<bool>
  | params : Loc n                  -- EngineMainThread: engineControl, sc, pos, moves, … : written by P under emutex
                                    -- while the engine thread is outside doSearch, read by it inside doSearch without lock
  | pending : Loc n                 -- pendingOptions, optionsSetFinished            guarded by emutex
  | options : Loc n                 -- UCI parameter values, table-base globals, hash size: written by the engine thread
                                    -- in setOptions (no lock), read by every searching thread and by P when it starts a search
  | ttGen : Loc n                   -- TranspositionTable::generation: written by P (nextGeneration) before a search, read by searchers
  | ttData : Loc n                  -- table slots, node counters, time limits        relaxed atomics
deriving DecidableEq, Repr

def Loc.atomic : Loc n → Bool
  | .regs => true
  | .ttData => true
  | _ => false

structure Acc (n : Nat) where
  loc : Loc n
  write : Bool
  lock : Option (Lock n)
deriving DecidableEq, Repr

def rd (l : Loc n) (k : Option (Lock n) := none) : Acc n := ⟨l, false, k⟩
def wr (l : Loc n) (k : Option (Lock n) := none) : Acc n := ⟨l, true, k⟩

/-- the thread that performs an event -/
def thr (r : Fin n) : Ev n → Thr n
  | .waitRet v => .T v
  | .deq v => .T v
  | .pollEmpty v => .T v
  | .send v _ => .T v
  | .ackSelf v => .T v
  | .searchResult v => .T v
  | .searchLeave v _ => .T v
  | .spawn v _ => .T v          -- the new thread itself registers with its parent (`addChild`)
  | .tend v => .T v
  | .exit _ => .P               -- `~WorkerThread` runs in the protocol thread (`removeChild`)
  | .pWr _ _ => .P
  | .pWd _ => .P
  | .pWaitStop => .P
  | .pWaitOpts => .P
  | .pSetOpt => .P
  | .pNotify _ => .P
  | _ => .T r                   -- engine thread

/-- reads performed by a thread that is inside a search (`Search::negaScout…`) -/
def searchReads : List (Acc n) := [rd .options, rd .ttGen, wr .ttData]

/-- accesses of one model step (including the thread-local work that follows it up to the next step of the same thread) -/
def acc (r : Fin n) (s : St n) : Ev n → List (Acc n)
  | .waitRet v => [wr (.flag v) (some (.nmutex v))]
  | .deq v =>
      -- pop under the queue mutex, then the handler: counters, job state, broadcasts over `children`
      [wr (.queue v) (some (.qmutex v)), wr (.counters v), wr (.job v), rd (.children v)] ++
      (if isSearch (s.pc v) || s.pc v == .esearch then searchReads else [])
  | .pollEmpty v =>
      [rd (.queue v) (some (.qmutex v)), rd (.children v), wr (.counters v), wr (.job v)] ++
      (if isSearch (s.pc v) || s.pc v == .esearch then searchReads else [])
  | .send _ (.enq t _) => [wr (.queue t) (some (.qmutex t)), wr (.flag t) (some (.nmutex t))]
  | .send _ (.notify t) => [wr (.flag t) (some (.nmutex t))]
  | .ackSelf v => [wr (.counters v)]
  | .searchResult v => [wr (.job v)] ++ searchReads
  | .searchLeave v _ => [wr (.job v)] ++ searchReads
  | .spawn v p => [wr (.children p) (some (.qmutex p)), wr (.counters v), wr (.job v)]
  | .tend _ => []
  | .exit v => match s.parent v with
      | some p => [wr (.children p) (some (.qmutex p))]
      | none => []
  | .eRdPre _ => [rd .regs]
  | .eRd _ _ => [rd .regs]
  | .eOpts k =>
      -- swap under emutex; the options taken are applied (Parameters::set, listeners) until the next eOpts
      [wr .pending (some .emutex)] ++ (if k || !s.optsFin then [wr .options] else [])
  | .eBegin => [rd .params, rd .options]
  | .eInit => [rd .params, rd (.children r), wr (.counters r)] ++ searchReads
  | .eJobNext => [rd (.children r), wr (.counters r)] ++ searchReads
  | .eSearchDone => [rd .params] ++ searchReads
  | .eHoldDone => [rd .regs, rd .params]
  | .eBest => [rd .params, wr .ttData]
  | .eStopSend => [rd (.children r), wr (.counters r)]
  | .eSearchEnd => [wr .regs (some .emutex)]
  | .eQuitSend => [rd (.children r), wr (.counters r)]
  | .pWr .search _ => [wr .params (some .emutex), rd .options, wr .ttGen, wr .regs (some .emutex)]
  | .pWr _ _ => [wr .regs]
  | .pWd _ => [wr .regs]
  | .pWaitStop => [rd .regs (some .emutex), wr .params (some .emutex)]
  | .pWaitOpts => [rd .pending (some .emutex)]
  | .pSetOpt => [wr .pending (some .emutex)]
  | .pNotify t => [wr (.flag t) (some (.nmutex t))]

/-- two accesses conflict: same location, at least one write, not both atomic, no common lock -/
def conflict (a b : Acc n) : Prop :=
  a.loc = b.loc ∧ (a.write = true ∨ b.write = true) ∧ a.loc.atomic = false ∧
  ¬ (∃ k, a.lock = some k ∧ b.lock = some k)

/-- `~Communicator` of a helper runs while its parent's thread is not running (blocked in `wait`, finished or terminated),
    or the parent is the root (the engine thread is in its main loop then).  The original C++ code did NOT
    guarantee this for helper parents (`worker-destroy-vs-poll`, repaired): the strict acceptor checks it per event. -/
def exitQuiet (r : Fin n) (s : St n) : Ev n → Prop
  | .exit v => match s.parent v with
      | some p => p = r ∨ s.pc p = .wait ∨ s.pc p = .done ∨ s.pc p = .gone
      | none => True
  | _ => True

end Conc
