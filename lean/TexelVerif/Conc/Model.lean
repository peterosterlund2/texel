/-! Executable protocol model of texel's thread communication layer
    (`lib/texellib/hw/parallel.cpp`, `app/texel/enginecontrol.cpp`, `Search::shouldStop`).

    Threads: the protocol thread `P` (UCIProtocol::mainLoop), the engine thread `E`
    (EngineMainThread::mainLoop, owner of the root communicator `r`) and one helper thread per
    non-root communicator.  Communicators are the slots `Fin n`; the tree (`parent`, `alive`)
    is part of the state and changes only by `spawn` / `exit`.

    Every step is one atomic action at a synchronisation point of the C++ code (the lock held
    there is named in the comment); thread-local updates are folded into the preceding
    synchronisation step of the same thread.  `step r s e` is a partial function: `none`
    means "event `e` is not enabled in `s`".  The theorems (Props/C10, Props/C09) quantify over
    all sequences of events; the trace acceptor (Drv/Proto) replays recorded hook events
    through this same function. -/
namespace Conc

variable {n : Nat}

/-- Commands in a communicator's queue (`Communicator::CommandType`).  `src`, `e` are ghost
    tags (sender, search epoch) that the C++ commands do not carry. -/
inductive Cmd (n : Nat) where
  | init : Cmd n
  | start (e j : Nat) : Cmd n
  | stop : Cmd n
  | quit : Cmd n
  | report (src : Fin n) (e j : Nat) : Cmd n
  | ack (src : Fin n) : Cmd n
  | quitAck (src : Fin n) : Cmd n
deriving DecidableEq, Repr

/-- A pending synchronisation action of a thread (it has decided to do it, but not yet done it). -/
inductive Out (n : Nat) where
  | enq (tgt : Fin n) (c : Cmd n) : Out n      -- lock tgt.mutex; (purge;) push; tgt.notifier.notify()
  | notify (tgt : Fin n) : Out n               -- tgt.notifier.notify()
deriving DecidableEq, Repr

/-- Program counters.  Helper threads: `wait … done` (`done`: left the loop after all QUIT_ACKs; `gone`: terminated by
    `~WorkerThread`, the communicator still exists); engine thread: `ewait … edone`. -/
inductive Pc where
  | wait | poll | search (j : Nat) | ackSelf | done | gone
  | ewait | eQ0 | eQ1 | eOpts1 | eS0 | eS1 | eBegin | eGo | esearch
  | ehold (ws : Bool) | ebest (ws : Bool)
  | estop | eack | ecollect | ecwait | epost | eend | eQuit0 | equit | eqwait | edone
deriving DecidableEq, Repr, Inhabited

/-- A flag written by `P` and read lock-free by `E` (std::atomic<bool>).  The hooks log a
    write as a window (`pWr` before, `pWd` after the store) and a read as `eRdPre` before the
    load and the outcome after it; a read may return any value the flag held in between. -/
structure Reg where
  cur : Bool := false
  nxt : Option Bool := none
  seenF : Bool := false
  seenT : Bool := false
deriving DecidableEq, Repr

inductive Var where
  | ponder | infinite | quit | search | hold
deriving DecidableEq, Repr

structure St (n : Nat) where
  -- tree of communicators
  parent : Fin n → Option (Fin n)
  alive : Fin n → Bool
  depth : Fin n → Nat                 -- ghost: strictly increasing from parent to child
  gen : Fin n → Nat                   -- ghost: number of STOPs this communicator has processed (root: stop rounds started)
  -- per communicator (queue guarded by its mutex, flag by the notifier's mutex,
  -- counters owned by the communicator's thread)
  q : Fin n → List (Cmd n)
  flag : Fin n → Bool                 -- Notifier::notified
  selfWait : Fin n → Bool             -- stopAckWaitSelf
  childWait : Fin n → Nat             -- stopAckWaitChildren
  quitWait : Fin n → Int              -- quitAckWaitChildren
  out : Fin n → List (Out n)          -- pending actions of the owning thread
  pc : Fin n → Pc
  -- per helper (thread-local)
  jobId : Fin n → Option Nat          -- WorkerThread::jobId (none = -1)
  jobEp : Fin n → Nat                 -- ghost: epoch of that job
  hasResult : Fin n → Bool
  -- engine thread
  ejob : Nat                          -- Search::jobId of the running search
  epoch : Nat                         -- ghost: number of searches started
  -- shared between P and E
  quitF : Reg
  search : Reg
  ponder : Reg
  infinite : Reg
  pend : Bool                         -- pendingOptions non-empty   (EngineMainThread::mutex)
  optsFin : Bool                      -- optionsSetFinished          (EngineMainThread::mutex)
  pOut : List (Out n)                 -- pending actions of P
  goCount : Nat                       -- ghost
  bmCount : Nat                       -- ghost

def upd {α : Type} (f : Fin n → α) (v : Fin n) (x : α) : Fin n → α := fun i => if i = v then x else f i

@[simp] theorem upd_same {α : Type} (f : Fin n → α) (v : Fin n) (x : α) : upd f v x v = x := by simp [upd]
@[simp] theorem upd_other {α : Type} (f : Fin n → α) (v w : Fin n) (x : α) (h : w ≠ v) : upd f v x w = f w := by
  simp [upd, h]
@[simp] theorem upd_self {α : Type} (f : Fin n → α) (v : Fin n) : upd f v (f v) = f := by
  funext w; by_cases h : w = v
  · subst h; simp [upd]
  · simp [upd, h]
theorem upd_apply {α : Type} (f : Fin n → α) (v w : Fin n) (x : α) : upd f v x w = if w = v then x else f w := rfl

theorem upd_keep {α : Type} (f : Fin n → α) (v : Fin n) : f = upd f v (f v) := (upd_self f v).symm

theorem eq_upd_same {α : Type} {f' f : Fin n → α} {v : Fin n} {x : α} (h : f' = upd f v x) : f' v = x := by
  rw [h, upd_same]

theorem eq_upd_other {α : Type} {f' f : Fin n → α} {v w : Fin n} {x : α} (h : f' = upd f v x) (hw : w ≠ v) : f' w = f w := by
  rw [h, upd_other _ _ _ _ hw]

theorem upd_congr_at {α β : Type} (g : α → β) {f : Fin n → α} {v : Fin n} {x : α} (h : g x = g (f v)) (w : Fin n) :
    g (upd f v x w) = g (f w) := by
  by_cases hw : w = v
  · subst hw; rw [upd_same, h]
  · rw [upd_other _ _ _ _ hw]

theorem upd_true_or (f : Fin n → Bool) (t r : Fin n) : upd f t true r = f r ∨ upd f t true r = true := by
  by_cases hrt : r = t
  · subst hrt; exact .inr (upd_same ..)
  · exact .inl (upd_other _ _ _ _ hrt)

/-! ### Tree -/

def isChild (s : St n) (p c : Fin n) : Bool := s.alive c && (s.parent c == some p)
def children (s : St n) (p : Fin n) : List (Fin n) := (List.finRange n).filter (isChild s p)
def nChildren (s : St n) (p : Fin n) : Nat := (children s p).length
/-- one pending enqueue of `c` per child of `p` (`for (auto& c : children) c->doSend…`) -/
def bcast (s : St n) (p : Fin n) (c : Cmd n) : List (Out n) := (children s p).map (fun x => Out.enq x c)
/-- `if (parent) parent->doSend…` -/
def toParent (s : St n) (v : Fin n) (c : Cmd n) : List (Out n) :=
  match s.parent v with
  | some p => [Out.enq p c]
  | none => []

/-! ### Queues -/

/-- removed by `doSendStartSearch` / `doSendStopSearch` before pushing -/
def Cmd.purgeable : Cmd n → Bool
  | .start _ _ => true
  | .stop => true
  | .report _ _ _ => true
  | _ => false

def Cmd.isPurger : Cmd n → Bool
  | .start _ _ => true
  | .stop => true
  | _ => false

def purge (l : List (Cmd n)) : List (Cmd n) := l.filter (fun c => !c.purgeable)

def pushCmd (l : List (Cmd n)) (c : Cmd n) : List (Cmd n) :=
  (if c.isPurger then purge l else l) ++ [c]

/-- perform a pending action (atomic: the push and the notify are both inside tgt.mutex, and
    the hook logs them as one event from inside the notifier's mutex) -/
def applyOut (s : St n) : Out n → St n
  | .notify t => { s with flag := upd s.flag t true }
  | .enq t c => { s with q := upd s.q t (pushCmd (s.q t) c), flag := upd s.flag t true }

/-! ### Command handlers of a helper thread (`WorkerThread::CommHandler`), run after the pop -/

def handleW (s : St n) (v : Fin n) : Cmd n → St n
  | .init =>
      { s with jobId := upd s.jobId v none, out := upd s.out v (bcast s v .init) }
  | .start e j =>
      { s with jobId := upd s.jobId v (some j), jobEp := upd s.jobEp v e,
               hasResult := upd s.hasResult v false, out := upd s.out v (bcast s v (.start e j)) }
  | .stop =>
      { s with selfWait := upd s.selfWait v true, childWait := upd s.childWait v (nChildren s v),
               jobId := upd s.jobId v none, out := upd s.out v (Out.notify v :: bcast s v .stop),
               gen := upd s.gen v (s.gen v + 1) }
  | .quit =>
      if nChildren s v = 0 then
        { s with quitWait := upd s.quitWait v 0, out := upd s.out v (toParent s v (.quitAck v)) }
      else
        { s with quitWait := upd s.quitWait v (nChildren s v), out := upd s.out v (bcast s v .quit) }
  | .report _ e j =>
      if s.hasResult v = false ∧ s.jobId v = some j then
        { s with hasResult := upd s.hasResult v true, out := upd s.out v (toParent s v (.report v e j)) }
      else s
  | .ack _ =>
      { s with childWait := upd s.childWait v (s.childWait v - 1),
               out := upd s.out v (if s.selfWait v = false ∧ s.childWait v - 1 = 0 then toParent s v (.ack v) else []) }
  | .quitAck _ =>
      { s with quitWait := upd s.quitWait v (s.quitWait v - 1),
               out := upd s.out v (if s.quitWait v - 1 = 0 then toParent s v (.quitAck v) else []) }

/-- handlers of the engine thread: `Search::shouldStop` (only REPORT_RESULT, no state), the
    stop-ack collection loop of `EngineMainThread::doSearch`, the quit-ack loop of `mainLoop` -/
def handleE (s : St n) (v : Fin n) (pc : Pc) (c : Cmd n) : St n :=
  match pc, c with
  | .ecollect, .ack _ => { s with childWait := upd s.childWait v (s.childWait v - 1) }
  | .equit, .quitAck _ => { s with quitWait := upd s.quitWait v (s.quitWait v - 1) }
  | _, _ => s

/-! ### Registers -/

def getReg (s : St n) : Var → Reg
  | .ponder => s.ponder
  | .infinite => s.infinite
  | .quit => s.quitF
  | .search => s.search
  | .hold => s.ponder

def setReg (s : St n) (x : Var) (g : Reg) : St n :=
  match x with
  | .ponder => { s with ponder := g }
  | .infinite => { s with infinite := g }
  | .quit => { s with quitF := g }
  | .search => { s with search := g }
  | .hold => s

def Reg.snap (g : Reg) : Reg :=
  { g with seenF := (g.cur == false) || (g.nxt == some false), seenT := (g.cur == true) || (g.nxt == some true) }

def Reg.wr (g : Reg) (b : Bool) : Reg :=
  { g with nxt := some b, seenF := g.seenF || !b, seenT := g.seenT || b }

def Reg.seen (g : Reg) (b : Bool) : Bool := if b then g.seenT else g.seenF

/-! ### Events -/

inductive Ev (n : Nat) where
  -- any communicator-owning thread
  | waitRet (v : Fin n)             -- Notifier::wait returns (notifier mutex): needs flag, clears it
  | deq (v : Fin n)                 -- Communicator::poll pops the head (queue mutex) and runs the handler
  | pollEmpty (v : Fin n)           -- Communicator::poll sees an empty queue (queue mutex)
  | send (v : Fin n) (o : Out n)    -- v's thread performs one pending action
  -- helper threads
  | ackSelf (v : Fin n)             -- comm->sendStopAck(false) at the bottom of the loop / in doSearch
  | searchResult (v : Fin n)        -- own search returned a score: sendReportResult(jobId, score)
  | searchLeave (v : Fin n) (max : Bool)  -- doSearch returns (StopSearch, or maximum depth reached)
  | spawn (v p : Fin n)             -- new helper thread v with parent p (createWorkers)
  | tend (v : Fin n)                -- helper thread terminated by ~WorkerThread (`terminate`; notify; join)
  | exit (v : Fin n)                -- its communicator is destroyed (`removeChild`)
  -- engine thread
  | eRdPre (x : Var) | eRd (x : Var) (b : Bool)
  | eOpts (k : Bool)                -- setOptions: swap pending options (E.mutex); k = some were pending
  | eBegin | eInit | eJobNext | eSearchDone | eHoldDone | eBest | eStopSend | eSearchEnd | eQuitSend
  -- protocol thread
  | pWr (x : Var) (b : Bool) | pWd (x : Var) | pWaitStop | pWaitOpts | pSetOpt
  | pNotify (t : Fin n)             -- P calls t.notifier.notify() (quit, startSearch, setOption, ~WorkerThread)
deriving DecidableEq, Repr

def isWaitPc : Pc → Bool
  | .wait | .ewait | .ecwait | .eqwait => true
  | _ => false

def afterWait : Pc → Pc
  | .wait => .poll
  | .ewait => .eQ0
  | .ecwait => .ecollect
  | .eqwait => .equit
  | p => p

def stepWaitRet (s : St n) (v : Fin n) : Option (St n) :=
  if s.alive v = true ∧ s.out v = [] ∧ isWaitPc (s.pc v) = true ∧ s.flag v = true then
    some { s with flag := upd s.flag v false, pc := upd s.pc v (afterWait (s.pc v)) }
  else none

def stepDeq (s : St n) (v : Fin n) : Option (St n) :=
  if s.alive v = true ∧ s.out v = [] then
    match s.q v with
    | [] => none
    | c :: rest =>
      let s1 := { s with q := upd s.q v rest }
      match s.pc v with
      | .poll => some (handleW s1 v c)
      | .search _ => some (handleW s1 v c)
      | .esearch => some s1
      | .ecollect => some (handleE s1 v .ecollect c)
      | .equit => some (handleE s1 v .equit c)
      | _ => none
  else none

def stepPollEmpty (s : St n) (v : Fin n) : Option (St n) :=
  if s.alive v = true ∧ s.out v = [] ∧ s.q v = [] then
    match s.pc v with
    | .poll =>
        -- `if (comm->hasQuitAck()) break; if (jobId != -1) doSearch(handler); comm->sendStopAck(false);`
        some { s with pc := upd s.pc v (if s.quitWait v = 0 then .done else
                                        match s.jobId v with
                                        | some j => .search j
                                        | none => .ackSelf) }
    | .search _ => some s
    | .esearch => some s
    | .ecollect =>
        -- `if (comm->hasStopAck()) break; notifierWait();` … `notifier.notify();`
        if s.childWait v = 0 ∧ s.selfWait v = false then
          some { s with pc := upd s.pc v .epost, out := upd s.out v [Out.notify v] }
        else some { s with pc := upd s.pc v .ecwait }
    | .equit => some { s with pc := upd s.pc v (if s.quitWait v = 0 then .edone else .eqwait) }
    | _ => none
  else none

def stepSend (s : St n) (v : Fin n) (o : Out n) : Option (St n) :=
  if s.alive v = true ∧ o ∈ s.out v then
    some (applyOut { s with out := upd s.out v ((s.out v).erase o) } o)
  else none

def stepAckSelf (s : St n) (v : Fin n) : Option (St n) :=
  if s.alive v = true ∧ s.out v = [] then
    match s.pc v with
    | .ackSelf =>
        -- Communicator::sendStopAck(false)
        if s.selfWait v = true then
          some { s with selfWait := upd s.selfWait v false, pc := upd s.pc v .wait,
                        out := upd s.out v (if s.childWait v = 0 then toParent s v (.ack v) else []) }
        else some { s with pc := upd s.pc v .wait }
    | .eack => some { s with selfWait := upd s.selfWait v false, pc := upd s.pc v .ecollect }
    | _ => none
  else none

def stepSearchResult (s : St n) (v : Fin n) : Option (St n) :=
  if s.alive v = true ∧ s.out v = [] then
    match s.pc v with
    | .search j =>
        -- WorkerThread::sendReportResult(jobId, score) with the job id the search was started with
        if s.hasResult v = false ∧ s.jobId v = some j then
          some { s with hasResult := upd s.hasResult v true,
                        out := upd s.out v (toParent s v (.report v (s.jobEp v) j)) }
        else some s
    | _ => none
  else none

def stepSearchLeave (s : St n) (v : Fin n) (max : Bool) : Option (St n) :=
  if s.alive v = true ∧ s.out v = [] then
    match s.pc v with
    | .search j =>
        if max then some { s with jobId := upd s.jobId v none, pc := upd s.pc v .ackSelf }
        else if s.jobId v ≠ some j then some { s with pc := upd s.pc v .ackSelf }
        else none
    | _ => none
  else none

/-- the engine thread is in its main loop, outside `doSearch` and not quitting (threads are created and destroyed by
    the protocol thread only then: `EngineMainThread::startSearch` after `waitStop()`) -/
def mainLoopPc : Pc → Bool
  | .ewait | .eQ0 | .eQ1 | .eOpts1 | .eS0 | .eS1 => true
  | _ => false

/-- number of pending enqueues to `c` in `l` -/
def pendingTo (l : List (Out n)) (c : Fin n) : Nat :=
  (l.filter (fun o => match o with | .enq t _ => t == c | .notify _ => false)).length

def mentions (v : Fin n) : Cmd n → Bool
  | .report src _ _ => src == v
  | .ack src => src == v
  | .quitAck src => src == v
  | _ => false

/-- a new helper thread: `comm = make_unique<ThreadCommunicator>(parentComm, …)` (parent's queue mutex).
    The parent is the engine thread or a helper blocked in `Notifier::wait`.  The `pendingTo` and `mentions` guards
    (nothing from or for `v` in flight at the parent, as `parentClean` in `stepExit`) follow here from `out p = q p = []`. -/
def stepSpawn (r : Fin n) (s : St n) (v p : Fin n) : Option (St n) :=
  if s.alive v = false ∧ s.alive p = true ∧ v ≠ r ∧ v ≠ p ∧ s.q v = [] ∧ s.out v = [] ∧
     mainLoopPc (s.pc r) = true ∧ s.q p = [] ∧ s.out p = [] ∧ (p = r ∨ (s.pc p = .wait ∧ s.flag p = false)) ∧
     pendingTo (s.out p) v = 0 ∧ (s.q p).all (fun c => !mentions v c) = true ∧
     (List.finRange n).all (fun c => !(s.parent c == some v && s.alive c)) = true then
    some { s with alive := upd s.alive v true, parent := upd s.parent v (some p),
                  depth := upd s.depth v (s.depth p + 1), gen := upd s.gen v (s.gen p), pc := upd s.pc v .wait,
                  flag := upd s.flag v false, selfWait := upd s.selfWait v false,
                  childWait := upd s.childWait v 0, quitWait := upd s.quitWait v (-1),
                  jobId := upd s.jobId v none, hasResult := upd s.hasResult v false }
  else none

/-- nothing from or for `v` is in flight at its parent -/
def parentClean (s : St n) (v : Fin n) : Bool :=
  match s.parent v with
  | some p => decide (pendingTo (s.out p) v = 0) && (s.q p).all (fun c => !mentions v c)
  | none => false

/-- no helper thread has been terminated whose communicator still exists (the protocol thread is not inside `createWorkers`) -/
def noGone (s : St n) : Bool := (List.finRange n).all (fun v => !(s.alive v && s.pc v == .gone))

/-- `~WorkerThread`: `terminate = true; threadNotifier.notify(); thread->join()` — the thread saw `terminate` after a
    wake-up (`pc = poll`) -/
def stepTend (r : Fin n) (s : St n) (v : Fin n) : Option (St n) :=
  if s.alive v = true ∧ v ≠ r ∧ s.pc v = .poll ∧ s.out v = [] ∧ s.q v = [] ∧ s.selfWait v = false ∧ s.childWait v = 0 ∧
     s.jobId v = none ∧ mainLoopPc (s.pc r) = true ∧ s.search.cur = false ∧ s.search.nxt = none ∧ s.quitF.cur = false ∧ s.quitF.nxt = none then
    some { s with pc := upd s.pc v .gone }
  else none

/-- `~Communicator` of a terminated helper: `parent->removeChild(this)` (its own children are gone already) -/
def stepExit (r : Fin n) (s : St n) (v : Fin n) : Option (St n) :=
  if s.alive v = true ∧ v ≠ r ∧ s.pc v = .gone ∧ s.out v = [] ∧ s.q v = [] ∧ mainLoopPc (s.pc r) = true ∧
     s.selfWait v = false ∧ s.childWait v = 0 ∧ s.jobId v = none ∧ nChildren s v = 0 ∧
     parentClean s v = true then
    some { s with alive := upd s.alive v false }
  else none

/-! ### Engine thread (all at index `r`) -/

def setPc (s : St n) (v : Fin n) (p : Pc) : St n := { s with pc := upd s.pc v p }

def stepERdPre (r : Fin n) (s : St n) (x : Var) : Option (St n) :=
  if s.out r = [] then
    match x, s.pc r with
    | .quit, .eQ0 => some (setPc { s with quitF := s.quitF.snap } r .eQ1)
    | .search, .eS0 => some (setPc { s with search := s.search.snap } r .eS1)
    | .hold, .ehold _ => some { s with ponder := s.ponder.snap, infinite := s.infinite.snap }
    | .hold, .eGo => some { s with ponder := s.ponder.snap, infinite := s.infinite.snap }   -- book move
    | _, _ => none
  else none

def stepERd (r : Fin n) (s : St n) (x : Var) (b : Bool) : Option (St n) :=
  if s.out r = [] then
    match x, s.pc r with
    | .quit, .eQ1 => if s.quitF.seen b then some (setPc s r (if b then .eQuit0 else .eOpts1)) else none
    | .search, .eS1 => if s.search.seen b then some (setPc s r (if b then .eBegin else .ewait)) else none
    | _, _ => none
  else none

/-- `EngineMainThread::setOptions` critical section (E.mutex; P's stores to `search` / `quitFlag` are
    inside the same mutex, so no store window is open) -/
def stepEOpts (r : Fin n) (s : St n) (k : Bool) : Option (St n) :=
  if s.out r = [] ∧ k = s.pend ∧ s.search.nxt = none ∧ s.quitF.nxt = none then
    match s.pc r with
    | .eOpts1 => some (if k then { s with pend := false } else setPc { s with optsFin := true } r .eS0)
    | .epost => some (if k then { s with pend := false } else setPc { s with optsFin := true } r .eend)
    | _ => none
  else none

def stepE (r : Fin n) (s : St n) : Ev n → Option (St n)
  | .eBegin =>
      if s.out r = [] ∧ s.pc r = .eBegin then some (setPc { s with ejob := 0 } r .eGo) else none
  | .eInit =>
      -- Search::iterativeDeepening → comm.sendInitSearch
      if s.out r = [] ∧ s.pc r = .eGo then
        some (setPc { s with out := upd s.out r (bcast s r .init) } r .esearch) else none
  | .eJobNext =>
      -- Search::negaScoutRoot: jobId++; comm.sendStartSearch
      if s.out r = [] ∧ s.pc r = .esearch then
        some { s with ejob := s.ejob + 1, out := upd s.out r (bcast s r (.start s.epoch (s.ejob + 1))) } else none
  | .eSearchDone =>
      if s.out r = [] ∧ s.pc r = .esearch then some (setPc s r (.ehold true)) else none
  | .eHoldDone =>
      -- `while (*ponder || *infinite)` left: both were read as false
      if s.out r = [] ∧ s.ponder.seenF = true ∧ s.infinite.seenF = true then
        match s.pc r with
        | .eGo => some (setPc s r (.ebest false))        -- book move: no search was run
        | .ehold ws => some (setPc s r (.ebest ws))
        | _ => none
      else none
  | .eBest =>
      -- engineControl->finishSearch: the one `bestmove` line
      if s.out r = [] then
        match s.pc r with
        | .ebest ws => some (setPc { s with bmCount := s.bmCount + 1 } r (if ws then .estop else .epost))
        | _ => none
      else none
  | .eStopSend =>
      -- comm->sendStopSearch()
      if s.out r = [] ∧ s.pc r = .estop then
        some (setPc { s with selfWait := upd s.selfWait r true, childWait := upd s.childWait r (nChildren s r),
                             out := upd s.out r (Out.notify r :: bcast s r .stop),
                             gen := upd s.gen r (s.gen r + 1) } r .eack) else none
  | .eSearchEnd =>
      -- `search = false` (E.mutex) ; searchStopped.notify_all()
      if s.out r = [] ∧ s.pc r = .eend ∧ s.search.nxt = none ∧ s.quitF.nxt = none then
        some (setPc { s with search := { s.search with cur := false } } r .ewait) else none
  | .eQuitSend =>
      -- comm->sendQuit()
      if s.out r = [] ∧ s.pc r = .eQuit0 then
        some (setPc (if nChildren s r = 0 then { s with quitWait := upd s.quitWait r 0 }
                     else { s with quitWait := upd s.quitWait r (nChildren s r), out := upd s.out r (bcast s r .quit) }) r .equit)
      else none
  | _ => none

/-! ### Protocol thread -/

/-- P stores to an atomic flag: window opens (`pWr`, logged before the store) -/
def stepPWr (s : St n) : Var → Bool → Option (St n)
  | .ponder, b => if s.pOut = [] ∧ s.ponder.nxt = none then some { s with ponder := s.ponder.wr b } else none
  | .infinite, b => if s.pOut = [] ∧ s.infinite.nxt = none then some { s with infinite := s.infinite.wr b } else none
  | .quit, b =>
      -- EngineMainThread::quit, only after stopSearch()/waitStop()
      if s.pOut = [] ∧ s.quitF.nxt = none ∧ b = true ∧ s.search.cur = false ∧ s.search.nxt = none ∧ noGone s = true then
        some { s with quitF := s.quitF.wr true } else none
  | .search, b =>
      -- EngineMainThread::startSearch (E.mutex), only after waitStop() and waitOptionsSet(), never after quit
      if s.pOut = [] ∧ s.search.nxt = none ∧ b = true ∧ s.search.cur = false ∧ s.quitF.cur = false ∧ s.quitF.nxt = none ∧
         s.optsFin = true ∧ noGone s = true then
        some { s with search := s.search.wr true, goCount := s.goCount + 1, epoch := s.epoch + 1 } else none
  | .hold, _ => none

/-- the store has happened (`pWd`, logged after it) -/
def stepPWd (r : Fin n) (s : St n) : Var → Option (St n)
  | .ponder => match s.ponder.nxt with
      | some b => some { s with ponder := { s.ponder with cur := b, nxt := none } }
      | none => none
  | .infinite => match s.infinite.nxt with
      | some b => some { s with infinite := { s.infinite with cur := b, nxt := none } }
      | none => none
  | .quit => match s.quitF.nxt with
      | some b => some { s with quitF := { s.quitF with cur := b, nxt := none }, pOut := [Out.notify r] }
      | none => none
  | .search => match s.search.nxt with
      | some b => some { s with search := { s.search with cur := b, nxt := none }, pOut := [Out.notify r] }
      | none => none
  | .hold => none

def stepP (r : Fin n) (s : St n) : Ev n → Option (St n)
  | .pWr x b => stepPWr s x b
  | .pWd x => stepPWd r s x
  | .pWaitStop => if s.search.cur = false ∧ s.search.nxt = none then some s else none
  | .pWaitOpts => if s.optsFin = true then some s else none
  | .pSetOpt => if s.pOut = [] then some { s with pend := true, optsFin := false, pOut := [Out.notify r] } else none
  | .pNotify t => some { s with flag := upd s.flag t true, pOut := s.pOut.erase (Out.notify t) }
  | _ => none

def step (r : Fin n) (s : St n) : Ev n → Option (St n)
  | .waitRet v => stepWaitRet s v
  | .deq v => stepDeq s v
  | .pollEmpty v => stepPollEmpty s v
  | .send v o => stepSend s v o
  | .ackSelf v => stepAckSelf s v
  | .searchResult v => stepSearchResult s v
  | .searchLeave v m => stepSearchLeave s v m
  | .spawn v p => stepSpawn r s v p
  | .tend v => stepTend r s v
  | .exit v => stepExit r s v
  | .eRdPre x => stepERdPre r s x
  | .eRd x b => stepERd r s x b
  | .eOpts k => stepEOpts r s k
  | .pWr x b => stepP r s (.pWr x b)
  | .pWd x => stepP r s (.pWd x)
  | .pWaitStop => stepP r s .pWaitStop
  | .pWaitOpts => stepP r s .pWaitOpts
  | .pSetOpt => stepP r s .pSetOpt
  | .pNotify t => stepP r s (.pNotify t)
  | e => stepE r s e

/-- Initial state: only the root communicator exists, the engine thread is about to wait. -/
def init (r : Fin n) : St n where
  parent := fun _ => none
  alive := fun v => decide (v = r)
  depth := fun _ => 0
  gen := fun _ => 0
  q := fun _ => []
  flag := fun _ => false
  selfWait := fun _ => false
  childWait := fun _ => 0
  quitWait := fun _ => -1
  out := fun _ => []
  pc := fun v => if v = r then .ewait else .done
  jobId := fun _ => none
  jobEp := fun _ => 0
  hasResult := fun _ => false
  ejob := 0
  epoch := 0
  quitF := {}
  search := {}
  ponder := {}
  infinite := {}
  pend := false
  optsFin := true
  pOut := []
  goCount := 0
  bmCount := 0

/-- reachability over all interleavings -/
inductive Reach (r : Fin n) : St n → Prop where
  | init : Reach r (init r)
  | step (s s' : St n) (e : Ev n) : Reach r s → step r s e = some s' → Reach r s'

/-- replay of an event list -/
def run (r : Fin n) (s : St n) : List (Ev n) → Except (Nat × St n) (St n)
  | [] => .ok s
  | e :: es =>
    match step r s e with
    | some s' => match run r s' es with
                 | .ok t => .ok t
                 | .error (k, t) => .error (k + 1, t)
    | none => .error (0, s)

end Conc
