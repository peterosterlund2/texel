import TexelVerif.Conc.StopAck
import TexelVerif.Conc.Debt
/-! Lemmas about the per-edge model of `Conc/StopAck.lean` (the debt invariant of DESIGN.md, Appendix B, on a static
    tree).  The C10 theorems do not use this file; they are about `Conc.G1` on the full model. -/
namespace Proto
variable {n : Nat} (T : Tree n)

theorem sumChildren_congr (p : Fin n) (f g : Fin n → Nat)
    (h : ∀ c, isChild T p c = true → f c = g c) : sumChildren T p f = sumChildren T p g := by
  unfold sumChildren
  congr 1
  apply List.map_congr_left
  intro c _
  by_cases hc : isChild T p c = true
  · simp [hc, h c hc]
  · simp [hc]

/-- changing f at one child c0 of p -/
theorem sumChildren_upd1 (p c0 : Fin n) (f g : Fin n → Nat) (hc0 : isChild T p c0 = true)
    (hfg : ∀ c, c ≠ c0 → f c = g c) : sumChildren T p f + g c0 = sumChildren T p g + f c0 := by
  unfold sumChildren
  have := Conc.sum_map_upd1 (fun c => if isChild T p c then f c else 0) (fun c => if isChild T p c then g c else 0)
    (List.finRange n) c0 (List.nodup_finRange n) (List.mem_finRange c0)
    (by intro c hc; show (if isChild T p c then f c else 0) = (if isChild T p c then g c else 0); rw [hfg c hc])
  simpa [hc0] using this

theorem cnt_append_ne (l : List (Cmd n)) (a x : Cmd n) (h : a ≠ x) : cnt (l ++ [a]) x = cnt l x := by
  simp [cnt, List.count_append, h]
theorem cnt_append_self (l : List (Cmd n)) (a : Cmd n) : cnt (l ++ [a]) a = cnt l a + 1 := by
  simp [cnt, List.count_append]

theorem selfAck_debt (hirr : ∀ v, T.parent v ≠ some v) (s : St n) (v : Fin n) (h : s.selfWait v = true)
    (p c : Fin n) (hpc : isChild T p c = true) :
    debt (let s1 : St n := { s with selfWait := fun x => if x = v then false else s.selfWait x }
          if s.childWait v = 0 then sendUp T s1 v else s1) p c = debt s p c := by
  simp only
  by_cases hz : s.childWait v = 0
  · rw [if_pos hz]
    unfold sendUp
    cases hp : T.parent v with
    | none =>
      simp only [debt]
      by_cases hcv : c = v
      · subst hcv
        -- c = v has a parent p, contradiction with parent v = none
        simp [isChild, hp] at hpc
      · simp [hcv]
    | some pv =>
      simp only [debt]
      have hvpv : v ≠ pv := fun e => hirr v (by rw [hp, e])
      by_cases hcv : c = v
      · subst hcv
        have hppv : p = pv := by
          simp [isChild, hp] at hpc; exact hpc.symm
        subst hppv
        simp [hvpv, h, hz, cnt_append_self]; omega
      · have hq : cnt (if p = pv then s.q p ++ [Cmd.ack v] else s.q p) (.ack c) = cnt (s.q p) (.ack c) := by
          by_cases hppv : p = pv
          · rw [if_pos hppv]; exact cnt_append_ne _ _ _ (by intro e; injection e with e; exact hcv e.symm)
          · rw [if_neg hppv]
        have hq2 : cnt (if c = pv then s.q c ++ [Cmd.ack v] else s.q c) .stop = cnt (s.q c) .stop := by
          by_cases hcpv : c = pv
          · rw [if_pos hcpv]; exact cnt_append_ne _ _ _ (by intro e; cases e)
          · rw [if_neg hcpv]
        simp [hcv, hq, hq2]
  · rw [if_neg hz]
    simp only [debt]
    by_cases hcv : c = v
    · subst hcv
      have : 0 < s.childWait c := by omega
      simp [h, this]
    · simp [hcv]

end Proto
