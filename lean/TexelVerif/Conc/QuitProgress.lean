import TexelVerif.Conc.StepG8
import TexelVerif.Conc.Progress
/-! The engine thread waits in the quit-ack loop only while acks are outstanding; the quit-ack
    collection cannot get stuck. -/
namespace Conc

variable {n : Nat}

theorem afterWait_quit {p : Pc} (hw : isWaitPc p = true) :
    postQuitPc (afterWait p) = false ∨ (postQuitPc p = true ∧ afterWait p ≠ .eqwait) := by
  cases p with
  | wait | ewait | ecwait => exact .inl rfl
  | eqwait => exact .inr ⟨rfl, nofun⟩
  | _ => cases hw

/-- only `sendQuit` and a handled QUIT_ACK set the root's counter, and neither leads to `eqwait` -/
theorem step_eqw_cases {r : Fin n} {s s' : St n} (h1 : G1 r s) (h8 : G8 r s) (e : Ev n) (hs : step r s e = some s') :
    (s'.pc r = s.pc r ∧ s'.quitWait r = s.quitWait r) ∨ postQuitPc (s'.pc r) = false ∨
    (postQuitPc (s.pc r) = true ∧ s'.quitWait r = s.quitWait r ∧ (s'.pc r = .eqwait → s.quitWait r ≠ 0)) ∨
    (0 ≤ s'.quitWait r ∧ s'.pc r ≠ .eqwait) := by
  have helper : ∀ v, isEnginePc (s.pc v) = false → r ≠ v := by
    intro v hk e; subst e
    rw [(h1.pcKind r h1.rootAlive).2 rfl] at hk; cases hk
  have root : ∀ v, s.alive v = true → isEnginePc (s.pc v) = true → v = r := fun v va => (h1.pcKind v va).1
  have out : ∀ {x : Pc}, postQuitPc x = false → postQuitPc (upd s.pc r x r) = false := by
    intro x hx; rw [upd_same]; exact hx
  cases step_Step hs with
  | waitRet v _ _ hw =>
    by_cases hrv : r = v
    · subst hrv
      rcases afterWait_quit hw with hx | ⟨hp, hx⟩
      · exact .inr (.inl (out hx))
      · exact .inr (.inr (.inl ⟨hp, rfl, fun hh => absurd ((upd_same _ _ _).symm.trans hh) hx⟩))
    · exact .inl ⟨upd_other _ _ _ _ hrv, rfl⟩
  | deqW v c rest _ _ _ hpc =>
    have hrv : r ≠ v := helper v (by rcases hpc with hpc | ⟨j, hpc⟩ <;> rw [hpc] <;> rfl)
    obtain ⟨ol, sw, cw, qw, g, jb, je, hr, he⟩ := handleW_shape { s with q := upd s.q v rest } v c
    rw [he]; exact .inl ⟨rfl, upd_other _ _ _ _ hrv⟩
  | deqCollect _ c | send _ c => cases c <;> exact .inl ⟨rfl, rfl⟩
  | deqQuit v c rest va _ hq hpc =>
    obtain rfl := root v va (by rw [hpc]; rfl)
    cases c with
    | quitAck d =>
      refine .inr (.inr (.inr ⟨?_, ?_⟩))
      · show 0 ≤ upd s.quitWait v (s.quitWait v - 1) v
        rw [upd_same]; exact Int.sub_nonneg_of_le (h8.qack_counted h1 va hq)
      · show s.pc v ≠ .eqwait
        rw [hpc]; nofun
    | _ => exact .inl ⟨rfl, rfl⟩
  | pollCollectDone v va _ _ hpc | pollCollectWait v va _ _ hpc | ackSelfE v va _ hpc =>
    obtain rfl := root v va (by rw [hpc]; rfl)
    exact .inr (.inl (out rfl))
  | pollQuit v va _ _ hpc =>
    obtain rfl := root v va (by rw [hpc]; rfl)
    refine .inr (.inr (.inl ⟨by rw [hpc]; rfl, rfl, fun hh hz => ?_⟩))
    have := (upd_same _ _ _).symm.trans hh
    rw [if_pos hz] at this; cases this
  | pollW v _ _ _ hpc | ackSelfW v _ _ hpc | ackSelfW0 v _ _ hpc | leaveMax v _ _ _ hpc | leaveStop v _ _ _ hpc =>
    exact .inl ⟨upd_other _ _ _ _ (helper v (by rw [hpc]; rfl)), rfl⟩
  | tend v _ hvr => exact .inl ⟨upd_other _ _ _ _ (Ne.symm hvr), rfl⟩
  | spawn v _ _ _ hvr => exact .inl ⟨upd_other _ _ _ _ (Ne.symm hvr), upd_other _ _ _ _ (Ne.symm hvr)⟩
  | rdPreQuit | rdPreSearch | optsDone | optsDonePost | eBegin | eInit | eSearchDone | eHoldDone | eStopSend | eSearchEnd =>
    exact .inr (.inl (out rfl))
  | rdQuit b | rdSearch b | eBest b => exact .inr (.inl (out (by cases b <;> rfl)))
  | eQuitSend0 | eQuitSendN =>
    refine .inr (.inr (.inr ⟨?_, ?_⟩))
    · show 0 ≤ upd s.quitWait r _ r
      rw [upd_same]; omega
    · show upd s.pc r .equit r ≠ .eqwait
      rw [upd_same]; nofun
  | _ => exact .inl ⟨rfl, rfl⟩

/-- after `sendQuit` the root's counter is non-negative, and positive in `eqwait` -/
theorem eqwait_outstanding {r : Fin n} {s : St n} (h : Reach r s) :
    (postQuitPc (s.pc r) = true → 0 ≤ s.quitWait r) ∧ (s.pc r = .eqwait → s.quitWait r ≠ 0) := by
  induction h with
  | init => exact ⟨by intro hp; simp [init, postQuitPc] at hp, by intro hp; simp [init] at hp⟩
  | step s s' e hr hs ih =>
    rcases step_eqw_cases (reach_G1 hr) (reach_G8 hr) e hs with ⟨a, b⟩ | a | ⟨a, b, c⟩ | ⟨a, b⟩
    · exact ⟨by rw [a, b]; exact ih.1, by rw [a, b]; exact ih.2⟩
    · refine ⟨fun hp => (by rw [a] at hp; cases hp), fun hp => ?_⟩
      rw [hp] at a; cases a
    · exact ⟨fun _ => by rw [b]; exact ih.1 a, fun hp => by rw [b]; exact c hp⟩
    · exact ⟨fun _ => a, fun hp => absurd hp b⟩

/-- a communicator with outstanding QUIT_ACKs cannot be blocked together with its whole subtree -/
theorem no_stuck_quit {r : Fin n} {s : St n} (h1 : G1 r s) (h2 : G2 r s) (h5 : G5 r s) (h8 : G8 r s)
    (hng : ∀ v, s.alive v = true → s.pc v ≠ .gone)
    (hall : ∀ v, s.alive v = true → Blocked s v) :
    ∀ p, s.alive p = true → ¬ (0 < s.quitWait p ∧ s.out p = [] ∧ s.q p = []) := by
  refine h1.no_descent _ fun p hp ⟨hqw, hop, hqp⟩ => ?_
  rw [h8.qsum p hp (Int.le_of_lt hqw)] at hqw
  obtain ⟨c, hc, hd⟩ := sumCh_pos s p _ (Int.ofNat_lt.1 hqw)
  have hca : s.alive c = true := ((isChild_iff s p c).1 hc).1
  have hbc := hall c hca
  unfold qdebt quitIn qackIn at hd
  rw [hop, hqp, hbc.1] at hd
  simp only [pQuit_nil, pQAck_nil, cQAck, List.count_nil, Nat.add_zero] at hd
  rcases blocked_helper h1 h2 hng hca (h1.child_ne_root hc) hbc with ⟨_, hqc⟩ | hpd
  · rw [hqc] at hd
    simp only [cQuit, List.count_nil, Nat.zero_add] at hd
    refine ⟨c, hc, ?_, hbc.1, hqc⟩
    by_cases hh : 0 < s.quitWait c
    · exact hh
    · rw [if_neg hh] at hd; cases hd
  · -- a helper that has left its loop has no QUIT on its way and owes nothing
    have hq0 := h5.dn c hca hpd
    rw [hq0, if_neg (by decide), Nat.add_zero] at hd
    have := h8.qpre p c hc (by unfold quitIn; rw [hop, pQuit_nil]; exact hd)
    rw [hq0] at this; cases this

/-- **no stuck quit-ack collection**: if every thread is blocked, the engine thread is not waiting for QUIT_ACKs -/
theorem quit_not_stuck {r : Fin n} {s : St n} (hr : Reach r s) (hall : ∀ v, s.alive v = true → Blocked s v) :
    s.pc r ≠ .eqwait := by
  intro hpc
  have h1 := reach_G1 hr
  have h2 := reach_G2 hr
  have hra := h1.rootAlive
  have hb := hall r hra
  have hqr : s.q r = [] := h2.nq r hra (by rw [hpc]; rfl) (hb.flag (by rw [hpc]; rfl))
  obtain ⟨hge, hne⟩ := eqwait_outstanding hr
  have hqw : 0 < s.quitWait r := Int.lt_iff_le_and_ne.2 ⟨hge (by rw [hpc]; rfl), Ne.symm (hne hpc)⟩
  have hng := G7.none_gone (reach_G7 hr) (.inr ((reach_G3 hr).q1 (by rw [hpc]; rfl)))
  exact no_stuck_quit h1 h2 (reach_G5 hr) (reach_G8 hr) hng hall r hra ⟨hqw, hb.1, hqr⟩

end Conc
