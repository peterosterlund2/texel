import TexelVerif.Conc.StepG4
/-! `G6`, results and epochs: a report never follows the same child's ack in a queue, reports come only from helpers the
    stop wave has not passed, and every START / REPORT / job carries the current search epoch. -/
namespace Conc

variable {n : Nat}

def Cmd.isReportFrom (src : Fin n) : Cmd n → Bool
  | .report s _ _ => s == src
  | _ => false

/-- in a queue, no REPORT_RESULT of a child follows a STOP_ACK of that child -/
def okOrder : List (Cmd n) → Bool
  | [] => true
  | c :: rest => (match c with
                  | .ack src => rest.all (fun d => !d.isReportFrom src)
                  | _ => true) && okOrder rest

def Out.isReport : Out n → Bool
  | .enq _ (.report _ _ _) => true
  | _ => false

def hasPReport (l : List (Out n)) : Bool := l.any Out.isReport
def hasReportFrom (l : List (Cmd n)) (src : Fin n) : Bool := l.any (Cmd.isReportFrom src)

theorem okOrder_iff (l : List (Cmd n)) :
    okOrder l = true ↔ l.Pairwise (fun a b => ∀ src, a = Cmd.ack src → b.isReportFrom src = false) := by
  induction l with
  | nil => exact ⟨fun _ => .nil, fun _ => rfl⟩
  | cons c rest ih =>
    rw [List.pairwise_cons, ← ih]
    cases c with
    | ack src =>
      simp only [okOrder, Bool.and_eq_true, List.all_eq_true, Bool.not_eq_true']
      exact and_congr_left' ⟨fun h b hb s e => (by cases e; exact h b hb), fun h b hb => h b hb src rfl⟩
    | _ =>
      simp only [okOrder, Bool.true_and]
      exact ⟨fun h => ⟨fun _ _ _ e => (by cases e), h⟩, fun h => h.2⟩

theorem okOrder_tail {c : Cmd n} {l : List (Cmd n)} (h : okOrder (c :: l) = true) : okOrder l = true :=
  (okOrder_iff l).2 ((okOrder_iff _).1 h).of_cons

theorem okOrder_head_ack {src : Fin n} {l : List (Cmd n)} (h : okOrder (Cmd.ack src :: l) = true) : hasReportFrom l src = false :=
  List.any_eq_false.2 fun x hx => by rw [List.rel_of_pairwise_cons ((okOrder_iff _).1 h) hx src rfl]; exact Bool.false_ne_true

theorem okOrder_pushCmd (l : List (Cmd n)) (c : Cmd n) (h : okOrder l = true)
    (hc : ∀ src, c.isReportFrom src = true → Cmd.ack src ∉ l) : okOrder (pushCmd l c) = true := by
  rw [okOrder_iff] at h ⊢
  unfold pushCmd
  refine List.pairwise_append.2 ⟨?_, List.pairwise_singleton _ _, fun a ha b hb src e => ?_⟩
  · split
    · exact h.sublist List.filter_sublist
    · exact h
  · rw [List.mem_singleton.1 hb]
    cases hr : c.isReportFrom src
    · rfl
    · refine absurd ?_ (hc src hr)
      rw [← e]
      split at ha
      · exact mem_purge ha
      · exact ha

/-- the stop wave has not passed helper `w`, and `w` has no ack on its way -/
def NotPassed (r : Fin n) (s : St n) (w : Fin n) : Prop :=
  (actR s r = true ∨ s.gen w + 1 = s.gen r) ∧ ∀ p, isChild s p w = true → ackIn s p w = 0

structure G6 (r : Fin n) (s : St n) : Prop where
  ord : ∀ p, s.alive p = true → okOrder (s.q p) = true
  /-- a helper about to send a report has not been passed by the stop wave and has no ack on its way -/
  pr : ∀ v, s.alive v = true → v ≠ r → hasPReport (s.out v) = true →
        (actR s r = true ∨ s.gen v + 1 = s.gen r) ∧ ∀ p, isChild s p v = true → ackIn s p v = 0
  /-- a queued report comes from a child whose stop round (as seen by the parent) is not over -/
  rp : ∀ p src, isChild s p src = true → hasReportFrom (s.q p) src = true →
        actR s r = true ∨ s.gen src + 1 = s.gen r ∨ 0 < stopIn s p src ∨ inRound s src = true ∨ 0 < ackIn s p src
  e1 : ∀ v e j, s.alive v = true → Cmd.start e j ∈ s.q v → e = s.epoch
  e2 : ∀ v t e j, s.alive v = true → Out.enq t (Cmd.start e j) ∈ s.out v → e = s.epoch
  e3 : ∀ v src e j, s.alive v = true → Cmd.report src e j ∈ s.q v → e = s.epoch
  e4 : ∀ v t src e j, s.alive v = true → Out.enq t (Cmd.report src e j) ∈ s.out v → e = s.epoch
  e5 : ∀ v, s.alive v = true → v ≠ r → s.jobId v ≠ none → s.jobEp v = s.epoch

theorem Cmd.eq_of_isReportFrom {c : Cmd n} {src : Fin n} (h : c.isReportFrom src = true) : ∃ e j, c = Cmd.report src e j := by
  cases c <;> simp [Cmd.isReportFrom] at h
  case report s e j => exact ⟨e, j, by rw [h]⟩

theorem mem_of_hasReportFrom {l : List (Cmd n)} {src : Fin n} (h : hasReportFrom l src = true) : ∃ e j, Cmd.report src e j ∈ l := by
  obtain ⟨x, hx, hr⟩ := List.any_eq_true.1 h
  obtain ⟨e, j, rfl⟩ := Cmd.eq_of_isReportFrom hr
  exact ⟨e, j, hx⟩

theorem hasReportFrom_of_mem {l : List (Cmd n)} {src : Fin n} {e j : Nat} (h : Cmd.report src e j ∈ l) : hasReportFrom l src = true := by
  unfold hasReportFrom; rw [List.any_eq_true]; exact ⟨_, h, by simp [Cmd.isReportFrom]⟩

theorem mem_of_hasPReport {l : List (Out n)} (h : hasPReport l = true) : ∃ t src e j, Out.enq t (Cmd.report src e j) ∈ l := by
  obtain ⟨x, hx, hr⟩ := List.any_eq_true.1 h
  match x, hr with
  | .enq t (.report src e j), _ => exact ⟨t, src, e, j, hx⟩

theorem hasPReport_of_mem {l : List (Out n)} {t src : Fin n} {e j : Nat} (h : Out.enq t (Cmd.report src e j) ∈ l) : hasPReport l = true := by
  unfold hasPReport; rw [List.any_eq_true]; exact ⟨_, h, rfl⟩

theorem hasPReport_erase {l : List (Out n)} {o : Out n} (h : hasPReport (l.erase o) = true) : hasPReport l = true := by
  obtain ⟨t, src, e, j, hm⟩ := mem_of_hasPReport h
  exact hasPReport_of_mem (List.mem_of_mem_erase hm)

theorem mem_bcast_cmd {s : St n} {p t : Fin n} {x y : Cmd n} (h : Out.enq t y ∈ bcast s p x) : y = x := by
  obtain ⟨c, _, e⟩ := (mem_bcast s p x _).1 h
  cases e; rfl

theorem mem_stop_bcast {s : St n} {v t : Fin n} {x y : Cmd n} (h : Out.enq t y ∈ Out.notify v :: bcast s v x) : y = x := by
  rcases List.mem_cons.1 h with e | e
  · cases e
  · exact mem_bcast_cmd e

theorem mem_toParent {s : St n} {v : Fin n} {x : Cmd n} {t : Fin n} {y : Cmd n} (h : Out.enq t y ∈ toParent s v x) : y = x := by
  unfold toParent at h
  split at h
  · simp at h; exact h.2
  · cases h

theorem hasPReport_bcast (s : St n) (p : Fin n) (x : Cmd n) (hx : ∀ a b c, x ≠ Cmd.report a b c) : hasPReport (bcast s p x) = false := by
  cases hh : hasPReport (bcast s p x)
  · rfl
  · obtain ⟨t, src, e, j, hm⟩ := mem_of_hasPReport hh
    exact absurd (mem_bcast_cmd hm).symm (hx src e j)

theorem hasPReport_toParent (s : St n) (v : Fin n) (x : Cmd n) (hx : ∀ a b c, x ≠ Cmd.report a b c) : hasPReport (toParent s v x) = false := by
  cases hh : hasPReport (toParent s v x)
  · rfl
  · obtain ⟨t, src, e, j, hm⟩ := mem_of_hasPReport hh
    exact absurd (mem_toParent hm).symm (hx src e j)

theorem hasPReport_stop_bcast (s : St n) (v : Fin n) : hasPReport (Out.notify v :: bcast s v Cmd.stop) = false := by
  cases hh : hasPReport (Out.notify v :: bcast s v Cmd.stop)
  · rfl
  · obtain ⟨t, src, e, j, hm⟩ := mem_of_hasPReport hh
    cases mem_stop_bcast hm

theorem mem_pushCmd' {l : List (Cmd n)} {c x : Cmd n} (h : x ∈ pushCmd l c) : x ∈ l ∨ x = c := mem_pushCmd h

theorem mem_upd {α : Type} {f : Fin n → List α} {v w : Fin n} {l : List α} {x : α} (h : x ∈ upd f v l w) :
    (w = v ∧ x ∈ l) ∨ x ∈ f w := by
  by_cases hwv : w = v
  · rw [hwv, upd_same] at h; exact .inl ⟨hwv, h⟩
  · rw [upd_other _ _ _ _ hwv] at h; exact .inr h

theorem mem_upd_sub {α : Type} {f : Fin n → List α} {v w : Fin n} {l : List α} (hsub : ∀ x, x ∈ l → x ∈ f v) {x : α}
    (h : x ∈ upd f v l w) : x ∈ f w := by
  rcases mem_upd h with ⟨rfl, k⟩ | k
  · exact hsub x k
  · exact k

theorem mem_upd_erase {o : Fin n → List (Out n)} {v w : Fin n} {a x : Out n} (h : x ∈ upd o v ((o v).erase a) w) : x ∈ o w :=
  mem_upd_sub (fun _ => List.mem_of_mem_erase) h

theorem mem_upd_push {q : Fin n → List (Cmd n)} {t w : Fin n} {c x : Cmd n} (h : x ∈ upd q t (pushCmd (q t) c) w) :
    x ∈ q w ∨ (w = t ∧ x = c) := by
  rcases mem_upd h with ⟨rfl, k⟩ | k
  · exact (mem_pushCmd k).imp_right (fun e => ⟨rfl, e⟩)
  · exact .inl k

theorem hasReportFrom_upd_sub {q : Fin n → List (Cmd n)} {v p : Fin n} {ql : List (Cmd n)} (hsub : ∀ x, x ∈ ql → x ∈ q v)
    {src : Fin n} (h : hasReportFrom (upd q v ql p) src = true) : hasReportFrom (q p) src = true := by
  obtain ⟨e, j, hm⟩ := mem_of_hasReportFrom h
  exact hasReportFrom_of_mem (mem_upd_sub hsub hm)

theorem cAck_pop {c : Cmd n} {rest : List (Cmd n)} (hok : okOrder (c :: rest) = true) {d : Fin n}
    (hrf : hasReportFrom rest d = true) : cAck rest d = cAck (c :: rest) d := by
  have : c ≠ Cmd.ack d := by
    intro e; subst e
    rw [okOrder_head_ack hok] at hrf; cases hrf
  rw [cAck_cons]; simp [this]

theorem pop_sub {l ql : List (Cmd n)} (hok : okOrder l = true) (h : ql = l ∨ ∃ c, l = c :: ql) :
    okOrder ql = true ∧ (∀ x, x ∈ ql → x ∈ l) ∧ (∀ d, cAck ql d ≤ cAck l d) ∧
    ∀ d, hasReportFrom ql d = true → cAck ql d = cAck l d := by
  rcases h with rfl | ⟨c, rfl⟩
  · exact ⟨hok, fun _ hx => hx, fun _ => Nat.le_refl _, fun _ _ => rfl⟩
  · exact ⟨okOrder_tail hok, fun _ hx => List.mem_cons_of_mem _ hx, cAck_tail_le c ql, fun _ hrf => cAck_pop hok hrf⟩

theorem ackIn_pop_le {s s' : St n} {v : Fin n} {ql : List (Cmd n)} {ol : List (Out n)}
    (hq : s'.q = upd s.q v ql) (ho : s'.out = upd s.out v ol) (c2 : ∀ d, cAck ql d ≤ cAck (s.q v) d)
    (p : Fin n) {w : Fin n} (hw : w ≠ v) : ackIn s' p w ≤ ackIn s p w := by
  unfold ackIn; rw [hq, ho, upd_other _ _ _ _ hw]
  by_cases hpv : p = v
  · subst hpv; rw [upd_same]; exact Nat.add_le_add_right (c2 w) _
  · rw [upd_other _ _ _ _ hpv]; exact Nat.le_refl _

/-- what `G6` reads of a state, apart from the engine thread's program counter -/
def St.readG6 (s : St n) := (s.shape, s.epoch, s.q, s.out, s.jobId, s.jobEp)

theorem G6.frame {r : Fin n} {s s' : St n} (h : G6 r s) (hv : s'.readG6 = s.readG6)
    (hR : actR s r = true → actR s' r = true) : G6 r s' := by
  simp only [St.readG6, St.shape, Prod.mk.injEq] at hv
  obtain ⟨⟨ha, hp, hg, h3, h4⟩, hep, hq, ho, hj, hje⟩ := hv
  have hic := isChild_congr ha hp
  have hsi : ∀ p v, stopIn s' p v = stopIn s p v := by intro p v; unfold stopIn; rw [hq, ho]
  have hai : ∀ p v, ackIn s' p v = ackIn s p v := by intro p v; unfold ackIn; rw [hq, ho]
  refine ⟨?_, ?_, ?_, ?_, ?_, ?_, ?_, ?_⟩
  · rw [ha, hq]; exact h.ord
  · intro v hv hne hpr; rw [ha] at hv; rw [ho] at hpr
    obtain ⟨a1, a2⟩ := h.pr v hv hne hpr
    exact ⟨by rw [hg]; exact a1.imp_left hR, fun p hc => by rw [hic] at hc; rw [hai]; exact a2 p hc⟩
  · intro p src hc hrf; rw [hic] at hc; rw [hq] at hrf
    rw [hg, hsi, hai, inRound_congr h3 h4]; exact (h.rp p src hc hrf).imp_left hR
  · rw [ha, hq, hep]; exact h.e1
  · rw [ha, ho, hep]; exact h.e2
  · rw [ha, hq, hep]; exact h.e3
  · rw [ha, ho, hep]; exact h.e4
  · rw [ha, hj, hje, hep]; exact h.e5

/-- a local update by thread `v`: queue order and epochs follow, the two clauses about the stop wave are the caller's -/
theorem G6.local {r : Fin n} {s s' : St n} (h : G6 r s) (v : Fin n) (va : s.alive v = true) {ql : List (Cmd n)}
    {ol : List (Out n)} {jb : Option Nat} {je : Nat} (hql : ql = s.q v ∨ ∃ c, s.q v = c :: ql)
    (ha : s'.alive = s.alive) (hp : s'.parent = s.parent) (hep : s'.epoch = s.epoch)
    (hq : s'.q = upd s.q v ql) (ho : s'.out = upd s.out v ol) (hj : s'.jobId = upd s.jobId v jb) (hje : s'.jobEp = upd s.jobEp v je)
    (he2 : ∀ t e j, Out.enq t (Cmd.start e j) ∈ ol → e = s.epoch)
    (he4 : ∀ t src e j, Out.enq t (Cmd.report src e j) ∈ ol → e = s.epoch)
    (he5 : v ≠ r → jb ≠ none → je = s.epoch)
    (hprv : v ≠ r → hasPReport ol = true → NotPassed r s' v)
    (hfr : ∀ w, w ≠ v → s.alive w = true → w ≠ r → actR s r = true ∨ s.gen w + 1 = s.gen r →
      actR s' r = true ∨ s'.gen w + 1 = s'.gen r)
    (hrp : ∀ p src, isChild s p src = true → hasReportFrom (upd s.q v ql p) src = true →
      actR s' r = true ∨ s'.gen src + 1 = s'.gen r ∨ 0 < stopIn s' p src ∨ inRound s' src = true ∨ 0 < ackIn s' p src) :
    G6 r s' := by
  obtain ⟨hord, hmem, c2, _⟩ := pop_sub (h.ord v va) hql
  have hic := isChild_congr ha hp
  refine ⟨?_, ?_, ?_, ?_, ?_, ?_, ?_, ?_⟩
  · intro p hpa; rw [ha] at hpa; rw [hq]
    by_cases hpv : p = v
    · rw [hpv, upd_same]; exact hord
    · rw [upd_other _ _ _ _ hpv]; exact h.ord p hpa
  · intro w hw hwr hprw; rw [ha] at hw; rw [ho] at hprw
    by_cases hwv : w = v
    · subst hwv; rw [upd_same] at hprw; exact hprv hwr hprw
    · rw [upd_other _ _ _ _ hwv] at hprw
      obtain ⟨a1, a2⟩ := h.pr w hw hwr hprw
      refine ⟨hfr w hwv hw hwr a1, fun p hc => ?_⟩
      rw [hic] at hc
      exact Nat.le_zero.1 (a2 p hc ▸ ackIn_pop_le hq ho c2 p hwv)
  · intro p src hc hrf; rw [hic] at hc; rw [hq] at hrf; exact hrp p src hc hrf
  · rw [ha, hq, hep]; exact fun w e j hw hm => h.e1 w e j hw (mem_upd_sub hmem hm)
  · rw [ha, ho, hep]; intro w t e j hw hm
    rcases mem_upd hm with ⟨_, k⟩ | k
    · exact he2 t e j k
    · exact h.e2 w t e j hw k
  · rw [ha, hq, hep]; exact fun w src e j hw hm => h.e3 w src e j hw (mem_upd_sub hmem hm)
  · rw [ha, ho, hep]; intro w t src e j hw hm
    rcases mem_upd hm with ⟨_, k⟩ | k
    · exact he4 t src e j k
    · exact h.e4 w t src e j hw k
  · intro w hw hwr hjn; rw [ha] at hw; rw [hj] at hjn; rw [hje, hep]
    by_cases hwv : w = v
    · subst hwv; rw [upd_same] at hjn ⊢; exact he5 hwr hjn
    · rw [upd_other _ _ _ _ hwv] at hjn ⊢; exact h.e5 w hw hwr hjn

theorem G6.neutral {r : Fin n} {s s' : St n} (h : G6 r s) (v : Fin n) (va : s.alive v = true) {ql : List (Cmd n)}
    {ol : List (Out n)} {jb : Option Nat} {je : Nat}
    (hql : ql = s.q v ∨ ∃ c, s.q v = c :: ql ∧ c ≠ Cmd.stop ∧ ∀ d, c ≠ Cmd.ack d)
    (hk : (s'.shape, s'.epoch) = (s.shape, s.epoch))
    (hq : s'.q = upd s.q v ql) (ho : s'.out = upd s.out v ol) (hj : s'.jobId = upd s.jobId v jb) (hje : s'.jobEp = upd s.jobEp v je)
    (c3 : ∀ d, pStop ol d = pStop (s.out v) d) (c4 : ∀ p d, pAck ol p d = pAck (s.out v) p d)
    (hpr : v ≠ r → hasPReport ol = true → NotPassed r s v)
    (he2 : ∀ t e j, Out.enq t (Cmd.start e j) ∈ ol → e = s.epoch)
    (he4 : ∀ t src e j, Out.enq t (Cmd.report src e j) ∈ ol → e = s.epoch)
    (he5 : v ≠ r → jb ≠ none → je = s.epoch)
    (hR : actR s r = true → actR s' r = true) : G6 r s' := by
  simp only [St.shape, Prod.mk.injEq] at hk
  obtain ⟨⟨ha, hp, hg, h3, h4⟩, hep⟩ := hk
  obtain ⟨c1, c2, _⟩ := pop_neutral hql
  have hql' : ql = s.q v ∨ ∃ c, s.q v = c :: ql := hql.imp_right fun ⟨c, e, _⟩ => ⟨c, e⟩
  obtain ⟨_, hmem, _⟩ := pop_sub (h.ord v va) hql'
  have hic := isChild_congr ha hp
  have hparts := fun p c => parts_local (s := s) (s' := s') v ql ol hq ho c1 c2 c3 c4 p c
  have keep : ∀ w, NotPassed r s w → NotPassed r s' w := fun w a =>
    ⟨by rw [hg]; exact a.1.imp_left hR, fun p hc => by rw [hic] at hc; rw [(hparts p w).2]; exact a.2 p hc⟩
  refine h.local v va hql' ha hp hep hq ho hj hje he2 he4 he5 (fun hne hpo => keep v (hpr hne hpo))
    (fun w _ _ _ a => by rw [hg]; exact a.imp_left hR) ?_
  intro p src hc hrf
  rw [hg, (hparts p src).1, (hparts p src).2, inRound_congr h3 h4]
  exact (h.rp p src hc (hasReportFrom_upd_sub hmem hrf)).imp_left hR

/-- what a thread may set pending without touching the stop / ack traffic: no STOP, no STOP_ACK, a START of the current
    epoch, a REPORT_RESULT of the current epoch only if the stop wave has not passed the thread -/
def EmitOk (r : Fin n) (s : St n) (v : Fin n) : Cmd n → Prop
  | .stop => False
  | .ack _ => False
  | .start e _ => e = s.epoch
  | .report _ e _ => e = s.epoch ∧ NotPassed r s v
  | _ => True

theorem G6.emit {r : Fin n} {s s' : St n} (h : G6 r s) (v : Fin n) (va : s.alive v = true) {ql : List (Cmd n)}
    {ol : List (Out n)} {jb : Option Nat} {je : Nat} (hout : s.out v = [])
    (hql : ql = s.q v ∨ ∃ c, s.q v = c :: ql ∧ c ≠ Cmd.stop ∧ ∀ d, c ≠ Cmd.ack d)
    (hk : (s'.shape, s'.epoch) = (s.shape, s.epoch))
    (hq : s'.q = upd s.q v ql) (ho : s'.out = upd s.out v ol) (hj : s'.jobId = upd s.jobId v jb) (hje : s'.jobEp = upd s.jobEp v je)
    (hol : ∀ t c, Out.enq t c ∈ ol → EmitOk r s v c)
    (he5 : v ≠ r → jb ≠ none → je = s.epoch)
    (hR : actR s r = true → actR s' r = true) : G6 r s' := by
  refine h.neutral v va hql hk hq ho hj hje ?_ ?_ ?_ ?_ ?_ he5 hR
  · intro d; rw [hout, pStop_nil]; exact List.count_eq_zero.2 (fun hm => hol _ _ hm)
  · intro p d; rw [hout, pAck_nil]; exact List.count_eq_zero.2 (fun hm => hol _ _ hm)
  · intro _ hpo
    obtain ⟨t, src, e, j, hm⟩ := mem_of_hasPReport hpo
    exact (hol _ _ hm).2
  · intro t e j hm; exact hol _ _ hm
  · intro t src e j hm; exact (hol _ _ hm).1

theorem G6.emit_same_job {r : Fin n} {s s' : St n} (h : G6 r s) (v : Fin n) (va : s.alive v = true) {ql : List (Cmd n)}
    {ol : List (Out n)} (hout : s.out v = []) (hql : ql = s.q v ∨ ∃ c, s.q v = c :: ql ∧ c ≠ Cmd.stop ∧ ∀ d, c ≠ Cmd.ack d)
    (hk : (s'.shape, s'.epoch, s'.jobId, s'.jobEp) = (s.shape, s.epoch, s.jobId, s.jobEp))
    (hq : s'.q = upd s.q v ql) (ho : s'.out = upd s.out v ol) (hol : ∀ t c, Out.enq t c ∈ ol → EmitOk r s v c)
    (hR : actR s r = true → actR s' r = true) : G6 r s' := by
  simp only [Prod.mk.injEq] at hk
  obtain ⟨hst, hep, hj, hje⟩ := hk
  exact h.emit v va hout hql (by rw [hst, hep]) hq ho (hj.trans (upd_keep _ _)) (hje.trans (upd_keep _ _)) hol (h.e5 v va) hR

end Conc
