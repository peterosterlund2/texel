import TexelVerif.Conc.InvG1
/-! Two small invariants for the progress theorems, each inductive on its own; `pend_optsFin` is for the data-race theorem. -/
namespace Conc

variable {n : Nat}

structure G5 (r : Fin n) (s : St n) : Prop where
  /-- the engine thread waits inside the ack-collection loop only while acks are outstanding -/
  ecw : s.pc r = .ecwait → inRound s r = true
  /-- a helper that has left its loop did so because all QUIT_ACKs had arrived -/
  dn : ∀ v, s.alive v = true → s.pc v = .done → s.quitWait v = 0
  /-- after the pre-read hook at least one outcome of the lock-free load is possible -/
  rdq : s.pc r = .eQ1 → s.quitF.seenF = true ∨ s.quitF.seenT = true
  rds : s.pc r = .eS1 → s.search.seenF = true ∨ s.search.seenT = true

theorem snap_seen (g : Reg) : g.snap.seenF = true ∨ g.snap.seenT = true := by
  cases hc : g.cur <;> simp [Reg.snap, hc]

theorem init_G5 (r : Fin n) : G5 r (init r) := by
  refine ⟨?_, ?_, ?_, ?_⟩
  · simp [init]
  · intro v hv hp; simp [init] at hv; subst hv; simp [init] at hp
  · simp [init]
  · simp [init]

def Reg.seenAny (g : Reg) : Prop := g.seenF = true ∨ g.seenT = true

/-- engine thread and helpers alike: no case of `step_G5` needs to know which of them `v` is -/
theorem G5.thread {r : Fin n} {s s' : St n} (h : G5 r s) (v : Fin n) (x : Pc)
    (ha : ∀ w, w ≠ v → s'.alive w = true → s.alive w = true) (hpc : s'.pc = upd s.pc v x)
    (hsw : ∀ w, w ≠ v → s'.selfWait w = s.selfWait w ∧ s'.childWait w = s.childWait w ∧ s'.quitWait w = s.quitWait w)
    (hq : s.quitF.seenAny → s'.quitF.seenAny) (hs : s.search.seenAny → s'.search.seenAny)
    (hroot : v = r → (x = .ecwait → inRound s' r = true) ∧ (x = .eQ1 → s'.quitF.seenAny) ∧ (x = .eS1 → s'.search.seenAny))
    (hdone : x = .done → s'.quitWait v = 0) : G5 r s' := by
  have hx : x = s'.pc v := (eq_upd_same hpc).symm
  have dn : ∀ w, s'.alive w = true → s'.pc w = .done → s'.quitWait w = 0 := by
    intro w hw hp
    by_cases hwv : w = v
    · subst hwv; exact hdone (hx.trans hp)
    · rw [(hsw w hwv).2.2]; exact h.dn w (ha w hwv hw) (eq_upd_other hpc hwv ▸ hp)
  by_cases hvr : v = r
  · obtain ⟨x1, x2, x3⟩ := hroot hvr
    subst hvr
    exact ⟨fun hp => x1 (hx.trans hp), dn, fun hp => x2 (hx.trans hp), fun hp => x3 (hx.trans hp)⟩
  · have hrv : r ≠ v := fun e => hvr e.symm
    have hr : s'.pc r = s.pc r := eq_upd_other hpc hrv
    exact ⟨fun hp => inRound_congr_at (hsw r hrv).1 (hsw r hrv).2.1 ▸ h.ecw (hr ▸ hp), dn,
      fun hp => hq (h.rdq (hr ▸ hp)), fun hp => hs (h.rds (hr ▸ hp))⟩

theorem G5.move {r : Fin n} {s s' : St n} (h : G5 r s) (v : Fin n) (x : Pc) (ha : s'.alive = s.alive)
    (hpc : s'.pc = upd s.pc v x)
    (hsw : ∀ w, w ≠ v → s'.selfWait w = s.selfWait w ∧ s'.childWait w = s.childWait w ∧ s'.quitWait w = s.quitWait w)
    (hq : s.quitF.seenAny → s'.quitF.seenAny) (hs : s.search.seenAny → s'.search.seenAny)
    (hx : x ≠ .ecwait ∧ x ≠ .eQ1 ∧ x ≠ .eS1 ∧ x ≠ .done) : G5 r s' :=
  h.thread v x (fun _ _ hw => ha ▸ hw) hpc hsw hq hs
    (fun _ => ⟨fun e => absurd e hx.1, fun e => absurd e hx.2.1, fun e => absurd e hx.2.2.1⟩) (fun e => absurd e hx.2.2.2)

theorem G5.helper {r : Fin n} {s s' : St n} (h : G5 r s) (v : Fin n) (hvr : v ≠ r)
    (ha : s'.alive = s.alive) (hq : s'.quitF = s.quitF) (hs : s'.search = s.search)
    (hpc : ∀ w, w ≠ v → s'.pc w = s.pc w)
    (hsw : ∀ w, w ≠ v → s'.selfWait w = s.selfWait w ∧ s'.childWait w = s.childWait w ∧ s'.quitWait w = s.quitWait w)
    (hv : s'.pc v = .done → s'.quitWait v = 0) : G5 r s' := by
  have hpc' : s'.pc = upd s.pc v (s'.pc v) := by
    funext w
    by_cases hw : w = v
    · rw [hw, upd_same]
    · rw [upd_other _ _ _ _ hw, hpc w hw]
  exact h.thread v _ (fun _ _ hw => ha ▸ hw) hpc' hsw (hq ▸ id) (hs ▸ id) (fun e => absurd e hvr) hv

theorem afterWait_ne {p : Pc} (h : isWaitPc p = true) :
    afterWait p ≠ .gone ∧ afterWait p ≠ .ecwait ∧ afterWait p ≠ .eQ1 ∧ afterWait p ≠ .eS1 ∧ afterWait p ≠ .done := by
  cases p <;> simp [isWaitPc] at h <;> simp [afterWait]

theorem step_G5 {r : Fin n} {s s' : St n} (h : G5 r s) (e : Ev n) (hs : step r s e = some s') : G5 r s' := by
  cases step_Step hs with
  | waitRet v _ _ hw => exact h.move v _ rfl rfl (fun _ _ => ⟨rfl, rfl, rfl⟩) id id (afterWait_ne hw).2
  | deqW v c rest _ _ _ hpc =>
    obtain ⟨ol, sw, cw, qw, g, jb, je, hr, he⟩ := handleW_shape { s with q := upd s.q v rest } v c
    rw [he]
    refine h.move v _ rfl (upd_keep _ _) (fun w hwv => by simp [hwv]) id id ?_
    rcases hpc with e | ⟨j, e⟩ <;> rw [e] <;> simp
  | deqCollect v c rest _ _ _ hpc | deqQuit v c rest _ _ _ hpc =>
    rcases handleE_eq { s with q := upd s.q v rest } v _ c with he | ⟨_, he⟩ | ⟨_, he⟩ <;> rw [he] <;>
      exact h.move v _ rfl (upd_keep _ _) (fun w hwv => by simp [hwv]) id id (by rw [hpc]; simp)
  | pollW v =>
    refine h.thread v _ (fun _ _ hw => hw) rfl (fun _ _ => ⟨rfl, rfl, rfl⟩) id id (fun _ => ?_) (fun hp => ?_)
    · split
      · exact ⟨nofun, nofun, nofun⟩
      · split <;> exact ⟨nofun, nofun, nofun⟩
    · by_cases hq0 : s.quitWait v = 0
      · exact hq0
      · cases hj : s.jobId v <;> simp [hq0, hj] at hp
  | pollCollectWait v _ _ _ _ hnack =>
    refine h.thread v .ecwait (fun _ _ hw => hw) rfl (fun _ _ => ⟨rfl, rfl, rfl⟩) id id
      (fun e => ⟨fun _ => ?_, nofun, nofun⟩) nofun
    subst e
    show (s.selfWait v || decide (0 < s.childWait v)) = true
    cases hsw : s.selfWait v
    · exact decide_eq_true (Nat.pos_of_ne_zero fun hc => hnack ⟨hc, hsw⟩)
    · rfl
  | rdPreQuit =>
    exact h.thread r .eQ1 (fun _ _ hw => hw) rfl (fun _ _ => ⟨rfl, rfl, rfl⟩) (fun _ => snap_seen _) id
      (fun _ => ⟨nofun, fun _ => snap_seen _, nofun⟩) nofun
  | rdPreSearch =>
    exact h.thread r .eS1 (fun _ _ hw => hw) rfl (fun _ _ => ⟨rfl, rfl, rfl⟩) id (fun _ => snap_seen _)
      (fun _ => ⟨nofun, nofun, fun _ => snap_seen _⟩) nofun
  | spawn v p _ _ hvr =>
    exact h.thread v .wait (fun _ hwv hw => alive_spawn_other rfl hwv hw) rfl (fun w hwv => by simp [hwv]) id id
      (fun e => absurd e hvr) nofun
  | pollQuit v => exact h.move v _ rfl rfl (fun _ _ => ⟨rfl, rfl, rfl⟩) id id (by split <;> simp)
  | rdQuit b | rdSearch b | eBest b => exact h.move r _ rfl rfl (fun _ _ => ⟨rfl, rfl, rfl⟩) id id (by cases b <;> simp)
  | pollCollectDone | ackSelfW | ackSelfW0 | ackSelfE | leaveMax | leaveStop | tend | optsDone | optsDonePost | eBegin | eInit
  | eSearchDone | eHoldDone | eStopSend | eSearchEnd | eQuitSend0 | eQuitSendN =>
    exact h.move _ _ rfl rfl (fun w hwv => by simp [hwv]) id id (by simp)
  | exit v => exact ⟨h.ecw, fun w hw hp => h.dn w (alive_exit rfl hw).2 hp, h.rdq, h.rds⟩
  | pWrQuit => exact ⟨h.ecw, h.dn, fun _ => .inr (Bool.or_true _), h.rds⟩
  | pWrSearch => exact ⟨h.ecw, h.dn, h.rdq, fun _ => .inr (Bool.or_true _)⟩
  | send v o => cases o <;> exact ⟨h.ecw, h.dn, h.rdq, h.rds⟩
  -- nothing that `G5` reads is touched, so its clauses hold as they stand
  | _ => exact ⟨h.ecw, h.dn, h.rdq, h.rds⟩

theorem reach_G5 {r : Fin n} {s : St n} (h : Reach r s) : G5 r s := by
  induction h with
  | init => exact init_G5 r
  | step s s' e _ hs ih => exact step_G5 ih e hs

/-- while a terminated helper's communicator still exists (the protocol thread is inside `createWorkers`) neither a
    search nor a quit has been requested -/
structure G7 (r : Fin n) (s : St n) : Prop where
  gn : ∀ v, s.alive v = true → s.pc v = .gone →
        s.search.cur = false ∧ s.search.nxt = none ∧ s.quitF.cur = false ∧ s.quitF.nxt = none

theorem noGone_spec {s : St n} (h : noGone s = true) (v : Fin n) (hv : s.alive v = true) : s.pc v ≠ .gone := by
  intro hp
  have := List.all_eq_true.1 h v (List.mem_finRange v)
  simp [hv, hp] at this

theorem gone_upd {pc : Fin n → Pc} {v w : Fin n} {x : Pc} (hx : x ≠ .gone) (h : upd pc v x w = .gone) :
    w ≠ v ∧ pc w = .gone := by
  by_cases hwv : w = v
  · subst hwv; rw [upd_same] at h; exact absurd h hx
  · exact ⟨hwv, by rwa [upd_other _ _ _ _ hwv] at h⟩

theorem G7.move {r : Fin n} {s s' : St n} (h : G7 r s) {v : Fin n} {x : Pc} (hx : x ≠ .gone)
    (ha : s'.alive = s.alive) (hpc : s'.pc = upd s.pc v x)
    (hreg : (s'.search.cur, s'.search.nxt, s'.quitF.cur, s'.quitF.nxt) = (s.search.cur, s.search.nxt, s.quitF.cur, s.quitF.nxt)) :
    G7 r s' := by
  simp only [Prod.mk.injEq] at hreg
  obtain ⟨a, b, c, d⟩ := hreg
  exact ⟨fun w hw hp => by rw [a, b, c, d]; exact h.gn w (ha ▸ hw) (gone_upd hx (hpc ▸ hp)).2⟩

theorem step_G7 {r : Fin n} {s s' : St n} (h : G7 r s) (e : Ev n) (hs : step r s e = some s') : G7 r s' := by
  cases step_Step hs with
  | tend v _ _ _ _ _ _ _ _ _ hreg => exact ⟨fun _ _ _ => hreg⟩
  | pWrQuit _ _ _ _ hng | pWrSearch _ _ _ _ _ _ hng => exact ⟨fun w hw hp => absurd hp (noGone_spec hng w hw)⟩
  | pWdQuit b hb =>
    refine ⟨fun w hw hp => ?_⟩
    rw [(h.gn w hw hp).2.2.2] at hb; cases hb
  | pWdSearch b hb =>
    refine ⟨fun w hw hp => ?_⟩
    rw [(h.gn w hw hp).2.1] at hb; cases hb
  | eSearchEnd =>
    refine ⟨fun w hw hp => ?_⟩
    have := h.gn w hw (gone_upd (by simp) hp).2
    exact ⟨rfl, this.2.1, this.2.2.1, this.2.2.2⟩
  | spawn v p =>
    refine ⟨fun w hw hp => ?_⟩
    obtain ⟨hwv, hp⟩ := gone_upd (by simp) hp
    exact h.gn w (alive_spawn_other rfl hwv hw) hp
  | exit v => exact ⟨fun w hw hp => h.gn w (alive_exit rfl hw).2 hp⟩
  | deqW v c rest =>
    obtain ⟨ol, sw, cw, qw, g, jb, je, hr, he⟩ := handleW_shape { s with q := upd s.q v rest } v c
    rw [he]; exact ⟨h.gn⟩
  | deqCollect v c rest | deqQuit v c rest =>
    rcases handleE_eq { s with q := upd s.q v rest } v _ c with he | ⟨_, he⟩ | ⟨_, he⟩ <;> rw [he] <;> exact ⟨h.gn⟩
  | send v o => cases o <;> exact ⟨h.gn⟩
  | waitRet v _ _ hw => exact h.move (afterWait_ne hw).1 rfl rfl rfl
  | pollW v =>
    refine h.move ?_ rfl rfl rfl
    split
    · simp
    · split <;> simp
  | pollQuit v => refine h.move ?_ rfl rfl rfl; split <;> simp
  | rdQuit b | rdSearch b | eBest b => refine h.move ?_ rfl rfl rfl; cases b <;> simp
  | pollCollectDone | pollCollectWait | ackSelfW | ackSelfW0 | ackSelfE | leaveMax | leaveStop | rdPreQuit | rdPreSearch
  | optsDone | optsDonePost | eBegin | eInit | eSearchDone | eHoldDone | eStopSend | eQuitSend0 | eQuitSendN =>
    exact h.move (by simp) rfl rfl rfl
  | _ => exact ⟨h.gn⟩

theorem init_G7 (r : Fin n) : G7 r (init r) := by
  refine ⟨fun v hv hp => ?_⟩
  simp [init] at hv; subst hv; simp [init] at hp

theorem reach_G7 {r : Fin n} {s : St n} (h : Reach r s) : G7 r s := by
  induction h with
  | init => exact init_G7 r
  | step s s' e _ hs ih => exact step_G7 ih e hs

/-- `EngineMainThread::setOptionWhenIdle` clears `optionsSetFinished` under the mutex; `setOptions` sets it only after
    the swap found nothing pending -/
theorem pend_optsFin {r : Fin n} {s : St n} (h : Reach r s) : s.pend = true → s.optsFin = false := by
  induction h with
  | init => intro hp; cases hp
  | step s s' e _ hs ih =>
    cases step_Step hs with
    | pSetOpt => exact fun _ => rfl
    | optsSwap => intro hp; cases hp
    | optsDone _ hk | optsDonePost _ hk => intro hp; cases hk.symm.trans hp
    | deqW v c rest =>
      obtain ⟨ol, sw, cw, qw, g, jb, je, hr, he⟩ := handleW_shape { s with q := upd s.q v rest } v c
      rw [he]; exact ih
    | deqCollect v c rest | deqQuit v c rest =>
      rcases handleE_eq { s with q := upd s.q v rest } v _ c with he | ⟨_, he⟩ | ⟨_, he⟩ <;> rw [he] <;> exact ih
    | send v o => cases o <;> exact ih
    | _ => exact ih

end Conc
