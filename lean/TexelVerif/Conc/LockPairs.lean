import TexelVerif.Conc.LockTable
/-! The locked accesses of the model's access lists (`Conc.acc`) against the table of `Conc/LockTable.lean`:
    an access that names a lock names the mutex of its own location. -/
namespace Conc.LockTie

variable {n : Nat}

/-- an access that holds a lock holds the mutex the table names for its kind of location -/
def LockOk (a : Acc n) : Prop := ∀ k, a.lock = some k → (SKind.ofLoc a.loc, lockName k) ∈ lockedPairs

section
variable (v : Fin n) (w : Bool)

theorem lockOk_none (l : Loc n) : LockOk ⟨l, w, none⟩ := fun _ h => nomatch h

theorem lockOk_queue : LockOk ⟨.queue v, w, some (.qmutex v)⟩ := fun _ h => by
  cases h; show (SKind.queue, "Communicator::mutex") ∈ lockedPairs; decide

theorem lockOk_flag : LockOk ⟨.flag v, w, some (.nmutex v)⟩ := fun _ h => by
  cases h; show (SKind.flag, "Notifier::mutex") ∈ lockedPairs; decide

theorem lockOk_children : LockOk ⟨.children v, w, some (.qmutex v)⟩ := fun _ h => by
  cases h; show (SKind.children, "Communicator::mutex") ∈ lockedPairs; decide

theorem lockOk_pending : LockOk (n := n) ⟨.pending, w, some .emutex⟩ := fun _ h => by
  cases h; show (SKind.pending, "EngineMainThread::mutex") ∈ lockedPairs; decide

theorem lockOk_params : LockOk (n := n) ⟨.params, w, some .emutex⟩ := fun _ h => by
  cases h; show (SKind.params, "EngineMainThread::mutex") ∈ lockedPairs; decide

theorem lockOk_regs : LockOk (n := n) ⟨.regs, w, some .emutex⟩ := fun _ h => by
  cases h; show (SKind.regs, "EngineMainThread::mutex") ∈ lockedPairs; decide

end

theorem acc_lockOk (r : Fin n) (s : St n) (e : Ev n) : ∀ a ∈ acc r s e, LockOk a := by
  cases e <;> simp only [acc, rd, wr, searchReads] <;> (try split) <;> (try split) <;>
    simp only [List.forall_mem_cons, List.cons_append, List.nil_append, List.append_nil,
      List.not_mem_nil, lockOk_none, lockOk_queue, lockOk_flag, lockOk_children, lockOk_pending, lockOk_params,
      lockOk_regs, and_self, implies_true, false_imp_iff]

end Conc.LockTie
