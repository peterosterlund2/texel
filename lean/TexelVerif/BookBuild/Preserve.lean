import TexelVerif.BookBuild.Invariant
import TexelVerif.BookBuild.Propagate
/-!
# BookBuild: the two passes of the repaired `updateScores` as instances of the generic propagation

What the two equations of a node read, hence what a single-node write can disturb; from that `specUp` (`computeNegaMax`
towards the parents, collecting `toUpdate`) and `specDown` (`computePathError` towards the children).
-/
namespace Bk
open Book Propagate


theorem mem_insertSet (l : List Nat) (x y : Nat) : x ∈ insertSet l y ↔ x = y ∨ x ∈ l := by
  unfold insertSet
  by_cases h : y ∈ l
  · simp only [List.contains_iff_mem, h, if_true]
    constructor
    · exact Or.inr
    · rintro (rfl | h') <;> assumption
  · simp [h]

theorem mem_foldl_insertSet (ys l : List Nat) (x : Nat) : x ∈ ys.foldl insertSet l ↔ x ∈ l ∨ x ∈ ys := by
  induction ys generalizing l with
  | nil => simp
  | cons a t ih =>
    simp only [List.foldl_cons, ih, mem_insertSet, List.mem_cons]
    constructor
    · rintro ((rfl | h) | h) <;> simp_all
    · rintro (h | rfl | h) <;> simp_all

theorem foldl_fixed {α β : Type} (f : α → β → α) (l : List β) (a : α) (h : ∀ x ∈ l, f a x = a) : l.foldl f a = a := by
  induction l with
  | nil => rfl
  | cons x t ih =>
    rw [List.foldl_cons, h x (by simp)]
    exact ih (fun y hy => h y (by simp [hy]))

theorem foldl_id {α β : Type} (f : α → β → α) (l : List β) (a : α) (h : ∀ x ∈ l, ∀ a', f a' x = a') :
    l.foldl f a = a :=
  foldl_fixed f l a (fun x hx => h x hx a)

theorem mem_childIds (n : Node) (c : Nat) : c ∈ childIds n ↔ ∃ e ∈ n.children, e.2 = c := by
  simp [childIds]

theorem mem_parentIds (n : Node) (p : Nat) : p ∈ parentIds n ↔ ∃ e ∈ n.parents, e.2 = p := by
  simp [parentIds]

theorem childIds_congr {n m : Node} (h : n.children = m.children) : childIds n = childIds m := by
  unfold childIds; rw [h]

theorem parentIds_congr {n m : Node} (h : n.parents = m.parents) : parentIds n = parentIds m := by
  unfold parentIds; rw [h]


theorem wf_child (b : Book) (h : WF b) (i c : Nat) (hi : i < b.size) (hc : c ∈ childIds (b.nd i)) :
    c < b.size ∧ i ∈ parentIds (b.nd c) := by
  obtain ⟨e, he, rfl⟩ := (mem_childIds _ _).mp hc
  have := h.child i hi e he
  exact ⟨this.1, (mem_parentIds _ _).mpr ⟨(e.1, i), this.2, rfl⟩⟩

theorem wf_parent (b : Book) (h : WF b) (i p : Nat) (hi : i < b.size) (hp : p ∈ parentIds (b.nd i)) :
    p < b.size ∧ i ∈ childIds (b.nd p) := by
  obtain ⟨e, he, rfl⟩ := (mem_parentIds _ _).mp hp
  have := h.parent i hi e he
  exact ⟨this.1, (mem_childIds _ _).mpr ⟨(e.1, i), this.2, rfl⟩⟩

theorem rank_parent (b : Book) (r : Nat → Nat) (h : WF b) (hr : Ranked b r) (i p : Nat) (hi : i < b.size)
    (hp : p ∈ parentIds (b.nd i)) : r p < r i := by
  have := wf_parent b h i p hi hp
  exact hr.mono p this.1 i this.2

theorem not_self_child (b : Book) (r : Nat → Nat) (hr : Ranked b r) (i : Nat) (hi : i < b.size) :
    i ∉ childIds (b.nd i) := fun h => Nat.lt_irrefl _ (hr.mono i hi i h)

theorem not_self_parent (b : Book) (r : Nat → Nat) (h : WF b) (hr : Ranked b r) (i : Nat) (hi : i < b.size) :
    i ∉ parentIds (b.nd i) := fun hp => Nat.lt_irrefl _ (rank_parent b r h hr i i hi hp)

theorem lt_of_mem_childIds (b : Book) (i c : Nat) (hc : c ∈ childIds (b.nd i)) : i < b.size := by
  by_cases h : i < b.size
  · exact h
  · rw [nd_oob _ _ h] at hc; exact absurd hc List.not_mem_nil

theorem lt_of_mem_parentIds (b : Book) (i p : Nat) (hp : p ∈ parentIds (b.nd i)) : i < b.size := by
  by_cases h : i < b.size
  · exact h
  · rw [nd_oob _ _ h] at hp; exact absurd hp List.not_mem_nil

theorem WF.of_links {b' b : Book} (hs : b'.size = b.size) (hc : ∀ j, (b'.nd j).children = (b.nd j).children)
    (hp : ∀ j, (b'.nd j).parents = (b.nd j).parents) (hw : WF b) : WF b' := by
  constructor
  · intro i hi e he
    rw [hs] at hi; rw [hc i] at he
    have := hw.child i hi e he
    rw [hs, hp e.2]; exact this
  · intro i hi e he
    rw [hs] at hi; rw [hp i] at he
    have := hw.parent i hi e he
    rw [hs, hc e.2]; exact this

theorem Ranked.of_links {b' b : Book} {r : Nat → Nat} (hs : b'.size = b.size)
    (hc : ∀ j, (b'.nd j).children = (b.nd j).children) (hr : Ranked b r) : Ranked b' r := by
  constructor
  · intro i hi; rw [hs] at hi ⊢; exact hr.bound i hi
  · intro i hi c hcm
    rw [hs] at hi
    rw [childIds_congr (hc i)] at hcm
    exact hr.mono i hi c hcm

theorem down_valid (b : Book) (r : Nat → Nat) (h : WF b) (hr : Ranked b r) (i j : Nat) (hi : i < b.size)
    (hj : j ∈ childIds (b.nd i)) : j < b.size ∧ b.size - r j < b.size - r i := by
  have h1 := (wf_child b h i j hi hj).1
  have h2 := hr.mono i hi j hj
  have h3 := hr.bound j h1
  exact ⟨h1, by omega⟩


theorem scoresOf_setNode_ne (b : Book) (i j : Nat) (n : Node) (hne : i ≠ j) (h : i ∉ childIds (b.nd j)) :
    (b.setNode i n).scoresOf j = b.scoresOf j := by
  have hj := nd_setNode_ne b i j n hne
  refine scoresOf_congr b _ j rfl rfl (by rw [hj]) (by rw [hj]) (by rw [hj]) (by rw [hj]) ?_
  intro c hc
  rw [nd_setNode_ne _ _ _ _ (by rintro rfl; exact h hc)]

theorem pathErrOf_setNode_ne (b : Book) (i j : Nat) (n : Node) (hne : i ≠ j) (h : i ∉ parentIds (b.nd j)) :
    (b.setNode i n).pathErrOf j = b.pathErrOf j := by
  have hj := nd_setNode_ne b i j n hne
  refine pathErrOf_congr b _ j (by rw [hj]) (by rw [hj]) (by rw [hj]) (by rw [hj]) (fun _ => by rw [hj]) ?_
  intro p hp
  rw [nd_setNode_ne _ _ _ _ (by rintro rfl; exact h hp)]; exact ⟨rfl, rfl⟩


theorem cnm_unchanged (b : Book) (i : Nat) (h : b.scoresOf i = scores3 (b.nd i)) : b.computeNegaMax i = (b, false) := by
  simp [Book.computeNegaMax, h]

def Book.setS3 (b : Book) (i : Nat) (v : Int × Int × Int) : Book :=
  b.setNode i { b.nd i with nm := v.1, ecW := v.2.1, ecB := v.2.2 }
def Book.setPE (b : Book) (i : Nat) (v : Int × Int) : Book :=
  b.setNode i { b.nd i with peW := v.1, peB := v.2 }

theorem cnm_changed (b : Book) (i : Nat) (h : b.scoresOf i ≠ scores3 (b.nd i)) :
    b.computeNegaMax i = (b.setS3 i (b.scoresOf i), true) := by
  simp [Book.computeNegaMax, Book.setS3, h]

theorem cpe_unchanged (b : Book) (i : Nat) (h : b.pathErrOf i = pe2 (b.nd i)) : b.computePathError i = (b, false) := by
  simp [Book.computePathError, h]

theorem cpe_changed (b : Book) (i : Nat) (h : b.pathErrOf i ≠ pe2 (b.nd i)) :
    b.computePathError i = (b.setPE i (b.pathErrOf i), true) := by
  simp [Book.computePathError, Book.setPE, h]

theorem nd_setS3_self (b : Book) (i : Nat) (v : Int × Int × Int) (h : i < b.size) :
    (b.setS3 i v).nd i = { b.nd i with nm := v.1, ecW := v.2.1, ecB := v.2.2 } := nd_setNode_self _ _ _ h
theorem nd_setS3_ne (b : Book) (i j : Nat) (v : Int × Int × Int) (h : i ≠ j) : (b.setS3 i v).nd j = b.nd j :=
  nd_setNode_ne _ _ _ _ h
@[simp] theorem size_setS3 (b : Book) (i : Nat) (v : Int × Int × Int) : (b.setS3 i v).size = b.size := size_setNode _ _ _
@[simp] theorem pending_setS3 (b : Book) (i : Nat) (v : Int × Int × Int) : (b.setS3 i v).pending = b.pending := rfl
@[simp] theorem costs_setS3 (b : Book) (i : Nat) (v : Int × Int × Int) : (b.setS3 i v).costs = b.costs := rfl
@[simp] theorem isPending_setS3 (b : Book) (i j : Nat) (v : Int × Int × Int) : (b.setS3 i v).isPending j = b.isPending j := rfl
theorem nd_setPE_self (b : Book) (i : Nat) (v : Int × Int) (h : i < b.size) :
    (b.setPE i v).nd i = { b.nd i with peW := v.1, peB := v.2 } := nd_setNode_self _ _ _ h
theorem nd_setPE_ne (b : Book) (i j : Nat) (v : Int × Int) (h : i ≠ j) : (b.setPE i v).nd j = b.nd j :=
  nd_setNode_ne _ _ _ _ h
@[simp] theorem size_setPE (b : Book) (i : Nat) (v : Int × Int) : (b.setPE i v).size = b.size := size_setNode _ _ _
@[simp] theorem pending_setPE (b : Book) (i : Nat) (v : Int × Int) : (b.setPE i v).pending = b.pending := rfl
@[simp] theorem costs_setPE (b : Book) (i : Nat) (v : Int × Int) : (b.setPE i v).costs = b.costs := rfl
@[simp] theorem isPending_setPE (b : Book) (i j : Nat) (v : Int × Int) : (b.setPE i v).isPending j = b.isPending j := rfl

theorem noS3_setS3 (b : Book) (i j : Nat) (v : Int × Int × Int) : ((b.setS3 i v).nd j).noS3 = (b.nd j).noS3 :=
  nd_setNode_field Node.noS3 b i _ (by rfl) j

theorem noPE_setPE (b : Book) (i j : Nat) (v : Int × Int) : ((b.setPE i v).nd j).noPE = (b.nd j).noPE :=
  nd_setNode_field Node.noPE b i _ (by rfl) j

theorem nmOk_setS3_self (b : Book) (i : Nat) (hi : i < b.size) (h : i ∉ childIds (b.nd i)) :
    nmOk (b.setS3 i (b.scoresOf i)) i := by
  have hs := nd_setS3_self b i (b.scoresOf i) hi
  have : (b.setS3 i (b.scoresOf i)).scoresOf i = b.scoresOf i := by
    refine scoresOf_congr b _ i rfl rfl (by rw [hs]) (by rw [hs]) (by rw [hs]) (by rw [hs]) ?_
    intro c hc
    rw [nd_setS3_ne _ _ _ _ (by rintro rfl; exact h hc)]
  rw [nmOk, this, hs]; rfl

theorem pathErrOf_root (b : Book) (i : Nat) (h : (b.nd i).depth = 0) : b.pathErrOf i = pe2 (b.nd i) := by
  simp [Book.pathErrOf, calcPE, h, pe2]

theorem peOk_setPE_self (b : Book) (i : Nat) (hi : i < b.size) (h : i ∉ parentIds (b.nd i)) (h0 : (b.nd i).depth ≠ 0) :
    peOk (b.setPE i (b.pathErrOf i)) i := by
  have hs := nd_setPE_self b i (b.pathErrOf i) hi
  have : (b.setPE i (b.pathErrOf i)).pathErrOf i = b.pathErrOf i := by
    refine pathErrOf_congr b _ i (by rw [hs]) (by rw [hs]) (by rw [hs]) (by rw [hs]) (fun e => absurd e h0) ?_
    intro p hp
    rw [nd_setPE_ne _ _ _ _ (by rintro rfl; exact h hp)]; exact ⟨rfl, rfl⟩
  rw [peOk, this, hs]; rfl


def sysUp (start : Nat) : Sys US :=
  { step := nmStep true, succ := fun s i => parentIds (s.b.nd i), force := fun i => i == start }

/-- what stays fixed during the first pass, relative to the book `b0` it started from -/
structure InvUp (b0 : Book) (s : US) : Prop where
  size : s.b.size = b0.size
  pending : s.b.pending = b0.pending
  costs : s.b.costs = b0.costs
  skel : ∀ j, (s.b.nd j).noS3 = (b0.nd j).noS3
  tuValid : ∀ j ∈ s.tu, j < b0.size
  tinv : ∀ j, j < b0.size → peOk s.b j ∨ j ∈ s.tu

section up
variable (b0 : Book) (r : Nat → Nat) (hwf : WF b0) (hr : Ranked b0 r)

theorem InvUp.children {b0 : Book} {s : US} (h : InvUp b0 s) (j : Nat) : (s.b.nd j).children = (b0.nd j).children :=
  base_children (base_of_noS3 (h.skel j))
theorem InvUp.parents {b0 : Book} {s : US} (h : InvUp b0 s) (j : Nat) : (s.b.nd j).parents = (b0.nd j).parents :=
  base_parents (base_of_noS3 (h.skel j))

theorem nmStep_unchanged (s : US) (i : Nat) (h : s.b.scoresOf i = scores3 (s.b.nd i)) : nmStep true s i = (s, false) := by
  simp [nmStep, cnm_unchanged _ _ h]

theorem nmStep_changed (s : US) (i : Nat) (h : s.b.scoresOf i ≠ scores3 (s.b.nd i)) :
    nmStep true s i =
      ({ b := s.b.setS3 i (s.b.scoresOf i), tu := insertSet ((childIds (s.b.nd i)).foldl insertSet s.tu) i }, true) := by
  have hc : childIds ((s.b.setS3 i (s.b.scoresOf i)).nd i) = childIds (s.b.nd i) :=
    childIds_congr (base_children (base_of_noS3 (noS3_setS3 s.b i i (s.b.scoresOf i))))
  simp [nmStep, cnm_changed _ _ h, hc]

include hr in
theorem up_ok_step (s : US) (i : Nat) (hI : InvUp b0 s) (hi : i < b0.size) : nmOk (nmStep true s i).1.b i := by
  by_cases hch : s.b.scoresOf i = scores3 (s.b.nd i)
  · rw [nmStep_unchanged s i hch]; exact hch
  · rw [nmStep_changed s i hch]
    refine nmOk_setS3_self s.b i (hI.size ▸ hi) ?_
    rw [childIds_congr (hI.children i)]
    exact not_self_child b0 r hr i hi

include hwf hr in
theorem specUp (start : Nat) :
    Spec (sysUp start) (InvUp b0) (fun i => i < b0.size) (fun s j => nmOk s.b j) (fun i => parentIds (b0.nd i)) r where
  succ_eq := fun s i hI => parentIds_congr (hI.parents i)
  succ_valid := fun i j hi hj => ⟨(wf_parent b0 hwf i j hi hj).1, rank_parent b0 r hwf hr i j hi hj⟩
  inv_step := by
    intro s i hI hi
    show InvUp b0 (nmStep true s i).1
    by_cases hch : s.b.scoresOf i = scores3 (s.b.nd i)
    · rw [nmStep_unchanged s i hch]; exact hI
    · rw [nmStep_changed s i hch]
      have hci := childIds_congr (hI.children i)
      refine ⟨(size_setS3 _ _ _).trans hI.size, hI.pending, hI.costs, fun j => (noS3_setS3 _ _ _ _).trans (hI.skel j), ?_, ?_⟩
      · intro j hj
        rw [mem_insertSet, mem_foldl_insertSet, hci] at hj
        rcases hj with rfl | hj | hj
        · exact hi
        · exact hI.tuValid j hj
        · exact (wf_child b0 hwf i j hi hj).1
      · -- a path-error equation that held and is not queued has neither `i` as its node nor `i` among its parents
        intro j hj
        rw [mem_insertSet, mem_foldl_insertSet, hci]
        by_cases hji : j = i
        · exact Or.inr (Or.inl hji)
        by_cases hjc : j ∈ childIds (b0.nd i)
        · exact Or.inr (Or.inr (Or.inr hjc))
        rcases hI.tinv j hj with hpe | htu
        · left
          have hne : i ≠ j := fun h => hji h.symm
          rw [peOk, nd_setS3_ne _ _ _ _ hne, ← hpe]
          refine pathErrOf_setNode_ne _ _ _ _ hne (fun hp => hjc (wf_parent b0 hwf j i hj ?_).2)
          exact parentIds_congr (hI.parents j) ▸ hp
        · exact Or.inr (Or.inr (Or.inl htu))
  ok_step := fun s i hI hi => up_ok_step b0 r hr s i hI hi
  step_false := by
    intro s i h2
    show (nmStep true s i).1 = s
    by_cases hch : s.b.scoresOf i = scores3 (s.b.nd i)
    · rw [nmStep_unchanged s i hch]
    · rw [show (sysUp start).step s i = nmStep true s i from rfl, nmStep_changed s i hch] at h2; cases h2
  frame := by
    intro s i j hI hi hji hnot hok
    show nmOk (nmStep true s i).1.b j
    by_cases hch : s.b.scoresOf i = scores3 (s.b.nd i)
    · rw [nmStep_unchanged s i hch]; exact hok
    · rw [nmStep_changed s i hch]
      have hne : i ≠ j := fun h => hji h.symm
      rw [nmOk, nd_setS3_ne _ _ _ _ hne, ← hok]
      refine scoresOf_setNode_ne _ _ _ _ hne (fun hc => hnot ?_)
      have hjs : j < b0.size := hI.size ▸ lt_of_mem_childIds _ _ _ hc
      exact (wf_child b0 hwf j i hjs (childIds_congr (hI.children j) ▸ hc)).2

end up


def sysDown : Sys Book :=
  { step := Book.computePathError, succ := fun b i => childIds (b.nd i), force := fun _ => false }

structure InvDown (b0 : Book) (b : Book) : Prop where
  size : b.size = b0.size
  pending : b.pending = b0.pending
  costs : b.costs = b0.costs
  skel : ∀ j, (b.nd j).noPE = (b0.nd j).noPE
  rootpe : ∀ j, (b0.nd j).depth = 0 → pe2 (b.nd j) = pe2 (b0.nd j)

theorem InvDown.children {b0 b : Book} (h : InvDown b0 b) (j : Nat) : (b.nd j).children = (b0.nd j).children :=
  base_children (base_of_noPE (h.skel j))
theorem InvDown.parents {b0 b : Book} (h : InvDown b0 b) (j : Nat) : (b.nd j).parents = (b0.nd j).parents :=
  base_parents (base_of_noPE (h.skel j))
theorem InvDown.depth {b0 b : Book} (h : InvDown b0 b) (j : Nat) : (b.nd j).depth = (b0.nd j).depth :=
  base_depth (base_of_noPE (h.skel j))

section down
variable (b0 : Book) (r : Nat → Nat) (hwf : WF b0) (hr : Ranked b0 r)

include hwf hr in
theorem down_ok_step (b : Book) (i : Nat) (hI : InvDown b0 b) (hi : i < b0.size) : peOk (b.computePathError i).1 i := by
  by_cases hch : b.pathErrOf i = pe2 (b.nd i)
  · rw [cpe_unchanged b i hch]; exact hch
  · rw [cpe_changed b i hch]
    refine peOk_setPE_self b i (hI.size ▸ hi) ?_ (fun h0 => hch (pathErrOf_root b i h0))
    rw [parentIds_congr (hI.parents i)]
    exact not_self_parent b0 r hwf hr i hi

include hwf hr in
theorem specDown :
    Spec sysDown (InvDown b0) (fun i => i < b0.size) (fun b j => peOk b j) (fun i => childIds (b0.nd i))
      (fun i => b0.size - r i) where
  succ_eq := fun b i hI => childIds_congr (hI.children i)
  succ_valid := fun i j hi hj => down_valid b0 r hwf hr i j hi hj
  inv_step := by
    intro b i hI hi
    show InvDown b0 (b.computePathError i).1
    by_cases hch : b.pathErrOf i = pe2 (b.nd i)
    · rw [cpe_unchanged b i hch]; exact hI
    · rw [cpe_changed b i hch]
      refine ⟨(size_setPE _ _ _).trans hI.size, hI.pending, hI.costs, fun j => (noPE_setPE _ _ _ _).trans (hI.skel j), ?_⟩
      intro j h0
      have hj : i ≠ j := by
        rintro rfl
        exact hch (pathErrOf_root b i ((hI.depth i).trans h0))
      rw [nd_setPE_ne _ _ _ _ hj]; exact hI.rootpe j h0
  ok_step := fun b i hI hi => down_ok_step b0 r hwf hr b i hI hi
  step_false := by
    intro b i h2
    show (b.computePathError i).1 = b
    by_cases hch : b.pathErrOf i = pe2 (b.nd i)
    · rw [cpe_unchanged b i hch]
    · rw [show sysDown.step b i = b.computePathError i from rfl, cpe_changed b i hch] at h2; cases h2
  frame := by
    intro b i j hI hi hji hnot hok
    show peOk (b.computePathError i).1 j
    by_cases hch : b.pathErrOf i = pe2 (b.nd i)
    · rw [cpe_unchanged b i hch]; exact hok
    · rw [cpe_changed b i hch]
      have hne : i ≠ j := fun h => hji h.symm
      rw [peOk, nd_setPE_ne _ _ _ _ hne, ← hok]
      refine pathErrOf_setNode_ne _ _ _ _ hne (fun hp => hnot ?_)
      have hjs : j < b0.size := hI.size ▸ lt_of_mem_parentIds _ _ _ hp
      exact (wf_parent b0 hwf j i hjs (parentIds_congr (hI.parents j) ▸ hp)).2

end down
end Bk
