import TexelVerif.BookBuild.Preserve
/-!
# BookBuild: the fixed point is unique

Two books at their fixed point that agree on what is *stored or given* — the four serialised fields of every node, the
links (given by the chess rules), the pending set and the cost constants — are equal: depth, negamax score, both
expansion costs and both path errors of every node are determined.  This is what makes "save and reload reproduces the
same graph and scores" a consequence of "reload reaches a fixed point".
-/
namespace Bk
open Book

/-- agreement on everything that is not derived -/
structure SameGiven (b1 b2 : Book) : Prop where
  size : b1.size = b2.size
  pending : b1.pending = b2.pending
  costs : b1.costs = b2.costs
  key : ∀ j, (b1.nd j).key = (b2.nd j).key
  bestMove : ∀ j, (b1.nd j).bestMove = (b2.nd j).bestMove
  search : ∀ j, (b1.nd j).search = (b2.nd j).search
  time : ∀ j, (b1.nd j).time = (b2.nd j).time
  children : ∀ j, (b1.nd j).children = (b2.nd j).children
  parents : ∀ j, (b1.nd j).parents = (b2.nd j).parents

section unique
variable (b1 b2 : Book) (h1 : FixedPoint b1) (h2 : FixedPoint b2) (hg : SameGiven b1 b2) (r : Nat → Nat) (hr : Ranked b1 r)

include h1 h2 hg hr in
theorem depth_unique (j : Nat) : (b1.nd j).depth = (b2.nd j).depth := by
  induction j using rank_induction r with
  | h j ih =>
    by_cases hj : j < b1.size
    · by_cases h0 : j = 0
      · subst h0; rw [h1.root.1, h2.root.1]
      · have d1 := h1.depth j (by omega) hj
        have d2 := h2.depth j (by omega) (hg.size ▸ hj)
        unfold depthOk at d1 d2
        rw [parentIds_congr (hg.parents j).symm] at d2
        have hih : ∀ q ∈ parentIds (b1.nd j), (b1.nd q).depth = (b2.nd q).depth :=
          fun q hq => ih q (rank_parent b1 r h1.wf hr j q hj hq)
        obtain ⟨⟨q1, hq1, e1⟩, a1⟩ := d1
        obtain ⟨⟨q2, hq2, e2⟩, a2⟩ := d2
        have x1 := a1 q2 hq2
        have x2 := a2 q1 hq1
        have y1 := hih q1 hq1
        have y2 := hih q2 hq2
        omega
    · rw [nd_oob _ _ hj, nd_oob _ _ (hg.size ▸ hj)]

include h1 h2 hg hr in
theorem scores_unique (j : Nat) (hj : j < b1.size) : scores3 (b1.nd j) = scores3 (b2.nd j) := by
  induction j using rank_induction (fun j => b1.size - r j) with
  | h j ih =>
    rw [← show b1.scoresOf j = _ from h1.scores j hj, ← show b2.scoresOf j = _ from h2.scores j (hg.size ▸ hj)]
    refine scoresOf_congr b2 b1 j (congrArg (List.contains · j) hg.pending) hg.costs
      (by rw [depth_unique b1 b2 h1 h2 hg r hr j]) (hg.bestMove j) (hg.search j) (hg.children j) ?_
    intro c hc
    rw [childIds_congr (hg.children j).symm] at hc
    have hcv := wf_child b1 h1.wf j c hj hc
    have := hr.mono j hj c hc
    have hb := hr.bound c hcv.1
    exact ih c (by omega) hcv.1

include h1 h2 hg hr in
theorem pe_unique (j : Nat) (hj : j < b1.size) : pe2 (b1.nd j) = pe2 (b2.nd j) := by
  have hnm : ∀ j, j < b1.size → (b1.nd j).nm = (b2.nd j).nm :=
    fun j hj => congrArg Prod.fst (scores_unique b1 b2 h1 h2 hg r hr j hj)
  induction j using rank_induction r with
  | h j ih =>
    by_cases h0 : j = 0
    · subst h0; rw [h1.root.2.2, h2.root.2.2]
    · rw [← show b1.pathErrOf j = _ from h1.pathErr j hj, ← show b2.pathErrOf j = _ from h2.pathErr j (hg.size ▸ hj)]
      have hd := depth_unique b1 b2 h1 h2 hg r hr j
      have hd0 : (b2.nd j).depth ≠ 0 := by
        obtain ⟨q, _, e⟩ := (h2.depth j (by omega) (hg.size ▸ hj)).1
        omega
      refine pathErrOf_congr b2 b1 j (by rw [hd]) (by rw [hd]) (hnm j hj) (hg.parents j) (fun h => absurd h hd0) ?_
      intro q hq
      rw [parentIds_congr (hg.parents j).symm] at hq
      have hqv := wf_parent b1 h1.wf j q hj hq
      exact ⟨hnm q hqv.1, ih q (rank_parent b1 r h1.wf hr j q hj hq) hqv.1⟩

end unique

/-- The fixed point is unique: what is stored or given determines every derived field of every node. -/
theorem fixedPoint_unique (b1 b2 : Book) (h1 : FixedPoint b1) (h2 : FixedPoint b2) (hg : SameGiven b1 b2) : b1 = b2 := by
  obtain ⟨r, hr⟩ := h1.acyclic
  have hnode : ∀ j, b1.nd j = b2.nd j := by
    intro j
    by_cases hj : j < b1.size
    · exact Node.ext_of (key := hg.key j) (bestMove := hg.bestMove j) (search := hg.search j) (time := hg.time j)
        (children := hg.children j) (parents := hg.parents j) (depth := depth_unique b1 b2 h1 h2 hg r hr j)
        (scores := scores_unique b1 b2 h1 h2 hg r hr j hj) (pathErr := pe_unique b1 b2 h1 h2 hg r hr j hj)
    · rw [nd_oob _ _ hj, nd_oob _ _ (by rw [← hg.size]; exact hj)]
  have hnodes : b1.nodes = b2.nodes := by
    apply Array.ext
    · exact hg.size
    · intro i hi1 hi2
      have := hnode i
      simp only [Book.nd, Array.getD_eq_getD_getElem?, Array.getElem?_eq_getElem hi1, Array.getElem?_eq_getElem hi2,
        Option.getD_some] at this
      exact this
  cases b1; cases b2
  simp only [Book.mk.injEq]
  exact ⟨hnodes, hg.pending, hg.costs⟩

end Bk
