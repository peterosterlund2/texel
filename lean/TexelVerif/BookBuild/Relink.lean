import TexelVerif.BookBuild.Reload
import TexelVerif.BookBuild.Sorted
import TexelVerif.BookBuild.AddLink
/-!
# BookBuild: `initPositions` restores the links (`relinked_spec`)

The depth-first relinking of `readFromFile` (`initPos`), started on the freshly deserialised nodes and following the
links the chess rules give (those of the book that was written), re-creates exactly those links, yields depths that
satisfy their equations, and leaves stored fields and fresh scores alone.
-/
namespace Bk
open Book

theorem size_freshBook (b : Book) : (freshBook b).size = b.size := by
  simp [freshBook, Book.size]

theorem nd_freshBook (b : Book) (j : Nat) (hj : j < b.size) : (freshBook b).nd j = freshNode (j == 0) (b.nd j) := by
  simp only [freshBook, Book.nd, Book.size, Array.getD_eq_getD_getElem?] at *
  rw [Array.getElem?_eq_getElem (by simpa using hj), Array.getElem?_eq_getElem hj]
  simp

def Grow (acc acc' : Book) : Prop :=
  ∀ j x, (x ∈ (acc.nd j).children → x ∈ (acc'.nd j).children) ∧ (x ∈ (acc.nd j).parents → x ∈ (acc'.nd j).parents)

theorem Grow.refl (acc : Book) : Grow acc acc := fun _ _ => ⟨id, id⟩
theorem Grow.trans {a b c : Book} (h1 : Grow a b) (h2 : Grow b c) : Grow a c :=
  fun j x => ⟨fun h => (h2 j x).1 ((h1 j x).1 h), fun h => (h2 j x).2 ((h1 j x).2 h)⟩

theorem grow_linked {a a' : Book} (h : Grow a a') (j : Nat) (hl : parentIds (a.nd j) ≠ []) : parentIds (a'.nd j) ≠ [] := by
  intro hnil
  obtain ⟨x, t', hx⟩ := List.exists_cons_of_ne_nil hl
  have hx1 : x ∈ parentIds (a.nd j) := by rw [hx]; simp
  obtain ⟨y, hy, rfl⟩ := (mem_parentIds _ _).mp hx1
  have : y.2 ∈ parentIds (a'.nd j) := (mem_parentIds _ _).mpr ⟨y, (h j y).2 hy, rfl⟩
  rw [hnil] at this; simp at this

/-- invariant of the relinking pass: `acc` is the book so far, `done` the nodes whose `initPositions` call returned -/
structure DI (b : Book) (r : Nat → Nat) (acc : Book) (done : List Nat) : Prop where
  inv : LinkInv acc r
  size : acc.size = b.size
  pending : acc.pending = []
  costs : acc.costs = b.costs
  scal : ∀ j, (acc.nd j).scal = ((freshBook b).nd j).scal
  chSub : ∀ j, ∀ x ∈ (acc.nd j).children, x ∈ (b.nd j).children
  paSub : ∀ j, ∀ x ∈ (acc.nd j).parents, x ∈ (b.nd j).parents
  chSorted : ∀ j, SortedCh (acc.nd j).children
  paSorted : ∀ j, SortedPa (acc.nd j).parents
  dpar : ∀ j, j < b.size → (j = 0 ∨ parentIds (acc.nd j) ≠ []) → (acc.nd j).depth % 2 = (b.nd j).depth % 2
  doneFull : ∀ j ∈ done, j < b.size ∧ (∀ x ∈ (b.nd j).children, x ∈ (acc.nd j).children) ∧
    ∀ c ∈ childIds (b.nd j), c ∈ done

section relink
variable (b : Book) (r : Nat → Nat) (hF : FixedPoint b) (hr : Ranked b r)

include hF hr in
/-- one `addChild`/`addParent` pair of `setChildRefs` on node `i` -/
theorem di_link (acc : Book) (done : List Nat) (i : Nat) (e : Nat × Nat) (hD : DI b r acc done) (hi : i < b.size)
    (hli : i = 0 ∨ parentIds (acc.nd i) ≠ []) (he : e ∈ (b.nd i).children) :
    DI b r (addLink acc e.2 e.1 i) done ∧ Grow acc (addLink acc e.2 e.1 i) ∧ e ∈ ((addLink acc e.2 e.1 i).nd i).children := by
  have hwc := hF.wf.child i hi e he
  have hc : e.2 < b.size := hwc.1
  have hc0 : e.2 ≠ 0 := by
    intro h0
    have := hwc.2
    rw [h0, hF.root.2.1] at this; simp at this
  have hce : e.2 ∈ childIds (b.nd i) := (mem_childIds _ _).mpr ⟨e, he, rfl⟩
  have hrk : r i < r e.2 := hr.mono i hi e.2 hce
  have hparity := hF.parity i hi e.2 hce
  have hpar : parentIds (acc.nd e.2) = [] ∨ ((acc.nd i).depth + (acc.nd e.2).depth) % 2 = 1 := by
    by_cases hnil : parentIds (acc.nd e.2) = []
    · exact Or.inl hnil
    · right
      exact (add_parity_congr (hD.dpar i hi hli) (hD.dpar e.2 hc (Or.inr hnil))).trans hparity
  have huniq : ∀ x ∈ (acc.nd i).children, x.1 = e.1 → x = (e.1, e.2) := by
    intro x hx hx1
    exact sortedCh_unique _ (hF.sorted i).1 x e (hD.chSub i x hx) he hx1
  obtain ⟨hinv', hal⟩ := addLink_spec acc r e.2 e.1 i hD.inv (by rw [hD.size]; exact hi) (by rw [hD.size]; exact hc) hc0 hrk hli hpar huniq
  have hie : i ≠ e.2 := by intro h; rw [← h] at hrk; omega
  have hgrow : Grow acc (addLink acc e.2 e.1 i) :=
    fun j x => ⟨hal.children_mono, fun hx => hal.mem_parents.mpr (Or.inl hx)⟩
  refine ⟨⟨hinv', hal.size.trans hD.size, hal.pending.trans hD.pending, hal.costs.trans hD.costs,
    fun j => (hal.scal j).trans (hD.scal j), ?_, ?_, ?_, ?_, ?_, ?_⟩, hgrow, hal.new_child huniq⟩
  · intro j x hx
    rcases hal.mem_children hx with h | ⟨rfl, rfl⟩
    · exact hD.chSub j x h
    · exact he
  · intro j x hx
    rcases hal.mem_parents.mp hx with h | ⟨rfl, rfl⟩
    · exact hD.paSub j x h
    · exact hwc.2
  · intro j
    rw [hal.children j]; split
    · exact sortedCh_insertChild _ _ _ (hD.chSorted i)
    · exact hD.chSorted j
  · intro j
    rw [hal.parents j]; split
    · exact sortedPa_insertParent _ _ _ (hD.paSorted e.2)
    · exact hD.paSorted j
  · intro j hj hl
    by_cases hnew : j = e.2 ∧ parentIds (acc.nd e.2) = []
    · -- first link of this node: its only parent is i
      obtain ⟨rfl, hnil⟩ := hnew
      have hpi : i ∈ parentIds ((addLink acc e.2 e.1 i).nd e.2) := hal.mem_parentIds.mpr (Or.inr ⟨rfl, rfl⟩)
      rcases hinv'.dep e.2 (by rw [hal.size, hD.size]; exact hc) with h | h
      · rw [h] at hpi; cases hpi
      · obtain ⟨q, hq, hqe⟩ := h.1
        rcases hal.mem_parentIds.mp hq with h' | ⟨_, rfl⟩
        · rw [hnil] at h'; cases h'
        · rw [hqe]
          exact succ_parity ((hal.dpar q (Or.inl hie)).1.trans (hD.dpar q hi hli)) hparity
    · have hjc : j ≠ e.2 ∨ parentIds (acc.nd e.2) ≠ [] := by
        by_cases h1 : j = e.2
        · exact Or.inr (fun h2 => hnew ⟨h1, h2⟩)
        · exact Or.inl h1
      refine (hal.dpar j hjc).1.trans (hD.dpar j hj (hl.imp id (fun h hnil => h ?_)))
      -- a node that had no parents and is not the one being linked still has none
      have hne : j ≠ e.2 := fun h1 => hjc.elim (fun h => h h1) (fun h => h (h1 ▸ hnil))
      rw [← hnil]; exact parentIds_congr (by rw [hal.parents j, if_neg hne])
  · intro j hj
    have := hD.doneFull j hj
    exact ⟨this.1, fun x hx => (hgrow j x).1 (this.2.1 x hx), this.2.2⟩

include hF hr in
/-- `setChildRefs` on node `i`: all its child links -/
theorem di_childrefs (done : List Nat) (i : Nat) (hi : i < b.size) :
    ∀ (l : List (Nat × Nat)) (acc : Book), (∀ e ∈ l, e ∈ (b.nd i).children) → DI b r acc done →
      (i = 0 ∨ parentIds (acc.nd i) ≠ []) →
      DI b r (l.foldl (fun a e => addLink a e.2 e.1 i) acc) done ∧ Grow acc (l.foldl (fun a e => addLink a e.2 e.1 i) acc) ∧
      ∀ e ∈ l, e ∈ ((l.foldl (fun a e => addLink a e.2 e.1 i) acc).nd i).children := by
  intro l
  induction l with
  | nil => intro acc _ hD _; exact ⟨hD, Grow.refl _, by simp⟩
  | cons e t ih =>
    intro acc hl hD hli
    simp only [List.foldl_cons]
    obtain ⟨hD1, hg1, hn1⟩ := di_link b r hF hr acc done i e hD hi hli (hl e (by simp))
    have hli1 : i = 0 ∨ parentIds ((addLink acc e.2 e.1 i).nd i) ≠ [] := hli.imp id (grow_linked hg1 i)
    obtain ⟨hD2, hg2, hn2⟩ := ih (addLink acc e.2 e.1 i) (fun x hx => hl x (by simp [hx])) hD1 hli1
    refine ⟨hD2, hg1.trans hg2, ?_⟩
    intro x hx
    rcases List.mem_cons.mp hx with rfl | hxt
    · exact (hg2 i x).1 hn1
    · exact hn2 x hxt


theorem di_grow_done {b : Book} {r : Nat → Nat} {acc : Book} {done : List Nat} (i : Nat) (hD : DI b r acc done)
    (hi : i < b.size) (hfull : ∀ x ∈ (b.nd i).children, x ∈ (acc.nd i).children)
    (hch : ∀ c ∈ childIds (b.nd i), c ∈ done) : DI b r acc (i :: done) := by
  refine ⟨hD.inv, hD.size, hD.pending, hD.costs, hD.scal, hD.chSub, hD.paSub, hD.chSorted, hD.paSorted, hD.dpar, ?_⟩
  intro j hj
  rcases List.mem_cons.mp hj with rfl | hjd
  · exact ⟨hi, hfull, fun c hc => List.mem_cons_of_mem _ (hch c hc)⟩
  · have := hD.doneFull j hjd
    exact ⟨this.1, this.2.1, fun c hc => List.mem_cons_of_mem _ (this.2.2 c hc)⟩

include hF hr in
/-- `Book::initPositions` on node `i` -/
theorem di_dfs : ∀ (f i : Nat) (acc : Book) (done : List Nat), b.size - r i < f → i < b.size →
    (i = 0 ∨ parentIds (acc.nd i) ≠ []) → DI b r acc done →
    DI b r (initPos b f i (acc, done)).1 (initPos b f i (acc, done)).2 ∧ i ∈ (initPos b f i (acc, done)).2 ∧
    (∀ j ∈ done, j ∈ (initPos b f i (acc, done)).2) ∧ Grow acc (initPos b f i (acc, done)).1 := by
  intro f
  induction f with
  | zero => intro i acc done h; omega
  | succ f ih =>
    intro i acc done hf hi hli hD
    obtain ⟨hD1, hg1, hfull1⟩ := di_childrefs b r hF hr done i hi (b.nd i).children acc (fun e he => he) hD hli
    generalize hb1 : (b.nd i).children.foldl (fun a e => addLink a e.2 e.1 i) acc = b1 at hD1 hg1 hfull1
    have hinner : ∀ (l : List Nat) (s : Book × List Nat), (∀ c ∈ l, c ∈ childIds (b.nd i)) → DI b r s.1 s.2 → Grow b1 s.1 →
        DI b r (l.foldl (fun (a : Book × List Nat) c => if a.2.contains c then a else initPos b f c a) s).1
               (l.foldl (fun (a : Book × List Nat) c => if a.2.contains c then a else initPos b f c a) s).2 ∧
        (∀ j ∈ s.2, j ∈ (l.foldl (fun (a : Book × List Nat) c => if a.2.contains c then a else initPos b f c a) s).2) ∧
        Grow s.1 (l.foldl (fun (a : Book × List Nat) c => if a.2.contains c then a else initPos b f c a) s).1 ∧
        ∀ c ∈ l, c ∈ (l.foldl (fun (a : Book × List Nat) c => if a.2.contains c then a else initPos b f c a) s).2 := by
      intro l
      induction l with
      | nil => intro s _ hDs _; exact ⟨hDs, fun j h => h, Grow.refl _, by simp⟩
      | cons c t iht =>
        intro s hl hDs hgs
        simp only [List.foldl_cons]
        have hcc := hl c (by simp)
        have hcv := wf_child b hF.wf i c hi hcc
        by_cases hdone : s.2.contains c = true
        · simp only [hdone, if_true]
          obtain ⟨h1, h2, h3, h4⟩ := iht s (fun x hx => hl x (by simp [hx])) hDs hgs
          refine ⟨h1, h2, h3, ?_⟩
          intro x hx
          rcases List.mem_cons.mp hx with rfl | hxt
          · exact h2 x (by simpa using hdone)
          · exact h4 x hxt
        · simp only [hdone, Bool.false_eq_true, if_false]
          -- c is linked: i is one of its parents since the setChildRefs pass
          have hlc : c = 0 ∨ parentIds (s.1.nd c) ≠ [] := by
            right
            obtain ⟨e, he, hec⟩ := (mem_childIds _ _).mp hcc
            have he1 := hfull1 e he
            have hw := hD1.inv.wf.child i (by rw [hD1.size]; exact hi) e he1
            have : i ∈ parentIds (b1.nd c) := by rw [← hec]; exact (mem_parentIds _ _).mpr ⟨(e.1, i), hw.2, rfl⟩
            exact grow_linked hgs c (List.ne_nil_of_mem this)
          have hrc := hr.mono i hi c hcc
          have hbc := hr.bound c hcv.1
          have hrec := ih c s.1 s.2 (by omega) hcv.1 hlc hDs
          obtain ⟨r1, r2, r3, r4⟩ := hrec
          obtain ⟨h1, h2, h3, h4⟩ := iht (initPos b f c (s.1, s.2)) (fun x hx => hl x (by simp [hx])) r1 (hgs.trans r4)
          refine ⟨h1, fun j hj => h2 j (r3 j hj), r4.trans h3, ?_⟩
          intro x hx
          rcases List.mem_cons.mp hx with rfl | hxt
          · exact h2 x r2
          · exact h4 x hxt
    have hres := hinner (childIds (b1.nd i)) (b1, done)
      (by intro c hc
          obtain ⟨e, he, rfl⟩ := (mem_childIds _ _).mp hc
          exact (mem_childIds _ _).mpr ⟨e, hD1.chSub i e he, rfl⟩)
      hD1 (Grow.refl _)
    have hunf : initPos b (f + 1) i (acc, done) =
        (((childIds (b1.nd i)).foldl (fun (a : Book × List Nat) c => if a.2.contains c then a else initPos b f c a) (b1, done)).1,
         i :: ((childIds (b1.nd i)).foldl (fun (a : Book × List Nat) c => if a.2.contains c then a else initPos b f c a) (b1, done)).2) := by
      simp only [initPos, hb1]
    rw [hunf]
    generalize (childIds (b1.nd i)).foldl (fun (a : Book × List Nat) c => if a.2.contains c then a else initPos b f c a) (b1, done) = s2 at hres
    obtain ⟨h1, h2, h3, h4⟩ := hres
    refine ⟨?_, by simp, fun j hj => List.mem_cons_of_mem _ (h2 j hj), hg1.trans h3⟩
    apply di_grow_done i h1 hi
    · intro x hx; exact (h3 i x).1 (hfull1 x hx)
    · intro c hc
      apply h4
      obtain ⟨e, he, rfl⟩ := (mem_childIds _ _).mp hc
      exact (mem_childIds _ _).mpr ⟨e, hfull1 e he, rfl⟩


theorem freshNode_links (isRoot : Bool) (n : Node) : (freshNode isRoot n).children = [] ∧ (freshNode isRoot n).parents = [] := by
  cases isRoot <;> exact ⟨rfl, rfl⟩

theorem nd_freshBook_links (b : Book) (j : Nat) : ((freshBook b).nd j).children = [] ∧ ((freshBook b).nd j).parents = [] := by
  by_cases hj : j < b.size
  · rw [nd_freshBook b j hj]; exact freshNode_links _ _
  · rw [nd_oob _ _ (by rw [size_freshBook]; exact hj)]; exact ⟨rfl, rfl⟩

include hF hr in
theorem di_fresh (hsmall : b.size < DEPTH_INF) : DI b r (freshBook b) [] := by
  have hsz := size_freshBook b
  have hl := nd_freshBook_links b
  have hn := hF.nonempty
  have hroot : (freshBook b).nd 0 = freshNode true (b.nd 0) := by rw [nd_freshBook b 0 hn]; rfl
  have hpid : ∀ j, parentIds ((freshBook b).nd j) = [] := fun j => by simp only [parentIds, (hl j).2]; rfl
  have hcid : ∀ j, childIds ((freshBook b).nd j) = [] := fun j => by simp only [childIds, (hl j).1]; rfl
  have nochild : ∀ i c, c ∉ childIds ((freshBook b).nd i) := fun i c hc => by rw [hcid i] at hc; cases hc
  have linked : ∀ j, j = 0 ∨ parentIds ((freshBook b).nd j) ≠ [] → j = 0 := fun j h => h.resolve_right (fun h => h (hpid j))
  exact {
    inv := {
      nonempty := hsz ▸ hn
      small := hsz ▸ hsmall
      wf := {
        child := fun i _ e he => by rw [(hl i).1] at he; cases he
        parent := fun i _ e he => by rw [(hl i).2] at he; cases he }
      rk := {
        bound := fun i hi => by rw [hsz] at hi ⊢; exact hr.bound i hi
        mono := fun i _ c hc => absurd hc (nochild i c) }
      root := by rw [hroot]; exact ⟨rfl, rfl⟩
      dep := fun j _ => Or.inl (hpid j)
      par := fun i _ c hc => absurd hc (nochild i c)
      orphan := fun j _ _ _ => hcid j
      fresh := fun j hj hj0 _ => by
        rw [nd_freshBook b j (hsz ▸ hj), show (j == 0) = false by simpa using hj0]; rfl
      dle := fun j _ h => by rw [linked j h, hroot]; exact Nat.zero_le _ }
    size := hsz
    pending := rfl
    costs := rfl
    scal := fun _ => rfl
    chSub := fun j x hx => by rw [(hl j).1] at hx; cases hx
    paSub := fun j x hx => by rw [(hl j).2] at hx; cases hx
    chSorted := fun j => by rw [(hl j).1]; exact List.Pairwise.nil
    paSorted := fun j => by rw [(hl j).2]; exact List.Pairwise.nil
    dpar := fun j _ h => by rw [linked j h, hroot, hF.root.1]; rfl
    doneFull := fun j hj => by cases hj }

include hF hr in
/-- The relinking pass of `readFromFile` restores the book's links and a sound structure. -/
theorem relinked_spec (hsmall : b.size < DEPTH_INF) : RelinkedAs b (relinked b) := by
  have hn := hF.nonempty
  have hdfs := di_dfs b r hF hr (b.size + 1) 0 (freshBook b) [] (by omega) hn (Or.inl rfl) (di_fresh b r hF hr hsmall)
  have hL : relinked b = (initPos b (b.size + 1) 0 (freshBook b, [])).1 := rfl
  rw [← hL] at hdfs
  generalize relinked b = L at hdfs
  generalize (initPos b (b.size + 1) 0 (freshBook b, [])).2 = done at hdfs
  obtain ⟨hD, h0, _, _⟩ := hdfs
  have hall : ∀ j, j < b.size → j ∈ done := by
    have hpath : ∀ k len, Path b 0 k len → k ∈ done := by
      intro k len hp
      induction hp with
      | refl => exact h0
      | step _ hk ih => exact (hD.doneFull _ ih).2.2 _ hk
    intro j hj
    exact hpath j _ (path_of_depth b hF.struct _ j hj rfl)
  have hch : ∀ j, (L.nd j).children = (b.nd j).children := by
    intro j
    apply sortedCh_ext _ _ (hD.chSorted j) (hF.sorted j).1
    intro x
    constructor
    · exact hD.chSub j x
    · intro hx
      by_cases hj : j < b.size
      · exact (hD.doneFull j (hall j hj)).2.1 x hx
      · rw [nd_oob _ _ hj] at hx; simp [default_children] at hx
  have hpa : ∀ j, (L.nd j).parents = (b.nd j).parents := by
    intro j
    apply sortedPa_ext _ _ (hD.paSorted j) (hF.sorted j).2
    intro x
    constructor
    · exact hD.paSub j x
    · intro hx
      by_cases hj : j < b.size
      · have hw := hF.wf.parent j hj x hx
        have hxc : (x.1, j) ∈ (L.nd x.2).children := by rw [hch x.2]; exact hw.2
        exact (hD.inv.wf.child x.2 (by rw [hD.size]; exact hw.1) (x.1, j) hxc).2
      · rw [nd_oob _ _ hj] at hx; simp [default_parents] at hx
  have hscal : ∀ j, j < b.size → (L.nd j).scal = (freshNode (j == 0) (b.nd j)).scal := by
    intro j hj; rw [hD.scal j, nd_freshBook b j hj]
  refine ⟨⟨hD.inv.nonempty, hD.inv.wf, fun j => ⟨hD.chSorted j, hD.paSorted j⟩, ⟨r, hD.inv.rk⟩, ⟨hD.inv.root.1, hD.inv.root.2, ?_⟩, ?_, hD.inv.par⟩,
    hD.size, hD.costs, hD.pending, hch, hpa, ?_, ?_⟩
  · rw [scal_pe2 (hscal 0 hn)]; rfl
  · intro i h0' hi
    rw [hD.size] at hi
    rcases hD.inv.dep i (by rw [hD.size]; exact hi) with h | h
    · obtain ⟨q, hq, _⟩ := (hF.depth i h0' hi).1
      rw [parentIds_congr (hpa i)] at h; rw [h] at hq; cases hq
    · exact h
  · intro j
    by_cases hj : j < b.size
    · have h := hscal j hj
      refine ⟨(scal_key h).trans ?_, (scal_bestMove h).trans ?_, (scal_search h).trans ?_, (scal_time h).trans ?_⟩ <;>
        (cases (j == 0) <;> rfl)
    · rw [nd_oob _ _ (by rw [hD.size]; exact hj), nd_oob _ _ hj]; exact ⟨rfl, rfl, rfl, rfl⟩
  · intro j hj
    have h := hscal j hj
    constructor
    · rw [scal_scores3 h]
      cases (j == 0) <;> rfl
    · intro hj0
      have hb : (j == 0) = false := by simpa using hj0
      rw [scal_pe2 h, hb]; rfl

end relink

/-- Saving and reloading reproduces the same graph and scores. -/
theorem reload_roundtrip (b : Book) (hF : FixedPoint b) (hp : b.pending = []) (hsmall : b.size < DEPTH_INF) :
    reload true b = b := by
  obtain ⟨r, hr⟩ := hF.acyclic
  exact reload_roundtrip_partial b hF hp (relinked_spec b r hF hr hsmall)

end Bk
