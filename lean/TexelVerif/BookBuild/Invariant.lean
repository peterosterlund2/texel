import TexelVerif.BookBuild.Link
/-!
# BookBuild: the fixed point (`FixedPoint`) and the read-sets of the per-node equations

`FixedPoint b` is the conjunction of the defining equations of bookbuild.hpp's header comment as the code computes
them: every node's (negaMaxScore, expansionCostWhite, expansionCostBlack) equals what `computeNegaMax` would store,
its path errors equal what `computePathError` would store, its depth is one more than the smallest parent depth (the
root: 0), and the parent/child links are mutually consistent, acyclic and alternate in depth parity.
-/
namespace Bk
open Book


theorem nd_setNode (b : Book) (i j : Nat) (n : Node) :
    (b.setNode i n).nd j = if i = j ∧ i < b.size then n else b.nd j := by
  simp only [Book.nd, Book.setNode, Book.size, Array.getD_eq_getD_getElem?, Array.getElem?_setIfInBounds]
  by_cases h : i = j
  · subst h
    by_cases h2 : i < b.nodes.size <;> simp [h2]
  · simp [h]

theorem nd_oob (b : Book) (i : Nat) (h : ¬ i < b.size) : b.nd i = default := by
  simp only [Book.nd, Book.size, Array.getD_eq_getD_getElem?] at *
  rw [Array.getElem?_eq_none (by omega)]; rfl

theorem default_children : (default : Node).children = [] := rfl
theorem default_parents : (default : Node).parents = [] := rfl

theorem nd_setNode_self (b : Book) (i : Nat) (n : Node) (h : i < b.size) : (b.setNode i n).nd i = n := by
  simp [nd_setNode, h]

theorem nd_setNode_ne (b : Book) (i j : Nat) (n : Node) (h : i ≠ j) : (b.setNode i n).nd j = b.nd j := by
  simp [nd_setNode, h]

theorem nd_setNode_field {α : Type} (f : Node → α) (b : Book) (i : Nat) (n : Node) (h : f n = f (b.nd i)) (j : Nat) :
    f ((b.setNode i n).nd j) = f (b.nd j) := by
  rw [nd_setNode]; split
  · next hh => rw [← hh.1]; exact h
  · rfl

@[simp] theorem size_setNode (b : Book) (i : Nat) (n : Node) : (b.setNode i n).size = b.size := by
  simp [Book.setNode, Book.size]

@[simp] theorem pending_setNode (b : Book) (i : Nat) (n : Node) : (b.setNode i n).pending = b.pending := rfl
@[simp] theorem costs_setNode (b : Book) (i : Nat) (n : Node) : (b.setNode i n).costs = b.costs := rfl
@[simp] theorem isPending_setNode (b : Book) (i j : Nat) (n : Node) : (b.setNode i n).isPending j = b.isPending j := rfl


theorem add_parity_congr {a a' c c' : Nat} (ha : a % 2 = a' % 2) (hc : c % 2 = c' % 2) : (a + c) % 2 = (a' + c') % 2 := by
  rw [Nat.add_mod, ha, hc, ← Nat.add_mod]

theorem succ_parity {dp dp0 di0 : Nat} (h1 : dp % 2 = dp0 % 2) (he : (dp0 + di0) % 2 = 1) : (dp + 1) % 2 = di0 % 2 := by
  rw [Nat.add_mod] at he ⊢
  rw [h1]
  rcases Nat.mod_two_eq_zero_or_one dp0 with h | h <;> rcases Nat.mod_two_eq_zero_or_one di0 with h' | h' <;>
    rw [h, h'] at he ⊢ <;> first | rfl | cases he

theorem same_parity_succ {a c : Nat} (h : a % 2 = c % 2) : (a + (c + 1)) % 2 = 1 := by
  rw [← Nat.add_assoc, Nat.add_mod (a + c), Nat.add_mod a, h, ← Nat.add_mod, ← Nat.two_mul, Nat.mul_add_mod]

theorem succ_add_parity {a c : Nat} (h : (a + c) % 2 = 0) : (a + 1 + c) % 2 = 1 := by
  rw [Nat.add_right_comm, Nat.add_mod, h]

/-! Skeletons: "this pass changed nothing else" is stated as equality of the nodes with the fields it writes erased.
The lemmas read single fields off such an equality; they are over node variables because projecting from an equality of
concrete book entries makes the unifier evaluate array accesses. -/

def Node.noS3 (n : Node) : Node := { n with nm := 0, ecW := 0, ecB := 0 }
def Node.noPE (n : Node) : Node := { n with peW := 0, peB := 0 }
def Node.base (n : Node) : Node := { n with nm := 0, ecW := 0, ecB := 0, peW := 0, peB := 0 }
def Node.noDepth (n : Node) : Node := { n with depth := 0 }
def Node.scal (n : Node) : Node := { n with depth := 0, children := [], parents := [] }

section skeleton
variable {n m : Node}

theorem base_of_noS3 (h : n.noS3 = m.noS3) : n.base = m.base := (congrArg Node.noPE h :)
theorem base_of_noPE (h : n.noPE = m.noPE) : n.base = m.base := (congrArg Node.noS3 h :)
theorem base_children (h : n.base = m.base) : n.children = m.children := (congrArg Node.children h :)
theorem base_parents (h : n.base = m.base) : n.parents = m.parents := (congrArg Node.parents h :)
theorem base_depth (h : n.base = m.base) : n.depth = m.depth := (congrArg Node.depth h :)
theorem base_key (h : n.base = m.base) : n.key = m.key := (congrArg Node.key h :)
theorem base_bestMove (h : n.base = m.base) : n.bestMove = m.bestMove := (congrArg Node.bestMove h :)
theorem base_search (h : n.base = m.base) : n.search = m.search := (congrArg Node.search h :)
theorem base_time (h : n.base = m.base) : n.time = m.time := (congrArg Node.time h :)
theorem noS3_pe2 (h : n.noS3 = m.noS3) : pe2 n = pe2 m := (congrArg pe2 h :)
theorem noPE_scores3 (h : n.noPE = m.noPE) : scores3 n = scores3 m := (congrArg scores3 h :)
theorem noDepth_children (h : n.noDepth = m.noDepth) : n.children = m.children := (congrArg Node.children h :)
theorem noDepth_parents (h : n.noDepth = m.noDepth) : n.parents = m.parents := (congrArg Node.parents h :)
theorem scal_of_noDepth (h : n.noDepth = m.noDepth) : n.scal = m.scal := (congrArg Node.scal h :)
theorem scal_key (h : n.scal = m.scal) : n.key = m.key := (congrArg Node.key h :)
theorem scal_bestMove (h : n.scal = m.scal) : n.bestMove = m.bestMove := (congrArg Node.bestMove h :)
theorem scal_search (h : n.scal = m.scal) : n.search = m.search := (congrArg Node.search h :)
theorem scal_time (h : n.scal = m.scal) : n.time = m.time := (congrArg Node.time h :)
theorem scal_scores3 (h : n.scal = m.scal) : scores3 n = scores3 m := (congrArg scores3 h :)
theorem scal_pe2 (h : n.scal = m.scal) : pe2 n = pe2 m := (congrArg pe2 h :)
theorem scal_nm (h : n.scal = m.scal) : n.nm = m.nm := congrArg Prod.fst (scal_scores3 h)
theorem scal_peW (h : n.scal = m.scal) : n.peW = m.peW := congrArg Prod.fst (scal_pe2 h)
theorem scal_peB (h : n.scal = m.scal) : n.peB = m.peB := congrArg Prod.snd (scal_pe2 h)

theorem Node.ext_of (key : n.key = m.key) (depth : n.depth = m.depth) (bestMove : n.bestMove = m.bestMove)
    (search : n.search = m.search) (time : n.time = m.time) (scores : scores3 n = scores3 m) (pathErr : pe2 n = pe2 m)
    (children : n.children = m.children) (parents : n.parents = m.parents) : n = m := by
  cases n; cases m
  simp only [scores3, pe2, Prod.mk.injEq] at *
  obtain ⟨rfl, rfl, rfl⟩ := scores
  obtain ⟨rfl, rfl⟩ := pathErr
  subst key depth bestMove search time children parents
  rfl

end skeleton


def nmOk (b : Book) (i : Nat) : Prop := b.scoresOf i = scores3 (b.nd i)
def peOk (b : Book) (i : Nat) : Prop := b.pathErrOf i = pe2 (b.nd i)

instance (b : Book) (i : Nat) : Decidable (nmOk b i) := by unfold nmOk; infer_instance
instance (b : Book) (i : Nat) : Decidable (peOk b i) := by unfold peOk; infer_instance

/-- depth equation of a non-root node: one more than the smallest parent depth -/
def depthOk (b : Book) (i : Nat) : Prop :=
  (∃ p ∈ parentIds (b.nd i), (b.nd i).depth = (b.nd p).depth + 1) ∧
  ∀ p ∈ parentIds (b.nd i), (b.nd i).depth ≤ (b.nd p).depth + 1

structure WF (b : Book) : Prop where
  child : ∀ i, i < b.size → ∀ e ∈ (b.nd i).children, e.2 < b.size ∧ (e.1, i) ∈ (b.nd e.2).parents
  parent : ∀ i, i < b.size → ∀ e ∈ (b.nd i).parents, e.2 < b.size ∧ (e.1, i) ∈ (b.nd e.2).children

/-- child lists are strictly ordered by move (`std::map<U16,BookNode*>`) -/
def SortedCh (l : List (Nat × Nat)) : Prop := l.Pairwise (fun a c => a.1 < c.1)
/-- parent lists are strictly ordered by (move, parent) (`std::set<ParentInfo>`) -/
def SortedPa (l : List (Nat × Nat)) : Prop := l.Pairwise (fun a c => linkLt a c = true)
/-- every link list of the book is ordered as the C++ containers order them (a representation invariant of the model) -/
def SortedLinks (b : Book) : Prop := ∀ j, SortedCh (b.nd j).children ∧ SortedPa (b.nd j).parents

/-- ghost topological rank: strictly increasing along child links, bounded by the number of nodes -/
structure Ranked (b : Book) (r : Nat → Nat) : Prop where
  bound : ∀ i, i < b.size → r i < b.size
  mono : ∀ i, i < b.size → ∀ c ∈ childIds (b.nd i), r i < r c

def Acyclic (b : Book) : Prop := ∃ r, Ranked b r

theorem rank_induction {P : Nat → Prop} (r : Nat → Nat) (h : ∀ j, (∀ q, r q < r j → P q) → P j) (j : Nat) : P j := by
  suffices ∀ k j, r j ≤ k → P j from this (r j) j (Nat.le_refl _)
  intro k
  induction k with
  | zero => intro j _; exact h j (fun q hq => by omega)
  | succ k ih => intro j _; exact h j (fun q hq => ih q (by omega))

/-- every link joins depths of different parity (all paths to a position have the same length parity) -/
def ParityOk (b : Book) : Prop :=
  ∀ i, i < b.size → ∀ c ∈ childIds (b.nd i), ((b.nd i).depth + (b.nd c).depth) % 2 = 1

structure FixedPoint (b : Book) : Prop where
  nonempty : 0 < b.size
  wf : WF b
  sorted : SortedLinks b
  acyclic : Acyclic b
  root : (b.nd 0).depth = 0 ∧ (b.nd 0).parents = [] ∧ pe2 (b.nd 0) = (0, 0)
  depth : ∀ i, 0 < i → i < b.size → depthOk b i
  parity : ParityOk b
  scores : ∀ i, i < b.size → nmOk b i
  pathErr : ∀ i, i < b.size → peOk b i

/-- the structural half of `FixedPoint` (everything except the two families of score equations) -/
structure StructOk (b : Book) : Prop where
  nonempty : 0 < b.size
  wf : WF b
  sorted : SortedLinks b
  acyclic : Acyclic b
  root : (b.nd 0).depth = 0 ∧ (b.nd 0).parents = [] ∧ pe2 (b.nd 0) = (0, 0)
  depth : ∀ i, 0 < i → i < b.size → depthOk b i
  parity : ParityOk b

theorem FixedPoint.struct {b : Book} (h : FixedPoint b) : StructOk b :=
  ⟨h.nonempty, h.wf, h.sorted, h.acyclic, h.root, h.depth, h.parity⟩

theorem FixedPoint.mk' {b : Book} (h : StructOk b) (hs : ∀ i, i < b.size → nmOk b i) (hp : ∀ i, i < b.size → peOk b i) :
    FixedPoint b :=
  ⟨h.nonempty, h.wf, h.sorted, h.acyclic, h.root, h.depth, h.parity, hs, hp⟩


theorem childInfos_congr (b b' : Book) (n : Node)
    (h : ∀ c ∈ childIds n, scores3 (b'.nd c) = scores3 (b.nd c)) : b'.childInfos n = b.childInfos n := by
  unfold Book.childInfos
  apply List.map_congr_left
  intro e he
  have := h e.2 (by simp only [childIds, List.mem_map]; exact ⟨e, he, rfl⟩)
  simp only [scores3, Prod.mk.injEq] at this
  simp [this.1, this.2.1, this.2.2]

theorem parentInfos_congr (b b' : Book) (n : Node)
    (h : ∀ p ∈ parentIds n, (b'.nd p).nm = (b.nd p).nm ∧ pe2 (b'.nd p) = pe2 (b.nd p)) :
    b'.parentInfos n = b.parentInfos n := by
  unfold Book.parentInfos
  apply List.map_congr_left
  intro e he
  have := h e.2 (by simp only [parentIds, List.mem_map]; exact ⟨e, he, rfl⟩)
  simp only [pe2, Prod.mk.injEq] at this
  simp [this.1, this.2.1, this.2.2]

theorem peStep_parity (d d' : Nat) (h : d' % 2 = d % 2) : peStep d' = peStep d := by
  funext nm acc p
  simp only [peStep, h]

/-- `computeNegaMax` on node `j` reads: pending mark and costs, the node's depth / best move / search score /
    child list, and the three scores of each child. -/
theorem scoresOf_congr (b b' : Book) (j : Nat)
    (hp : b'.isPending j = b.isPending j) (hc : b'.costs = b.costs)
    (hd : (b'.nd j).depth % 2 = (b.nd j).depth % 2) (hm : (b'.nd j).bestMove = (b.nd j).bestMove)
    (hs : (b'.nd j).search = (b.nd j).search) (hch : (b'.nd j).children = (b.nd j).children)
    (h : ∀ c ∈ childIds (b.nd j), scores3 (b'.nd c) = scores3 (b.nd c)) :
    b'.scoresOf j = b.scoresOf j := by
  unfold Book.scoresOf
  have e : b'.childInfos (b'.nd j) = b.childInfos (b.nd j) := by
    have h1 : b'.childInfos (b'.nd j) = b'.childInfos (b.nd j) := by
      unfold Book.childInfos; rw [hch]
    rw [h1]; exact childInfos_congr b b' (b.nd j) h
  simp only [hp, hc, hd, hm, hs, e]

/-- `computePathError` on node `j` reads: the node's depth / negamax score / parent list (and its own path errors
    if it is the root), and negamax score and path errors of each parent. -/
theorem pathErrOf_congr (b b' : Book) (j : Nat)
    (hd : (b'.nd j).depth % 2 = (b.nd j).depth % 2) (hd0 : (b'.nd j).depth = 0 ↔ (b.nd j).depth = 0) (hn : (b'.nd j).nm = (b.nd j).nm)
    (hpa : (b'.nd j).parents = (b.nd j).parents)
    (hcur : (b.nd j).depth = 0 → pe2 (b'.nd j) = pe2 (b.nd j))
    (h : ∀ p ∈ parentIds (b.nd j), (b'.nd p).nm = (b.nd p).nm ∧ pe2 (b'.nd p) = pe2 (b.nd p)) :
    b'.pathErrOf j = b.pathErrOf j := by
  unfold Book.pathErrOf
  have e : b'.parentInfos (b'.nd j) = b.parentInfos (b.nd j) := by
    have h1 : b'.parentInfos (b'.nd j) = b'.parentInfos (b.nd j) := by
      unfold Book.parentInfos; rw [hpa]
    rw [h1]; exact parentInfos_congr b b' (b.nd j) h
  simp only [hn, e]
  unfold calcPE
  by_cases h0 : (b.nd j).depth = 0
  · have := hcur h0
    simp only [pe2, Prod.mk.injEq] at this
    simp [h0, hd0.mpr h0, this.1, this.2]
  · have h0' : ¬ (b'.nd j).depth = 0 := fun h => h0 (hd0.mp h)
    simp only [h0, h0', if_false, peStep_parity _ _ hd]

end Bk
