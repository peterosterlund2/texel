import TexelVerif.BookBuild.Preserve
/-!
# BookBuild: `updateScores_spec`

The modelled lambdas are instances of the generic propagation (`updNM … true false true = run sysUp`,
`updPE = run sysDown`); the children-first initialisation branch of `updateNegaMax` is the identity below a node whose
descendants already satisfy their equations; `sortByDepth` only permutes the work list.
-/
namespace Bk
open Book Propagate

theorem updNM_up_eq_run (start : Nat) : ∀ (f i : Nat) (s : US),
    updNM true start f i true false true s = run (sysUp start) f i s := by
  intro f
  induction f with
  | zero => intro i s; rfl
  | succ f ih =>
    intro i s
    have hfun : (fun acc p => updNM true start f p true false true acc) = (fun acc j => run (sysUp start) f j acc) := by
      funext acc p; exact ih p acc
    simp only [updNM, run, sysUp, Bool.not_true, Bool.false_and, Bool.false_eq_true, if_false, Bool.true_and, hfun]
    rfl

theorem updPE_eq_run : ∀ (f i : Nat) (b : Book), updPE f i b = run sysDown f i b := by
  intro f
  induction f with
  | zero => intro i b; rfl
  | succ f ih =>
    intro i b
    have hfun : (fun acc c => updPE f c acc) = (fun acc j => run sysDown f j acc) := by
      funext acc c; exact ih c acc
    simp only [updPE, run, sysDown, Bool.or_false, hfun]

/-- The `updateChildren` branch (`updateNegaMax(child, false, true, false)`) changes nothing below a node all of whose
    descendants satisfy their equations. -/
theorem updNM_down_id (start : Nat) (r : Nat → Nat) (s : US) (hwf : WF s.b) (hr : Ranked s.b r)
    (hok : ∀ j, j < s.b.size → r start < r j → nmOk s.b j) :
    ∀ (f c : Nat), c < s.b.size → r start < r c → updNM true start f c false true false s = s := by
  intro f
  induction f with
  | zero => intro c _ _; rfl
  | succ f ih =>
    intro c hc hrc
    simp only [updNM, Bool.not_false, Bool.true_and, Bool.false_and, Bool.false_eq_true, if_false, if_true]
    by_cases hnm : ((s.b.nd c).nm != INVALID) = true
    · simp [hnm]
    · simp only [hnm, Bool.false_eq_true, if_false]
      have hfold : (childIds (s.b.nd c)).foldl (fun acc c' => updNM true start f c' false true false acc) s = s := by
        apply foldl_fixed
        intro x hx
        have h2 := hr.mono c hc x hx
        exact ih x (wf_child s.b hwf c x hc hx).1 (by omega)
      rw [hfold]
      rw [nmStep_unchanged s c (hok c hc hrc)]

theorem mem_sortByDepth (b : Book) (l : List Nat) (x : Nat) : x ∈ sortByDepth b l ↔ x ∈ l := by
  unfold sortByDepth
  induction l with
  | nil => simp
  | cons a t ih =>
    simp only [List.foldr_cons]
    have hspan : ∀ (acc : List Nat) (p : Nat → Bool), x ∈ acc.takeWhile p ++ a :: acc.dropWhile p ↔ x = a ∨ x ∈ acc := by
      intro acc p
      simp only [List.mem_append, List.mem_cons]
      constructor
      · rintro (h | rfl | h)
        · exact Or.inr ((List.takeWhile_sublist p).subset h)
        · exact Or.inl rfl
        · exact Or.inr ((List.dropWhile_sublist p).subset h)
      · rintro (rfl | h)
        · exact Or.inr (Or.inl rfl)
        · have := List.takeWhile_append_dropWhile (p := p) (l := acc)
          rw [← this] at h
          rcases List.mem_append.mp h with h | h
          · exact Or.inl h
          · exact Or.inr (Or.inr h)
    rw [hspan, ih, List.mem_cons]

/-- two books that differ at most in the five derived score fields -/
structure SameBase (b' b : Book) : Prop where
  size : b'.size = b.size
  pending : b'.pending = b.pending
  costs : b'.costs = b.costs
  base : ∀ j, (b'.nd j).base = (b.nd j).base
  rootpe : ∀ j, (b.nd j).depth = 0 → pe2 (b'.nd j) = pe2 (b.nd j)

theorem second_pass_spec (b : Book) (r : Nat → Nat) (hwf : WF b) (hr : Ranked b r) (s1 : US) (hI1 : InvUp b s1)
    (hnm1 : ∀ j, j < b.size → nmOk s1.b j) :
    SameBase ((sortByDepth s1.b s1.tu).foldl (fun acc n => updPE (b.size + 1) n acc) s1.b) b ∧
    (∀ j, j < b.size → nmOk ((sortByDepth s1.b s1.tu).foldl (fun acc n => updPE (b.size + 1) n acc) s1.b) j) ∧
    (∀ j, j < b.size → peOk ((sortByDepth s1.b s1.tu).foldl (fun acc n => updPE (b.size + 1) n acc) s1.b) j) := by
  have hwf1 : WF s1.b := hwf.of_links hI1.size hI1.children hI1.parents
  have hr1 : Ranked s1.b r := hr.of_links hI1.size hI1.children
  have hI2 : InvDown s1.b s1.b := ⟨rfl, rfl, rfl, fun _ => rfl, fun _ _ => rfl⟩
  have hfun2 : (fun acc n => updPE (b.size + 1) n acc) = (fun acc j => run sysDown (b.size + 1) j acc) := by
    funext acc n; exact updPE_eq_run (b.size + 1) n acc
  have hdn := run_list_spec (specDown s1.b r hwf1 hr1) (b.size + 1) (sortByDepth s1.b s1.tu) s1.b
    (by intro j hj
        rw [mem_sortByDepth] at hj
        have := hI1.tuValid j hj
        rw [hI1.size]; exact ⟨this, by omega⟩) hI2
  rw [hfun2]
  generalize (sortByDepth s1.b s1.tu).foldl (fun acc j => run sysDown (b.size + 1) j acc) s1.b = b2 at hdn
  obtain ⟨hI3, hok3, hmono3⟩ := hdn
  refine ⟨?_, ?_, ?_⟩
  · refine ⟨hI3.size.trans hI1.size, hI3.pending.trans hI1.pending, hI3.costs.trans hI1.costs,
      fun j => (base_of_noPE (hI3.skel j)).trans (base_of_noS3 (hI1.skel j)), ?_⟩
    intro j h0
    have hd1 : (s1.b.nd j).depth = (b.nd j).depth := base_depth (base_of_noS3 (hI1.skel j))
    exact (hI3.rootpe j (hd1.trans h0)).trans (noS3_pe2 (hI1.skel j))
  · -- the path-error pass writes nothing the negamax / cost equations read
    intro j hj
    have h1 := hnm1 j hj
    rw [nmOk, noPE_scores3 (hI3.skel j), ← h1]
    have hb := base_of_noPE (hI3.skel j)
    exact scoresOf_congr s1.b b2 j (congrArg (List.contains · j) hI3.pending) hI3.costs (by rw [base_depth hb])
      (base_bestMove hb) (base_search hb) (base_children hb) (fun c _ => noPE_scores3 (hI3.skel c))
  · intro j hj
    rcases hI1.tinv j hj with h | h
    · exact hmono3 j h
    · exact hok3 j ((mem_sortByDepth _ _ _).mpr h)

theorem updateScores_spec (b : Book) (start : Nat) (r : Nat → Nat) (hwf : WF b) (hr : Ranked b r)
    (hs : start < b.size)
    (hnm : ∀ j, j < b.size → j ≠ start → j ∉ parentIds (b.nd start) → nmOk b j)
    (hpe : ∀ j, j < b.size → j ≠ start → peOk b j) :
    SameBase (updateScores true b start) b ∧
    (∀ j, j < b.size → nmOk (updateScores true b start) j) ∧
    (∀ j, j < b.size → peOk (updateScores true b start) j) := by
  let s0 : US := { b := b, tu := [start] }
  have hI0 : InvUp b s0 :=
    ⟨rfl, rfl, rfl, fun _ => rfl, by intro j hj; simp [s0] at hj; subst hj; exact hs,
     by intro j hj
        by_cases h : j = start
        · right; simp [s0, h]
        · left; exact hpe j hj h⟩
  have htop : updNM true start (b.size + 1) start true true true s0 = run (sysUp start) (b.size + 1) start s0 := by
    have hdown : (childIds (s0.b.nd start)).foldl (fun acc c => updNM true start b.size c false true false acc) s0 = s0 := by
      apply foldl_fixed
      intro x hx
      refine updNM_down_id start r s0 hwf hr ?_ b.size x (wf_child b hwf start x hs hx).1 (hr.mono start hs x hx)
      intro j hj hrj
      apply hnm j hj
      · rintro rfl; omega
      · intro hp; have := rank_parent b r hwf hr start j hs hp; omega
    have hfun : (fun acc p => updNM true start b.size p true false true acc) = (fun acc j => run (sysUp start) b.size j acc) := by
      funext acc p; exact updNM_up_eq_run start b.size p acc
    simp only [updNM, run, sysUp, Bool.not_true, Bool.false_and, Bool.false_eq_true, if_false, if_true, Bool.true_and, hdown, hfun]
    rfl
  have hup := run_spec (specUp b r hwf hr start) (b.size + 1) start s0 (by have := hr.bound start hs; omega) hs hI0
  rw [← htop] at hup
  generalize hs1 : updNM true start (b.size + 1) start true true true s0 = s1 at hup
  obtain ⟨hI1, hok1, hmono1, hforce1⟩ := hup
  have hnm1 : ∀ j, j < b.size → nmOk s1.b j := by
    intro j hj
    by_cases h1 : j = start
    · subst h1; exact hok1
    by_cases h2 : j ∈ parentIds (b.nd start)
    · exact hforce1 (by simp [sysUp]) j h2
    · exact hmono1 j (hnm j hj h1 h2)
  have h2 := second_pass_spec b r hwf hr s1 hI1 hnm1
  have hres : updateScores true b start = (sortByDepth s1.b s1.tu).foldl (fun acc n => updPE (b.size + 1) n acc) s1.b := by
    simp only [updateScores]
    rw [show ({ b := b, tu := [start] } : US) = s0 from rfl, hs1]
  rw [hres]; exact h2

end Bk
