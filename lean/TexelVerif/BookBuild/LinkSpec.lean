import TexelVerif.BookBuild.Depth
/-!
# BookBuild: adding one parent/child link (`addChild` + `addParent` with its `updateDepth`)

The ordered insertions; `linkOnly` = the two list updates without the `updateDepth`; `AL` = how the book after
`addLink b c mv p` relates to `b` (only the two link lists and depths change; depths keep parity and zero-ness);
`LinkInv` = the invariant of the linking phase.  `addLink_spec` is in `AddLink.lean`.
-/
namespace Bk
open Book Propagate


theorem mem_insertChild_old (l : List (Nat × Nat)) (mv c : Nat) (x : Nat × Nat) (h : x ∈ l) : x ∈ insertChild l mv c := by
  induction l with
  | nil => simp at h
  | cons e t ih =>
    simp only [insertChild]
    split
    · simp [h]
    · split
      · exact h
      · rcases List.mem_cons.mp h with rfl | h
        · simp
        · simp [ih h]

theorem mem_insertChild_cases (l : List (Nat × Nat)) (mv c : Nat) (x : Nat × Nat) (h : x ∈ insertChild l mv c) :
    x ∈ l ∨ x = (mv, c) := by
  induction l with
  | nil => simp [insertChild] at h; exact Or.inr h
  | cons e t ih =>
    simp only [insertChild] at h
    split at h
    · rcases List.mem_cons.mp h with rfl | h
      · exact Or.inr rfl
      · exact Or.inl h
    · split at h
      · exact Or.inl h
      · rcases List.mem_cons.mp h with rfl | h
        · exact Or.inl (by simp)
        · rcases ih h with h | h
          · exact Or.inl (by simp [h])
          · exact Or.inr h

theorem mem_insertChild_new (l : List (Nat × Nat)) (mv c : Nat) (h : ∀ y ∈ l, y.1 = mv → y = (mv, c)) :
    (mv, c) ∈ insertChild l mv c := by
  induction l with
  | nil => simp [insertChild]
  | cons e t ih =>
    simp only [insertChild]
    split
    · simp
    · split
      · next h2 => have := h e (by simp) h2.symm; simp [this]
      · have := ih (fun y hy => h y (by simp [hy])); simp [this]

theorem mem_insertParent (l : List (Nat × Nat)) (mv p : Nat) (x : Nat × Nat) :
    x ∈ insertParent l mv p ↔ x ∈ l ∨ x = (mv, p) := by
  induction l with
  | nil => simp [insertParent]
  | cons e t ih =>
    simp only [insertParent]
    split
    · simp only [List.mem_cons]; constructor
      · rintro (h | h | h)
        · exact Or.inr h
        · exact Or.inl (Or.inl h)
        · exact Or.inl (Or.inr h)
      · rintro ((h | h) | h)
        · exact Or.inr (Or.inl h)
        · exact Or.inr (Or.inr h)
        · exact Or.inl h
    · split
      · next h2 => simp only [List.mem_cons]; constructor
                   · exact Or.inl
                   · rintro (h | h)
                     · exact h
                     · exact Or.inl (h.trans h2.symm)
      · simp only [List.mem_cons, ih]; constructor
        · rintro (h | h | h)
          · exact Or.inl (Or.inl h)
          · exact Or.inl (Or.inr h)
          · exact Or.inr h
        · rintro ((h | h) | h)
          · exact Or.inl h
          · exact Or.inr (Or.inl h)
          · exact Or.inr (Or.inr h)

theorem insertChild_filter (l : List (Nat × Nat)) (mv c : Nat) (P : Nat × Nat → Bool) (h : P (mv, c) = false) :
    (insertChild l mv c).filter P = l.filter P := by
  induction l with
  | nil => simp [insertChild, h]
  | cons e t ih =>
    simp only [insertChild]
    split
    · simp [List.filter_cons, h]
    · split
      · rfl
      · simp only [List.filter_cons, ih]

theorem insertParent_filter (l : List (Nat × Nat)) (mv p : Nat) (P : Nat × Nat → Bool) (h : P (mv, p) = false) :
    (insertParent l mv p).filter P = l.filter P := by
  induction l with
  | nil => simp [insertParent, h]
  | cons e t ih =>
    simp only [insertParent]
    split
    · simp [List.filter_cons, h]
    · split
      · rfl
      · simp only [List.filter_cons, ih]


def linkOnly (b : Book) (c mv p : Nat) : Book :=
  let pn := b.nd p
  let b1 := b.setNode p { pn with children := insertChild pn.children mv c }
  let cn := b1.nd c
  b1.setNode c { cn with parents := insertParent cn.parents mv p }

theorem addLink_eq (b : Book) (c mv p : Nat) :
    addLink b c mv p = updDepth ((linkOnly b c mv p).size + 1) c (linkOnly b c mv p) := rfl

@[simp] theorem size_linkOnly (b : Book) (c mv p : Nat) : (linkOnly b c mv p).size = b.size := by simp [linkOnly]
@[simp] theorem pending_linkOnly (b : Book) (c mv p : Nat) : (linkOnly b c mv p).pending = b.pending := rfl
@[simp] theorem costs_linkOnly (b : Book) (c mv p : Nat) : (linkOnly b c mv p).costs = b.costs := rfl

theorem depth_linkOnly (b : Book) (c mv p j : Nat) : ((linkOnly b c mv p).nd j).depth = (b.nd j).depth :=
  (nd_setNode_field Node.depth _ c _ (by rfl) j).trans (nd_setNode_field Node.depth b p _ (by rfl) j)

theorem scal_setLinks (n : Node) (ch pa : List (Nat × Nat)) : ({ n with children := ch, parents := pa } : Node).scal = n.scal :=
  rfl

theorem scal_linkOnly (b : Book) (c mv p j : Nat) : ((linkOnly b c mv p).nd j).scal = (b.nd j).scal :=
  (nd_setNode_field Node.scal _ c _ (scal_setLinks _ _ _) j).trans (nd_setNode_field Node.scal b p _ (scal_setLinks _ _ _) j)

theorem children_linkOnly (b : Book) (c mv p : Nat) (hp : p < b.size) (j : Nat) :
    ((linkOnly b c mv p).nd j).children = if j = p then insertChild (b.nd p).children mv c else (b.nd j).children := by
  rw [linkOnly, nd_setNode_field Node.children _ c _ (by rfl) j, nd_setNode]
  by_cases h : j = p
  · subst h; simp [hp]
  · simp [h, Ne.symm h]

theorem parents_linkOnly (b : Book) (c mv p : Nat) (hc : c < b.size) (j : Nat) :
    ((linkOnly b c mv p).nd j).parents = if j = c then insertParent (b.nd c).parents mv p else (b.nd j).parents := by
  rw [linkOnly, nd_setNode, size_setNode]
  by_cases h : j = c
  · subst h
    rw [if_pos ⟨rfl, hc⟩, if_pos rfl]
    exact congrArg (insertParent · mv p) (nd_setNode_field Node.parents b p _ (by rfl) j)
  · simp only [Ne.symm h, false_and, if_false, h]
    exact nd_setNode_field Node.parents b p _ (by rfl) j

/-- how `addLink b c mv p` relates to `b` -/
structure AL (b b' : Book) (c mv p : Nat) : Prop where
  size : b'.size = b.size
  pending : b'.pending = b.pending
  costs : b'.costs = b.costs
  scal : ∀ j, (b'.nd j).scal = (b.nd j).scal
  children : ∀ j, (b'.nd j).children = if j = p then insertChild (b.nd p).children mv c else (b.nd j).children
  parents : ∀ j, (b'.nd j).parents = if j = c then insertParent (b.nd c).parents mv p else (b.nd j).parents
  dle : ∀ j, (b'.nd j).depth ≤ (b.nd j).depth
  dpar : ∀ j, (j ≠ c ∨ parentIds (b.nd c) ≠ []) →
    (b'.nd j).depth % 2 = (b.nd j).depth % 2 ∧ ((b'.nd j).depth = 0 ↔ (b.nd j).depth = 0)

namespace AL
variable {b b' : Book} {c mv p : Nat} (h : AL b b' c mv p)
include h

theorem children_mono {j : Nat} {x : Nat × Nat} (hx : x ∈ (b.nd j).children) : x ∈ (b'.nd j).children := by
  rw [h.children j]; split
  · next e => subst e; exact mem_insertChild_old _ _ _ _ hx
  · exact hx

theorem mem_children {j : Nat} {x : Nat × Nat} (hx : x ∈ (b'.nd j).children) :
    x ∈ (b.nd j).children ∨ (j = p ∧ x = (mv, c)) := by
  rw [h.children j] at hx; split at hx
  · next e => subst e; exact (mem_insertChild_cases _ _ _ _ hx).imp id (fun hn => ⟨rfl, hn⟩)
  · exact Or.inl hx

theorem new_child (huniq : ∀ y ∈ (b.nd p).children, y.1 = mv → y = (mv, c)) : (mv, c) ∈ (b'.nd p).children := by
  rw [h.children p, if_pos rfl]; exact mem_insertChild_new _ _ _ huniq

theorem mem_parents {j : Nat} {x : Nat × Nat} :
    x ∈ (b'.nd j).parents ↔ x ∈ (b.nd j).parents ∨ (j = c ∧ x = (mv, p)) := by
  rw [h.parents j]; split
  · next e => subst e; rw [mem_insertParent]; exact or_congr Iff.rfl ⟨fun hn => ⟨rfl, hn⟩, fun hn => hn.2⟩
  · next e => exact ⟨Or.inl, fun hn => hn.resolve_right (fun hn' => e hn'.1)⟩

theorem mem_childIds {j q : Nat} (hq : q ∈ childIds (b'.nd j)) : q ∈ childIds (b.nd j) ∨ (j = p ∧ q = c) := by
  obtain ⟨e, he, rfl⟩ := (Bk.mem_childIds _ _).mp hq
  rcases h.mem_children he with hn | ⟨hj, rfl⟩
  · exact Or.inl ((Bk.mem_childIds _ _).mpr ⟨e, hn, rfl⟩)
  · exact Or.inr ⟨hj, rfl⟩

theorem mem_parentIds {j q : Nat} : q ∈ parentIds (b'.nd j) ↔ q ∈ parentIds (b.nd j) ∨ (j = c ∧ q = p) := by
  simp only [Bk.mem_parentIds, h.mem_parents]
  constructor
  · rintro ⟨e, hn | ⟨hj, rfl⟩, rfl⟩
    · exact Or.inl ⟨e, hn, rfl⟩
    · exact Or.inr ⟨hj, rfl⟩
  · rintro (⟨e, hn, rfl⟩ | ⟨hj, rfl⟩)
    · exact ⟨e, Or.inl hn, rfl⟩
    · exact ⟨(mv, q), Or.inr ⟨hj, rfl⟩, rfl⟩

end AL

theorem al_linkOnly (b : Book) (c mv p : Nat) (hp : p < b.size) (hc : c < b.size) : AL b (linkOnly b c mv p) c mv p :=
  ⟨size_linkOnly _ _ _ _, rfl, rfl, scal_linkOnly b c mv p, children_linkOnly b c mv p hp, parents_linkOnly b c mv p hc,
   fun j => Nat.le_of_eq (depth_linkOnly b c mv p j),
   fun j _ => by rw [depth_linkOnly]; exact ⟨rfl, Iff.rfl⟩⟩

/-- the invariant of the linking phase -/
structure LinkInv (b : Book) (r : Nat → Nat) : Prop where
  nonempty : 0 < b.size
  small : b.size < DEPTH_INF        -- so that `depth ≤ rank < size` stays below the `INT_MAX` of unlinked nodes
  wf : WF b
  rk : Ranked b r
  root : (b.nd 0).depth = 0 ∧ (b.nd 0).parents = []
  dep : ∀ j, j < b.size → dOkF b j
  par : ParityOk b
  -- a non-root node without parents is still unlinked: no children, depth `INT_MAX`
  orphan : ∀ j, j < b.size → j ≠ 0 → parentIds (b.nd j) = [] → childIds (b.nd j) = []
  fresh : ∀ j, j < b.size → j ≠ 0 → parentIds (b.nd j) = [] → (b.nd j).depth = DEPTH_INF
  -- a linked node's depth is at most its rank, hence finite
  dle : ∀ j, j < b.size → (j = 0 ∨ parentIds (b.nd j) ≠ []) → (b.nd j).depth ≤ r j

end Bk
