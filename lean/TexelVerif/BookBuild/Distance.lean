import TexelVerif.BookBuild.Preserve
/-!
# BookBuild: the local depth equations mean "shortest distance from the root"

`FixedPoint` states the depth of a node by the local equation `depth = 1 + min parent depth` (root: 0).  On a book with
consistent links this is the length of a shortest path of child links from the root.
-/
namespace Bk
open Book

/-- `Path b i j len`: there is a chain of `len` child links from node `i` to node `j` -/
inductive Path (b : Book) (i : Nat) : Nat → Nat → Prop
  | refl : Path b i i 0
  | step {j k len : Nat} : Path b i j len → k ∈ childIds (b.nd j) → Path b i k (len + 1)

theorem path_uncons (b : Book) {i k len : Nat} (h : Path b i k (len + 1)) : ∃ c ∈ childIds (b.nd i), Path b c k len := by
  generalize hl : len + 1 = l at h
  induction h generalizing len with
  | refl => omega
  | step hp hk ih =>
    rename_i j k l'
    have hl' : l' = len := by omega
    subst hl'
    cases hp with
    | refl => exact ⟨k, hk, Path.refl⟩
    | step hp' hk' =>
      obtain ⟨c, hc, hpc⟩ := ih rfl
      exact ⟨c, hc, Path.step hpc hk⟩

theorem path_rank (b : Book) (r : Nat → Nat) (hwf : WF b) (hr : Ranked b r) {i k len : Nat} (hi : i < b.size)
    (h : Path b i k len) : k < b.size ∧ r i + len ≤ r k := by
  induction h with
  | refl => exact ⟨hi, by omega⟩
  | step hp hk ih =>
    rename_i j k l
    have := wf_child b hwf j k ih.1 hk
    have h2 := hr.mono j ih.1 k hk
    exact ⟨this.1, by omega⟩

theorem path_valid_and_depth_le (b : Book) (hS : StructOk b) :
    ∀ {j len : Nat}, Path b 0 j len → j < b.size ∧ (b.nd j).depth ≤ len := by
  intro j len h
  induction h with
  | refl => exact ⟨hS.nonempty, by rw [hS.root.1]; omega⟩
  | step hp hk ih =>
    rename_i j k len
    have ih' := ih
    have hk' := wf_child b hS.wf j k ih'.1 hk
    have hk0 : k ≠ 0 := by
      rintro rfl
      have := hk'.2
      simp [parentIds, hS.root.2.1] at this
    have := (hS.depth k (by omega) hk'.1).2 j hk'.2
    exact ⟨hk'.1, by omega⟩

theorem path_of_depth (b : Book) (hS : StructOk b) : ∀ (d j : Nat), j < b.size → (b.nd j).depth = d → Path b 0 j d := by
  intro d
  induction d with
  | zero =>
    intro j hj hd
    by_cases h0 : j = 0
    · subst h0; exact Path.refl
    · obtain ⟨q, _, he⟩ := (hS.depth j (by omega) hj).1
      omega
  | succ d ih =>
    intro j hj hd
    have h0 : j ≠ 0 := by rintro rfl; rw [hS.root.1] at hd; omega
    obtain ⟨q, hq, he⟩ := (hS.depth j (by omega) hj).1
    have hq' := wf_parent b hS.wf j q hj hq
    exact Path.step (ih q hq'.1 (by omega)) hq'.2

/-- the stored depth is the length of a shortest chain of child links from the root -/
theorem depth_is_distance (b : Book) (hS : StructOk b) (j : Nat) (hj : j < b.size) :
    Path b 0 j (b.nd j).depth ∧ ∀ len, Path b 0 j len → (b.nd j).depth ≤ len :=
  ⟨path_of_depth b hS _ j hj rfl, fun _ h => (path_valid_and_depth_le b hS h).2⟩

end Bk
