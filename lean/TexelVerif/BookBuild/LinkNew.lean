import TexelVerif.BookBuild.AddLink
/-!
# BookBuild: the structural part of `addPosToBook` (`linkNew`)

`AddOk` collects what the chess rules guarantee about the links of a new position (the model is parametric in them);
`linkNew_spec` shows that pushing the new node, linking it to all its parents and then to all its existing children
keeps the linking invariant and changes old nodes only by adding links to the new node and by lowering depths
(parity and zero-ness preserved).
-/
namespace Bk
open Book

/-- What is assumed about the links `ps` (move, parent) and `cs` (move, child) of a new position; `r'` is a ghost
    topological rank of the extended graph (the new node has index `b.size`). -/
structure AddOk (b : Book) (ps cs : List (Nat × Nat)) (r' : Nat → Nat) : Prop where
  psne : ps ≠ []
  psValid : ∀ e ∈ ps, e.2 < b.size
  csValid : ∀ e ∈ cs, e.2 < b.size ∧ e.2 ≠ 0
  rkBound : ∀ i, i < b.size + 1 → r' i < b.size + 1
  rkOld : ∀ i, i < b.size → ∀ c ∈ childIds (b.nd i), r' i < r' c
  rkPs : ∀ e ∈ ps, r' e.2 < r' b.size
  rkCs : ∀ e ∈ cs, r' b.size < r' e.2
  parPs : ∀ e ∈ ps, ∀ e' ∈ ps, (b.nd e.2).depth % 2 = (b.nd e'.2).depth % 2
  parCs : ∀ e ∈ ps, ∀ e' ∈ cs, ((b.nd e.2).depth + (b.nd e'.2).depth) % 2 = 0
  mvPs : ∀ e ∈ ps, ∀ x ∈ (b.nd e.2).children, x.1 ≠ e.1
  mvCs : ∀ e ∈ cs, ∀ e' ∈ cs, e.1 = e'.1 → e = e'
  small : b.size + 1 < DEPTH_INF

def pushNew (b : Book) (key : Nat) : Book := { b with nodes := b.nodes.push { key := key } }

theorem linkNew_eq (b : Book) (key : Nat) (ps cs : List (Nat × Nat)) :
    linkNew b key ps cs =
      cs.foldl (fun acc e => addLink acc e.2 e.1 b.size)
        (ps.foldl (fun acc e => addLink acc b.size e.1 e.2) (pushNew b key)) := rfl

@[simp] theorem size_pushNew (b : Book) (key : Nat) : (pushNew b key).size = b.size + 1 := by
  simp [pushNew, Book.size]

theorem nd_pushNew_old (b : Book) (key j : Nat) (h : j < b.size) : (pushNew b key).nd j = b.nd j := by
  simp only [pushNew, Book.nd, Book.size, Array.getD_eq_getD_getElem?] at *
  rw [Array.getElem?_push_lt h, Array.getElem?_eq_getElem h]

theorem nd_pushNew_new (b : Book) (key : Nat) : (pushNew b key).nd b.size = { key := key } := by
  simp only [pushNew, Book.nd, Book.size, Array.getD_eq_getD_getElem?]
  rw [Array.getElem?_push_size]; rfl

/-- frame of the linking phase relative to the original book: old nodes only gain links to the new node -/
structure NF (b : Book) (key : Nat) (bc : Book) : Prop where
  size : bc.size = b.size + 1
  pending : bc.pending = b.pending
  costs : bc.costs = b.costs
  scalOld : ∀ j, j < b.size → (bc.nd j).scal = (b.nd j).scal
  scalNew : (bc.nd b.size).scal = ({ key := key } : Node).scal
  chOld : ∀ j, j < b.size → (bc.nd j).children.filter (fun e => e.2 != b.size) = (b.nd j).children
  paOld : ∀ j, j < b.size → (bc.nd j).parents.filter (fun e => e.2 != b.size) = (b.nd j).parents
  dparOld : ∀ j, j < b.size →
    (bc.nd j).depth % 2 = (b.nd j).depth % 2 ∧ ((bc.nd j).depth = 0 ↔ (b.nd j).depth = 0)

theorem filter_id_of_all {α : Type} (l : List α) (P : α → Bool) (h : ∀ x ∈ l, P x = true) : l.filter P = l :=
  List.filter_eq_self.mpr h

theorem depth_le_rank (b : Book) (hS : StructOk b) (r : Nat → Nat)
    (hr : ∀ i, i < b.size → ∀ c ∈ childIds (b.nd i), r i < r c) (j : Nat) (hj : j < b.size) : (b.nd j).depth ≤ r j := by
  induction j using rank_induction r with
  | h j ih =>
    by_cases h0 : j = 0
    · subst h0; rw [hS.root.1]; omega
    · obtain ⟨q, hq, he⟩ := (hS.depth j (by omega) hj).1
      have hq' := wf_parent b hS.wf j q hj hq
      have h1 := hr q hq'.1 j hq'.2
      have h2 := ih q h1 hq'.1
      omega

theorem NF.addLink (b : Book) (key : Nat) {bc bc' : Book} {c mv p : Nat} (h : NF b key bc) (hal : AL bc bc' c mv p)
    (hend : c = b.size ∨ p = b.size) (hd : ∀ j, j < b.size → j ≠ c ∨ parentIds (bc.nd c) ≠ []) : NF b key bc' := by
  refine ⟨hal.size.trans h.size, hal.pending.trans h.pending, hal.costs.trans h.costs,
    fun j hj => (hal.scal j).trans (h.scalOld j hj), (hal.scal b.size).trans h.scalNew, ?_, ?_, ?_⟩
  · intro j hj
    rw [hal.children j]
    split
    · next hje =>
      rcases hend with hc | hp
      · rw [insertChild_filter _ _ _ _ (by simp [hc]), ← hje]; exact h.chOld j hj
      · omega
    · exact h.chOld j hj
  · intro j hj
    rw [hal.parents j]
    split
    · next hje =>
      rcases hend with hc | hp
      · omega
      · rw [insertParent_filter _ _ _ _ (by simp [hp]), ← hje]; exact h.paOld j hj
    · exact h.paOld j hj
  · intro j hj
    have h1 := hal.dpar j (hd j hj)
    have h2 := h.dparOld j hj
    exact ⟨h1.1.trans h2.1, h1.2.trans h2.2⟩

theorem foldl_done {α β : Type} (f : β → α → β) (P : List α → β → Prop) (l : List α)
    (step : ∀ done acc e, (∀ x ∈ done, x ∈ l) → e ∈ l → P done acc → P (done ++ [e]) (f acc e)) :
    ∀ (todo done : List α) (acc : β), (∀ x ∈ done, x ∈ l) → (∀ x ∈ todo, x ∈ l) → P done acc →
      P (done ++ todo) (todo.foldl f acc) := by
  intro todo
  induction todo with
  | nil => intro done acc _ _ h; rw [List.append_nil]; exact h
  | cons e t ih =>
    intro done acc hd ht h
    have := ih (done ++ [e]) (f acc e)
      (by intro x hx; rcases List.mem_append.mp hx with h1 | h1
          · exact hd x h1
          · rw [List.mem_singleton.mp h1]; exact ht e (by simp))
      (fun x hx => ht x (by simp [hx]))
      (step done acc e hd (ht e (by simp)) h)
    rw [List.append_assoc] at this; exact this

section linknew
variable (b : Book) (key : Nat) (ps cs : List (Nat × Nat)) (r' : Nat → Nat) (hS : StructOk b) (hA : AddOk b ps cs r')

include hS hA in
theorem pushNew_linkInv : LinkInv (pushNew b key) r' := by
  have hold := nd_pushNew_old b key
  have hnew := nd_pushNew_new b key
  have hcases : ∀ j, j < b.size + 1 → j < b.size ∨ j = b.size := by intro j hj; omega
  -- an old non-root node has a parent, so a parentless non-root node is the new one
  have hunl : ∀ j, j < (pushNew b key).size → j ≠ 0 → parentIds ((pushNew b key).nd j) = [] → j = b.size := by
    intro j hj hj0 hnil
    rw [size_pushNew] at hj
    rcases hcases j hj with h | h
    · rw [hold j h] at hnil
      obtain ⟨q, hq, _⟩ := (hS.depth j (by omega) h).1
      rw [hnil] at hq; cases hq
    · exact h
  refine { nonempty := by simp, small := by simp; exact hA.small, wf := ⟨?child, ?parent⟩, rk := ⟨?bound, ?mono⟩,
           root := ?root, dep := ?dep, par := ?par, orphan := ?orphan, fresh := ?fresh, dle := ?dle }
  case child =>
    intro i hi e he
    rw [size_pushNew] at hi ⊢
    rcases hcases i hi with h | h
    · rw [hold i h] at he
      have := hS.wf.child i h e he
      rw [hold e.2 this.1]; exact ⟨by omega, this.2⟩
    · subst h; rw [hnew] at he; simp at he
  case parent =>
    intro i hi e he
    rw [size_pushNew] at hi ⊢
    rcases hcases i hi with h | h
    · rw [hold i h] at he
      have := hS.wf.parent i h e he
      rw [hold e.2 this.1]; exact ⟨by omega, this.2⟩
    · subst h; rw [hnew] at he; simp at he
  case bound =>
    intro i hi; rw [size_pushNew] at hi ⊢; exact hA.rkBound i hi
  case mono =>
    intro i hi c hc
    rw [size_pushNew] at hi
    rcases hcases i hi with h | h
    · rw [hold i h] at hc; exact hA.rkOld i h c hc
    · subst h; rw [hnew] at hc; simp [childIds] at hc
  case root =>
    rw [hold 0 hS.nonempty]; exact ⟨hS.root.1, hS.root.2.1⟩
  case dep =>
    intro j hj
    rw [size_pushNew] at hj
    rcases hcases j hj with h | h
    · by_cases h0 : j = 0
      · left; subst h0; rw [hold 0 h]; simp only [parentIds, hS.root.2.1]; rfl
      · right
        have := hS.depth j (by omega) h
        unfold depthOk at this ⊢
        rw [hold j h]
        obtain ⟨⟨q, hq, he⟩, hall⟩ := this
        refine ⟨⟨q, hq, ?_⟩, ?_⟩
        · rw [hold q (wf_parent b hS.wf j q h hq).1]; exact he
        · intro q' hq'; rw [hold q' (wf_parent b hS.wf j q' h hq').1]; exact hall q' hq'
    · left; subst h; rw [hnew]; rfl
  case par =>
    intro i hi c hc
    rw [size_pushNew] at hi
    rcases hcases i hi with h | h
    · rw [hold i h] at hc ⊢
      rw [hold c (wf_child b hS.wf i c h hc).1]
      exact hS.parity i h c hc
    · subst h; rw [hnew] at hc; simp [childIds] at hc
  case orphan =>
    intro j hj hj0 hnil
    rw [hunl j hj hj0 hnil, hnew]; rfl
  case fresh =>
    intro j hj hj0 hnil
    rw [hunl j hj hj0 hnil, hnew]
  case dle =>
    intro j hj hl
    rw [size_pushNew] at hj
    rcases hcases j hj with h | h
    · rw [hold j h]
      exact depth_le_rank b hS r' hA.rkOld j h
    · subst h
      rcases hl with h | h
      · have := hS.nonempty; omega
      · rw [hnew] at h; exact absurd rfl h

include hS in
theorem pushNew_nf : NF b key (pushNew b key) := by
  have hold := nd_pushNew_old b key
  refine ⟨by simp, rfl, rfl, fun j hj => by rw [hold j hj], by rw [nd_pushNew_new], ?_, ?_, fun j hj => by rw [hold j hj]; exact ⟨rfl, Iff.rfl⟩⟩
  · intro j hj
    rw [hold j hj]
    apply filter_id_of_all
    intro e he
    have := (hS.wf.child j hj e he).1
    simp only [bne_iff_ne, ne_eq]; omega
  · intro j hj
    rw [hold j hj]
    apply filter_id_of_all
    intro e he
    have := (hS.wf.parent j hj e he).1
    simp only [bne_iff_ne, ne_eq]; omega


include hS in
theorem nf_parents_ne (bc : Book) (hnf : NF b key bc) (j : Nat) (hj : j < b.size) (hj0 : j ≠ 0) :
    parentIds (bc.nd j) ≠ [] := by
  obtain ⟨q, hq, _⟩ := (hS.depth j (by omega) hj).1
  obtain ⟨e, he, rfl⟩ := (mem_parentIds _ _).mp hq
  rw [← hnf.paOld j hj] at he
  have := (List.mem_filter.mp he).1
  intro hnil
  have h2 : e.2 ∈ parentIds (bc.nd j) := (mem_parentIds _ _).mpr ⟨e, this, rfl⟩
  rw [hnil] at h2; simp at h2

/-- loop invariant while the new node is being linked to its parents -/
structure PsInv (done : List (Nat × Nat)) (bc : Book) : Prop where
  inv : LinkInv bc r'
  nf : NF b key bc
  paEq : ∀ j, j < b.size → (bc.nd j).parents = (b.nd j).parents
  chNew : (bc.nd b.size).children = []
  paNew : ∀ x, x ∈ (bc.nd b.size).parents ↔ x ∈ done

include hS hA in
theorem ps_step (done : List (Nat × Nat)) (bc : Book) (e : Nat × Nat) (hd : ∀ x ∈ done, x ∈ ps) (he : e ∈ ps)
    (h : PsInv b key r' done bc) : PsInv b key r' (done ++ [e]) (addLink bc b.size e.1 e.2) := by
  have hn := hS.nonempty
  have he2 := hA.psValid e he
  have hsz := h.nf.size
  have hpl : e.2 = 0 ∨ parentIds (bc.nd e.2) ≠ [] := by
    by_cases h0 : e.2 = 0
    · exact Or.inl h0
    · exact Or.inr (nf_parents_ne b key hS bc h.nf e.2 he2 h0)
  have hpar : parentIds (bc.nd b.size) = [] ∨ ((bc.nd e.2).depth + (bc.nd b.size).depth) % 2 = 1 := by
    by_cases hnil : parentIds (bc.nd b.size) = []
    · exact Or.inl hnil
    · right
      obtain ⟨q, hq, hqe⟩ := (h.inv.dep b.size (by omega)).parent hnil
      obtain ⟨x, hx, rfl⟩ := (mem_parentIds _ _).mp hq
      have hxps := hd x ((h.paNew x).mp hx)
      have hx2 := hA.psValid x hxps
      rw [hqe]
      exact same_parity_succ (((h.nf.dparOld e.2 he2).1.trans (hA.parPs e he x hxps)).trans (h.nf.dparOld x.2 hx2).1.symm)
  have huniq : ∀ x ∈ (bc.nd e.2).children, x.1 = e.1 → x = (e.1, b.size) := by
    intro x hx hx1
    by_cases hxn : x.2 = b.size
    · rw [← hx1, ← hxn]
    · have : x ∈ (b.nd e.2).children := by
        rw [← h.nf.chOld e.2 he2]
        exact List.mem_filter.mpr ⟨hx, by simpa using hxn⟩
      exact absurd hx1 (hA.mvPs e he x this)
  have hspec := addLink_spec bc r' b.size e.1 e.2 h.inv (by omega) (by omega) (by omega) (hA.rkPs e he) hpl hpar huniq
  obtain ⟨hinv', hal⟩ := hspec
  have hne : ∀ j, j < b.size → j ≠ b.size := fun j hj => by omega
  refine ⟨hinv', NF.addLink b key h.nf hal (Or.inl rfl) (fun j hj => Or.inl (hne j hj)), ?_, ?_, ?_⟩
  · intro j hj
    rw [hal.parents j]; simp only [hne j hj, if_false]; exact h.paEq j hj
  · rw [hal.children b.size]
    have : b.size ≠ e.2 := by omega
    simp only [this, if_false]; exact h.chNew
  · intro x
    rw [hal.parents b.size]; simp only [if_true]
    rw [mem_insertParent, h.paNew x, List.mem_append, List.mem_singleton]

/-- loop invariant while the new node is being linked to its existing children (`setChildRefs`) -/
structure CsInv (done : List (Nat × Nat)) (bc : Book) : Prop where
  inv : LinkInv bc r'
  nf : NF b key bc
  paNewPs : ∀ x ∈ (bc.nd b.size).parents, x ∈ ps
  paNewNe : parentIds (bc.nd b.size) ≠ []
  chNew : ∀ x ∈ (bc.nd b.size).children, x ∈ done

include hS hA in
theorem cs_step (done : List (Nat × Nat)) (bc : Book) (e : Nat × Nat) (hd : ∀ x ∈ done, x ∈ cs) (he : e ∈ cs)
    (h : CsInv b key ps r' done bc) : CsInv b key ps r' (done ++ [e]) (addLink bc e.2 e.1 b.size) := by
  have hn := hS.nonempty
  have he2 := hA.csValid e he
  have hsz := h.nf.size
  have hpne := nf_parents_ne b key hS bc h.nf e.2 he2.1 he2.2
  have hpar : parentIds (bc.nd e.2) = [] ∨ ((bc.nd b.size).depth + (bc.nd e.2).depth) % 2 = 1 := by
    right
    obtain ⟨q, hq, hqe⟩ := (h.inv.dep b.size (by omega)).parent h.paNewNe
    obtain ⟨x, hx, rfl⟩ := (mem_parentIds _ _).mp hq
    have hxps := h.paNewPs x hx
    have hx2 := hA.psValid x hxps
    rw [hqe]
    exact succ_add_parity ((add_parity_congr (h.nf.dparOld x.2 hx2).1 (h.nf.dparOld e.2 he2.1).1).trans (hA.parCs x hxps e he))
  have huniq : ∀ x ∈ (bc.nd b.size).children, x.1 = e.1 → x = (e.1, e.2) := by
    intro x hx hx1
    have := hA.mvCs x (hd x (h.chNew x hx)) e he hx1
    rw [this]
  have hspec := addLink_spec bc r' e.2 e.1 b.size h.inv (by omega) (by omega) he2.2 (hA.rkCs e he) (Or.inr h.paNewNe) hpar huniq
  obtain ⟨hinv', hal⟩ := hspec
  have hne : ∀ j, j < b.size → j ≠ b.size := fun j hj => by omega
  have hne2 : b.size ≠ e.2 := by omega
  refine ⟨hinv', NF.addLink b key h.nf hal (Or.inr rfl) (fun _ _ => Or.inr hpne), ?_, ?_, ?_⟩
  · intro x hx
    rw [hal.parents b.size] at hx; simp only [hne2, if_false] at hx
    exact h.paNewPs x hx
  · simp only [parentIds, hal.parents b.size, hne2, if_false]; exact h.paNewNe
  · intro x hx
    rw [hal.children b.size] at hx; simp only [if_true] at hx
    rcases mem_insertChild_cases _ _ _ _ hx with h1 | h1
    · exact List.mem_append.mpr (Or.inl (h.chNew x h1))
    · rw [h1]; simp

include hS hA in
/-- after `linkNew` the linking invariant holds, old nodes only gained links to the new node, every parent link of the new
    node is one of `ps`, and it has at least one -/
theorem linkNew_spec :
    LinkInv (linkNew b key ps cs) r' ∧ NF b key (linkNew b key ps cs) ∧
    (∀ x ∈ ((linkNew b key ps cs).nd b.size).parents, x ∈ ps) ∧ parentIds ((linkNew b key ps cs).nd b.size) ≠ [] := by
  have h0 : PsInv b key r' [] (pushNew b key) :=
    ⟨pushNew_linkInv b key ps cs r' hS hA, pushNew_nf b key hS, fun j hj => by rw [nd_pushNew_old b key j hj],
     by rw [nd_pushNew_new], fun x => by rw [nd_pushNew_new]⟩
  have h1 := foldl_done (fun acc (e : Nat × Nat) => addLink acc b.size e.1 e.2) (PsInv b key r') ps
    (ps_step b key ps cs r' hS hA) ps [] (pushNew b key) (by simp) (fun x hx => hx) h0
  simp only [List.nil_append] at h1
  have h2 : CsInv b key ps r' [] (ps.foldl (fun acc e => addLink acc b.size e.1 e.2) (pushNew b key)) := by
    refine ⟨h1.inv, h1.nf, fun x hx => (h1.paNew x).mp hx, ?_, fun x hx => by rw [h1.chNew] at hx; simp at hx⟩
    obtain ⟨e, t, hps⟩ := List.exists_cons_of_ne_nil hA.psne
    have : e ∈ (((ps.foldl (fun acc e => addLink acc b.size e.1 e.2) (pushNew b key)).nd b.size).parents) :=
      (h1.paNew e).mpr (by rw [hps]; simp)
    intro hnil
    have h3 : e.2 ∈ parentIds ((ps.foldl (fun acc e => addLink acc b.size e.1 e.2) (pushNew b key)).nd b.size) :=
      (mem_parentIds _ _).mpr ⟨e, this, rfl⟩
    rw [hnil] at h3; simp at h3
  have h3 := foldl_done (fun acc (e : Nat × Nat) => addLink acc e.2 e.1 b.size) (CsInv b key ps r') cs
    (cs_step b key ps cs r' hS hA) cs [] _ (by simp) (fun x hx => hx) h2
  rw [linkNew_eq]
  exact ⟨h3.inv, h3.nf, h3.paNewPs, h3.paNewNe⟩

end linknew
end Bk
