import TexelVerif.BookBuild.Preserve
/-!
# BookBuild: `BookNode::updateDepth` re-establishes the depth equations

`updDepth = run sysDepth`; `specDepth` instantiates the generic propagation theorem: recomputing a node's depth from its
parents makes its depth equation hold (given that its depth is not already too small) and can only disturb its children.
Along the way depths only decrease, keep their parity (every link joins depths of different parity) and stay non-zero.
-/
namespace Bk
open Book Propagate

/-- the loop of `updateDepth`: running minimum of `parent.depth + 1` starting from the node's own depth -/
def minDepth (b : Book) (l : List Nat) (init : Nat) : Nat :=
  l.foldl (fun acc p => if acc > (b.nd p).depth + 1 then (b.nd p).depth + 1 else acc) init

theorem minDepth_cons (b : Book) (a : Nat) (t : List Nat) (init : Nat) :
    minDepth b (a :: t) init = minDepth b t (if init > (b.nd a).depth + 1 then (b.nd a).depth + 1 else init) := rfl

theorem minDepth_le_init (b : Book) (l : List Nat) (init : Nat) : minDepth b l init ≤ init := by
  induction l generalizing init with
  | nil => simp [minDepth]
  | cons a t ih =>
    rw [minDepth_cons]
    have := ih (if init > (b.nd a).depth + 1 then (b.nd a).depth + 1 else init)
    by_cases hc : init > (b.nd a).depth + 1
    · simp only [hc, if_true] at this ⊢; omega
    · simp only [hc, if_false] at this ⊢; omega

theorem minDepth_le_mem (b : Book) (l : List Nat) (init p : Nat) (hp : p ∈ l) : minDepth b l init ≤ (b.nd p).depth + 1 := by
  induction l generalizing init with
  | nil => simp at hp
  | cons a t ih =>
    rw [minDepth_cons]
    rcases List.mem_cons.mp hp with rfl | hp
    · have := minDepth_le_init b t (if init > (b.nd p).depth + 1 then (b.nd p).depth + 1 else init)
      by_cases hc : init > (b.nd p).depth + 1
      · simp only [hc, if_true] at this ⊢; omega
      · simp only [hc, if_false] at this ⊢; omega
    · exact ih _ hp

theorem minDepth_attains (b : Book) (l : List Nat) (init : Nat) :
    minDepth b l init = init ∨ ∃ p ∈ l, minDepth b l init = (b.nd p).depth + 1 := by
  induction l generalizing init with
  | nil => left; rfl
  | cons a t ih =>
    rw [minDepth_cons]
    rcases ih (if init > (b.nd a).depth + 1 then (b.nd a).depth + 1 else init) with h | ⟨p, hp, h⟩
    · by_cases hc : init > (b.nd a).depth + 1
      · right; refine ⟨a, by simp, ?_⟩; rw [h]; simp [hc]
      · left; rw [h]; simp [hc]
    · right; exact ⟨p, by simp [hp], h⟩

theorem minDepth_congr (b b' : Book) (l : List Nat) (init : Nat) (h : ∀ p ∈ l, (b'.nd p).depth = (b.nd p).depth) :
    minDepth b' l init = minDepth b l init := by
  induction l generalizing init with
  | nil => rfl
  | cons a t ih =>
    rw [minDepth_cons, minDepth_cons, h a (by simp)]
    exact ih _ (fun p hp => h p (by simp [hp]))

def Book.setDepth (b : Book) (i d : Nat) : Book := b.setNode i { b.nd i with depth := d }

theorem nd_setDepth_self (b : Book) (i d : Nat) (h : i < b.size) : (b.setDepth i d).nd i = { b.nd i with depth := d } :=
  nd_setNode_self _ _ _ h
theorem nd_setDepth_ne (b : Book) (i j d : Nat) (h : i ≠ j) : (b.setDepth i d).nd j = b.nd j := nd_setNode_ne _ _ _ _ h
@[simp] theorem size_setDepth (b : Book) (i d : Nat) : (b.setDepth i d).size = b.size := size_setNode _ _ _
@[simp] theorem pending_setDepth (b : Book) (i d : Nat) : (b.setDepth i d).pending = b.pending := rfl
@[simp] theorem costs_setDepth (b : Book) (i d : Nat) : (b.setDepth i d).costs = b.costs := rfl

theorem noDepth_setDepth (b : Book) (i j d : Nat) : ((b.setDepth i d).nd j).noDepth = (b.nd j).noDepth :=
  nd_setNode_field Node.noDepth b i _ (by rfl) j

theorem depthStep_eq (b : Book) (i : Nat) :
    depthStep b i =
      if minDepth b (parentIds (b.nd i)) (b.nd i).depth < (b.nd i).depth
      then (b.setDepth i (minDepth b (parentIds (b.nd i)) (b.nd i).depth), true) else (b, false) := rfl

def sysDepth : Sys Book :=
  { step := depthStep, succ := fun b i => childIds (b.nd i), force := fun _ => false }

theorem updDepth_eq_run : ∀ (f i : Nat) (b : Book), updDepth f i b = run sysDepth f i b := by
  intro f
  induction f with
  | zero => intro i b; rfl
  | succ f ih =>
    intro i b
    have hfun : (fun acc c => updDepth f c acc) = (fun acc j => run sysDepth f j acc) := by
      funext acc c; exact ih c acc
    simp only [updDepth, run, sysDepth, Bool.or_false, hfun]

def dOkF (b : Book) (j : Nat) : Prop := parentIds (b.nd j) = [] ∨ depthOk b j

theorem dOkF.parent {b : Book} {j : Nat} (h : dOkF b j) (hne : parentIds (b.nd j) ≠ []) :
    ∃ p ∈ parentIds (b.nd j), (b.nd j).depth = (b.nd p).depth + 1 :=
  (h.resolve_left hne).1

def ParentsParity (b : Book) (j : Nat) : Prop :=
  ∀ p ∈ parentIds (b.nd j), ((b.nd p).depth + (b.nd j).depth) % 2 = 1

theorem parentsParity_of_parityOk (b : Book) (hw : WF b) (hpar : ParityOk b) (j : Nat) : ParentsParity b j := by
  intro q hq
  by_cases hj : j < b.size
  · have := wf_parent b hw j q hj hq
    exact hpar q this.1 j this.2
  · rw [nd_oob _ _ hj] at hq; simp [parentIds, default_parents] at hq

/-- what stays fixed while `updateDepth` runs, relative to the book `b0` it started from -/
structure InvDepth (b0 : Book) (b : Book) : Prop where
  size : b.size = b0.size
  pending : b.pending = b0.pending
  costs : b.costs = b0.costs
  skel : ∀ j, (b.nd j).noDepth = (b0.nd j).noDepth
  -- depths only decrease, keep their parity where all parent links alternate, and stay zero / non-zero
  le : ∀ j, (b.nd j).depth ≤ (b0.nd j).depth
  par : ∀ j, ParentsParity b0 j → (b.nd j).depth % 2 = (b0.nd j).depth % 2
  pos : ∀ j, (b.nd j).depth = 0 ↔ (b0.nd j).depth = 0
  -- no depth is already too small: some parent is at least one level above; parentless nodes are not touched
  ge : ∀ j, j < b0.size → parentIds (b0.nd j) ≠ [] → ∃ p ∈ parentIds (b0.nd j), (b.nd p).depth + 1 ≤ (b.nd j).depth
  same : ∀ j, parentIds (b0.nd j) = [] → (b.nd j).depth = (b0.nd j).depth

theorem InvDepth.children {b0 b : Book} (h : InvDepth b0 b) (j : Nat) : (b.nd j).children = (b0.nd j).children :=
  noDepth_children (h.skel j)
theorem InvDepth.parents {b0 b : Book} (h : InvDepth b0 b) (j : Nat) : (b.nd j).parents = (b0.nd j).parents :=
  noDepth_parents (h.skel j)

theorem dOkF_setDepth_ne (b : Book) (i j d : Nat) (hne : i ≠ j) (h : i ∉ parentIds (b.nd j)) (hok : dOkF b j) :
    dOkF (b.setDepth i d) j := by
  have hp : ∀ p ∈ parentIds (b.nd j), (b.setDepth i d).nd p = b.nd p :=
    fun p hp => nd_setDepth_ne _ _ _ _ (by rintro rfl; exact h hp)
  unfold dOkF depthOk at hok ⊢
  rw [nd_setDepth_ne _ _ _ _ hne]
  rcases hok with h | ⟨⟨p, hpm, h1⟩, h2⟩
  · exact Or.inl h
  · exact Or.inr ⟨⟨p, hpm, by rw [hp p hpm]; exact h1⟩, fun p' hp' => by rw [hp p' hp']; exact h2 p' hp'⟩

section depth
variable (b0 : Book) (r : Nat → Nat) (hwf : WF b0) (hr : Ranked b0 r)
  (hQ : ∀ i, i < b0.size → childIds (b0.nd i) ≠ [] → ParentsParity b0 i)

include hwf hr in
theorem depth_ok_step (b : Book) (i : Nat) (hI : InvDepth b0 b) (hi : i < b0.size) : dOkF (depthStep b i).1 i := by
  have his : i < b.size := hI.size ▸ hi
  have hpi : parentIds (b.nd i) = parentIds (b0.nd i) := parentIds_congr (hI.parents i)
  by_cases hnil : parentIds (b0.nd i) = []
  · left
    rw [depthStep_eq]; split
    · rw [parentIds_congr (noDepth_parents (noDepth_setDepth b i i _)), hpi]; exact hnil
    · rw [hpi]; exact hnil
  · right
    obtain ⟨q, hq, hqle⟩ := hI.ge i hi hnil
    -- the parents of i are different from i, so their depths are not touched by the step
    have hne : ∀ p ∈ parentIds (b.nd i), i ≠ p := by
      intro p hp; rintro rfl; exact not_self_parent b0 r hwf hr i hi (hpi ▸ hp)
    have hle := minDepth_le_mem b (parentIds (b.nd i)) (b.nd i).depth
    rw [depthStep_eq]; split
    · next hlt =>
      unfold depthOk
      rw [nd_setDepth_self _ _ _ his]
      show (∃ p ∈ parentIds (b.nd i), _ = ((b.setDepth i _).nd p).depth + 1) ∧ ∀ p ∈ parentIds (b.nd i), _ ≤ ((b.setDepth i _).nd p).depth + 1
      constructor
      · rcases minDepth_attains b (parentIds (b.nd i)) (b.nd i).depth with h | ⟨p, hp, h⟩
        · omega
        · exact ⟨p, hp, by rw [nd_setDepth_ne _ _ _ _ (hne p hp)]; exact h⟩
      · intro p hp
        rw [nd_setDepth_ne _ _ _ _ (hne p hp)]; exact hle p hp
    · next hnlt =>
      have := minDepth_le_init b (parentIds (b.nd i)) (b.nd i).depth
      show depthOk b i
      refine ⟨⟨q, hpi ▸ hq, ?_⟩, fun p hp => ?_⟩
      · have := hle q (hpi ▸ hq); omega
      · have := hle p hp; omega

include hwf hr hQ in
theorem specDepth :
    Spec sysDepth (InvDepth b0) (fun i => i < b0.size) dOkF (fun i => childIds (b0.nd i)) (fun i => b0.size - r i) where
  succ_eq := fun b i hI => childIds_congr (hI.children i)
  succ_valid := fun i j hi hj => down_valid b0 r hwf hr i j hi hj
  inv_step := by
    intro b i hI hi
    have his : i < b.size := hI.size ▸ hi
    have hpi : parentIds (b.nd i) = parentIds (b0.nd i) := parentIds_congr (hI.parents i)
    show InvDepth b0 (depthStep b i).1
    rw [depthStep_eq]; split
    · next hlt =>
      -- the new depth is `depth p + 1` for a parent p
      obtain ⟨p, hp, hd⟩ : ∃ p ∈ parentIds (b0.nd i), minDepth b (parentIds (b.nd i)) (b.nd i).depth = (b.nd p).depth + 1 := by
        rcases minDepth_attains b (parentIds (b.nd i)) (b.nd i).depth with h | ⟨p, hp, h⟩
        · omega
        · exact ⟨p, hpi ▸ hp, h⟩
      generalize minDepth b (parentIds (b.nd i)) (b.nd i).depth = d at hlt hd
      have hpc := wf_parent b0 hwf i p hi hp
      have hQp : ParentsParity b0 p := hQ p hpc.1 (List.ne_nil_of_mem hpc.2)
      have hip : i ≠ p := by rintro rfl; exact not_self_parent b0 r hwf hr i hi hp
      have hself : ((b.setDepth i d).nd i).depth = d := by rw [nd_setDepth_self _ _ _ his]
      have hoth : ∀ j, i ≠ j → (b.setDepth i d).nd j = b.nd j := fun j => nd_setDepth_ne b i j d
      have hle := hI.le i
      refine ⟨(size_setDepth _ _ _).trans hI.size, hI.pending, hI.costs, fun j => (noDepth_setDepth _ _ _ _).trans (hI.skel j),
        ?_, ?_, ?_, ?_, ?_⟩
      · intro j
        by_cases hj : i = j
        · subst hj; rw [hself]; exact Nat.le_of_lt (Nat.lt_of_lt_of_le hlt hle)
        · rw [hoth j hj]; exact hI.le j
      · intro j hjf
        by_cases hj : i = j
        · subst hj; rw [hself, hd]
          exact succ_parity (hI.par p hQp) (hjf p hp)
        · rw [hoth j hj]; exact hI.par j hjf
      · intro j
        by_cases hj : i = j
        · subst hj; rw [hself]
          exact ⟨fun h => absurd (h ▸ hd) (Nat.succ_ne_zero _).symm, fun h => absurd (h ▸ Nat.lt_of_lt_of_le hlt hle) (Nat.not_lt_zero _)⟩
        · rw [hoth j hj]; exact hI.pos j
      · intro j hj hnil
        by_cases hji : i = j
        · subst hji
          exact ⟨p, hp, by rw [hself, hoth p hip, hd]; exact Nat.le_refl _⟩
        · obtain ⟨q, hq, hqle⟩ := hI.ge j hj hnil
          refine ⟨q, hq, ?_⟩
          rw [hoth j hji]
          by_cases hqi : i = q
          · subst hqi; rw [hself]; exact Nat.le_trans (Nat.succ_le_succ (Nat.le_of_lt hlt)) hqle
          · rw [hoth q hqi]; exact hqle
      · intro j hnil
        have hj : i ≠ j := by rintro rfl; rw [hnil] at hp; cases hp
        rw [hoth j hj]; exact hI.same j hnil
    · exact hI
  ok_step := fun b i hI hi => depth_ok_step b0 r hwf hr b i hI hi
  step_false := by
    intro b i h2
    show (depthStep b i).1 = b
    rw [show sysDepth.step b i = depthStep b i from rfl, depthStep_eq] at h2
    rw [depthStep_eq]
    split
    · next hlt => rw [if_pos hlt] at h2; cases h2
    · rfl
  frame := by
    intro b i j hI hi hji hnot hok
    show dOkF (depthStep b i).1 j
    rw [depthStep_eq]; split
    · refine dOkF_setDepth_ne b i j _ (fun h => hji h.symm) (fun hp => hnot ?_) hok
      have hjs : j < b0.size := hI.size ▸ lt_of_mem_parentIds _ _ _ hp
      exact (wf_parent b0 hwf j i hjs (parentIds_congr (hI.parents j) ▸ hp)).2
    · exact hok

end depth
end Bk
