import TexelVerif.BookBuild.LinkSpec
/-!
# BookBuild: the link containers are ordered (`std::map<U16,…>` / `std::set<ParentInfo>`)

Child lists are strictly ordered by move, parent lists strictly by (move, parent).  Two such lists with the same
members are equal, and the ordered insertions keep the order.
-/
namespace Bk

theorem pairwise_ext {α : Type} (R : α → α → Prop) (hasym : ∀ a c, R a c → R c a → False) :
    ∀ (l1 l2 : List α), l1.Pairwise R → l2.Pairwise R → (∀ x, x ∈ l1 ↔ x ∈ l2) → l1 = l2 := by
  intro l1
  induction l1 with
  | nil =>
    intro l2 _ _ h
    cases l2 with
    | nil => rfl
    | cons y t => exact absurd ((h y).mpr (by simp)) (by simp)
  | cons x t ih =>
    intro l2 h1 h2 h
    cases l2 with
    | nil => exact absurd ((h x).mp (by simp)) (by simp)
    | cons y u =>
      have hx1 := List.pairwise_cons.mp h1
      have hy2 := List.pairwise_cons.mp h2
      have hirr : ∀ a, ¬ R a a := fun a ha => hasym a a ha ha
      have hxy : x = y := by
        have hx : x ∈ y :: u := (h x).mp (by simp)
        have hy : y ∈ x :: t := (h y).mpr (by simp)
        rcases List.mem_cons.mp hx with e | hxu
        · exact e
        · rcases List.mem_cons.mp hy with e | hyt
          · exact e.symm
          · exact absurd (hx1.1 y hyt) (fun hr => hasym x y hr (hy2.1 x hxu))
      subst hxy
      congr 1
      apply ih u hx1.2 hy2.2
      intro z
      constructor
      · intro hz
        rcases List.mem_cons.mp ((h z).mp (by simp [hz])) with e | hzu
        · subst e; exact absurd (hx1.1 z hz) (hirr z)
        · exact hzu
      · intro hz
        rcases List.mem_cons.mp ((h z).mpr (by simp [hz])) with e | hzt
        · subst e; exact absurd (hy2.1 z hz) (hirr z)
        · exact hzt


theorem linkLt_asymm (a c : Nat × Nat) : linkLt a c = true → linkLt c a = true → False := by
  simp only [linkLt, Bool.or_eq_true, decide_eq_true_eq, Bool.and_eq_true, beq_iff_eq]
  omega

theorem linkLt_trans (a c d : Nat × Nat) : linkLt a c = true → linkLt c d = true → linkLt a d = true := by
  simp only [linkLt, Bool.or_eq_true, decide_eq_true_eq, Bool.and_eq_true, beq_iff_eq]
  omega

theorem linkLt_total (a c : Nat × Nat) : linkLt a c = false → a ≠ c → linkLt c a = true := by
  intro h hne
  have : a.1 ≠ c.1 ∨ a.2 ≠ c.2 := by
    by_cases h1 : a.1 = c.1
    · right; intro h2; exact hne (Prod.ext h1 h2)
    · exact Or.inl h1
  simp only [linkLt, Bool.or_eq_false_iff, decide_eq_false_iff_not, Bool.and_eq_false_iff, beq_eq_false_iff_ne,
    Bool.or_eq_true, decide_eq_true_eq, Bool.and_eq_true, beq_iff_eq] at h ⊢
  omega

theorem sortedCh_ext (l1 l2 : List (Nat × Nat)) (h1 : SortedCh l1) (h2 : SortedCh l2) (h : ∀ x, x ∈ l1 ↔ x ∈ l2) : l1 = l2 :=
  pairwise_ext _ (fun a c h1 h2 => by omega) l1 l2 h1 h2 h

theorem sortedPa_ext (l1 l2 : List (Nat × Nat)) (h1 : SortedPa l1) (h2 : SortedPa l2) (h : ∀ x, x ∈ l1 ↔ x ∈ l2) : l1 = l2 :=
  pairwise_ext _ linkLt_asymm l1 l2 h1 h2 h

theorem sortedCh_unique (l : List (Nat × Nat)) (h : SortedCh l) (x y : Nat × Nat) (hx : x ∈ l) (hy : y ∈ l) (he : x.1 = y.1) :
    x = y := by
  induction l with
  | nil => simp at hx
  | cons e t ih =>
    have hp := List.pairwise_cons.mp h
    rcases List.mem_cons.mp hx with rfl | hxt
    · rcases List.mem_cons.mp hy with rfl | hyt
      · rfl
      · have := hp.1 y hyt; omega
    · rcases List.mem_cons.mp hy with rfl | hyt
      · have := hp.1 x hxt; omega
      · exact ih hp.2 hxt hyt

theorem sortedCh_insertChild (l : List (Nat × Nat)) (mv c : Nat) (h : SortedCh l) : SortedCh (insertChild l mv c) := by
  induction l with
  | nil => simp [insertChild, SortedCh]
  | cons e t ih =>
    have hp := List.pairwise_cons.mp h
    simp only [insertChild]
    split
    · next hlt =>
      apply List.pairwise_cons.mpr
      refine ⟨?_, h⟩
      intro y hy
      rcases List.mem_cons.mp hy with rfl | hyt
      · exact hlt
      · have := hp.1 y hyt; show mv < y.1; omega
    · split
      · exact h
      · next h1 h2 =>
        apply List.pairwise_cons.mpr
        refine ⟨?_, ih hp.2⟩
        intro y hy
        rcases mem_insertChild_cases _ _ _ _ hy with hyt | rfl
        · exact hp.1 y hyt
        · show e.1 < mv; omega

theorem sortedPa_insertParent (l : List (Nat × Nat)) (mv p : Nat) (h : SortedPa l) : SortedPa (insertParent l mv p) := by
  induction l with
  | nil => simp [insertParent, SortedPa]
  | cons e t ih =>
    have hp := List.pairwise_cons.mp h
    simp only [insertParent]
    split
    · next hlt =>
      apply List.pairwise_cons.mpr
      refine ⟨?_, h⟩
      intro y hy
      rcases List.mem_cons.mp hy with rfl | hyt
      · exact hlt
      · exact linkLt_trans _ _ _ hlt (hp.1 y hyt)
    · split
      · exact h
      · next h1 h2 =>
        apply List.pairwise_cons.mpr
        refine ⟨?_, ih hp.2⟩
        intro y hy
        rcases (mem_insertParent _ _ _ _).mp hy with hyt | rfl
        · exact hp.1 y hyt
        · exact linkLt_total _ _ (by simpa using h1) (fun h => h2 h.symm)

open Book Propagate

theorem updDepth_links (f i : Nat) (b : Book) (j : Nat) :
    ((updDepth f i b).nd j).children = (b.nd j).children ∧ ((updDepth f i b).nd j).parents = (b.nd j).parents := by
  rw [updDepth_eq_run]
  have := run_inv sysDepth (fun s => ∀ j, (s.nd j).children = (b.nd j).children ∧ (s.nd j).parents = (b.nd j).parents)
    (by intro s k hs j'
        simp only [sysDepth]
        rw [depthStep_eq]; split
        · show ((s.setDepth k _).nd j').children = _ ∧ ((s.setDepth k _).nd j').parents = _
          unfold Book.setDepth
          rw [nd_setNode]; split
          · next h => rw [← h.1]; exact hs k
          · exact hs j'
        · exact hs j') f i b (fun _ => ⟨rfl, rfl⟩)
  exact this j

theorem sortedLinks_setChildren (b : Book) (p : Nat) (l : List (Nat × Nat)) (hl : SortedCh l) (h : SortedLinks b) :
    SortedLinks (b.setNode p { b.nd p with children := l }) := by
  intro k
  rw [nd_setNode]; split
  · exact ⟨hl, (h p).2⟩
  · exact h k

theorem sortedLinks_setParents (b : Book) (c : Nat) (l : List (Nat × Nat)) (hl : SortedPa l) (h : SortedLinks b) :
    SortedLinks (b.setNode c { b.nd c with parents := l }) := by
  intro k
  rw [nd_setNode]; split
  · exact ⟨(h c).1, hl⟩
  · exact h k

theorem sortedLinks_linkOnly (b : Book) (c mv p : Nat) (h : SortedLinks b) : SortedLinks (linkOnly b c mv p) := by
  unfold linkOnly
  have h1 := sortedLinks_setChildren b p (insertChild (b.nd p).children mv c) (sortedCh_insertChild _ _ _ (h p).1) h
  exact sortedLinks_setParents _ c _ (sortedPa_insertParent _ _ _ (h1 c).2) h1

theorem sortedLinks_addLink (b : Book) (c mv p : Nat) (h : SortedLinks b) : SortedLinks (addLink b c mv p) := by
  intro j
  rw [addLink_eq]
  have hl := updDepth_links ((linkOnly b c mv p).size + 1) c (linkOnly b c mv p) j
  rw [hl.1, hl.2]
  exact sortedLinks_linkOnly b c mv p h j

end Bk
