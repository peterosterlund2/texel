import TexelVerif.BookBuild.Init
import TexelVerif.BookBuild.Unique
/-!
# BookBuild: write + read reproduces the book (score part)

`reload` = fresh nodes from the stored records, `initPositions` (relinking along the links the chess rules give),
`root->updateScores`.  Proven here: if relinking restores a structurally sound book with the old links
(`RelinkedAs`), then `reload` yields exactly the old book (when nothing was pending: `readFromFile` clears the pending
set).  That the depth-first relinking `initPos` establishes `RelinkedAs` is `relinked_spec` in `Relink.lean`.
-/
namespace Bk
open Book

/-- the book after deserialisation, before `initPositions` -/
def freshBook (b : Book) : Book :=
  { nodes := (b.nodes.zipIdx.map fun (n, i) => freshNode (i == 0) n), pending := [], costs := b.costs }

/-- the book after `initPositions` -/
def relinked (b : Book) : Book := (initPos b (b.size + 1) 0 (freshBook b, [])).1

theorem reload_eq (b : Book) : reload true b = updateScores true (relinked b) 0 := rfl

/-- what the relinking pass has to establish about the relinked book `L` -/
structure RelinkedAs (b L : Book) : Prop where
  struct : StructOk L
  size : L.size = b.size
  costs : L.costs = b.costs
  pending : L.pending = []
  children : ∀ j, (L.nd j).children = (b.nd j).children
  parents : ∀ j, (L.nd j).parents = (b.nd j).parents
  stored : ∀ j, (L.nd j).key = (b.nd j).key ∧ (L.nd j).bestMove = (b.nd j).bestMove ∧
    (L.nd j).search = (b.nd j).search ∧ (L.nd j).time = (b.nd j).time
  fresh : ∀ j, j < b.size → scores3 (L.nd j) = (INVALID, INVALID, INVALID) ∧ (j ≠ 0 → pe2 (L.nd j) = (INVALID, INVALID))

theorem foldl_peStep_invalid (d : Nat) (l : List PInfo) (acc : Int × Int) : l.foldl (peStep d INVALID) acc = acc := by
  induction l generalizing acc with
  | nil => rfl
  | cons p t ih => simp only [List.foldl_cons, peStep, true_or, if_true, ite_self]; exact ih acc

theorem calcPE_invalid (d : Nat) (cur : Int × Int) (ps : List PInfo) (hd : d ≠ 0) :
    calcPE d INVALID cur ps = (INVALID, INVALID) := by
  unfold calcPE
  simp only [hd, if_false, foldl_peStep_invalid]
  decide

/-- on the relinked book every score is fresh, so `root->updateScores` reaches the fixed point -/
theorem RelinkedAs.init {b L : Book} (hL : RelinkedAs b L) :
    FixedPoint (updateScores true L 0) ∧ SameBase (updateScores true L 0) L := by
  have hnm : ∀ j, j < L.size → (L.nd j).nm = INVALID :=
    fun j hj => congrArg Prod.fst (hL.fresh j (hL.size ▸ hj)).1
  refine updateScores_init L hL.struct hnm ?_
  intro j hj hj0
  have hd : (L.nd j).depth ≠ 0 := by
    obtain ⟨q, _, e⟩ := (hL.struct.depth j (by omega) hj).1
    omega
  show L.pathErrOf j = pe2 (L.nd j)
  rw [(hL.fresh j (hL.size ▸ hj)).2 hj0]
  show calcPE (L.nd j).depth (L.nd j).nm _ _ = _
  rw [hnm j hj]; exact calcPE_invalid _ _ _ hd

theorem roundtrip_core (b L : Book) (hF : FixedPoint b) (hp : b.pending = []) (hL : RelinkedAs b L) :
    updateScores true L 0 = b := by
  have hinit := hL.init
  obtain ⟨hfp, hsb⟩ := hinit
  apply fixedPoint_unique _ _ hfp hF
  generalize updateScores true L 0 = U at hsb
  exact ⟨hsb.size.trans hL.size, (hsb.pending.trans hL.pending).trans hp.symm, hsb.costs.trans hL.costs,
    fun j => (base_key (hsb.base j)).trans (hL.stored j).1, fun j => (base_bestMove (hsb.base j)).trans (hL.stored j).2.1,
    fun j => (base_search (hsb.base j)).trans (hL.stored j).2.2.1, fun j => (base_time (hsb.base j)).trans (hL.stored j).2.2.2,
    fun j => (base_children (hsb.base j)).trans (hL.children j), fun j => (base_parents (hsb.base j)).trans (hL.parents j)⟩

/-- Saving and reloading reproduces the same graph and scores — given that the relinking pass (`initPositions`)
    restores a structurally sound book with the old links and untouched stored fields. -/
theorem reload_roundtrip_partial (b : Book) (hF : FixedPoint b) (hp : b.pending = []) (hL : RelinkedAs b (relinked b)) :
    reload true b = b := by
  rw [reload_eq]; exact roundtrip_core b (relinked b) hF hp hL

end Bk
