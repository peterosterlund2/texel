import TexelVerif.BookBuild.Invariant
/-!
# BookBuild: the empty book is at its fixed point; the 4-node history on which the unrepaired algorithm leaves it

Root R with children A (e2e4) and B (d2d4), A with child C (e7e5); search results R = 0, B = -50, A = -10, C = 10 and
then C = -30.  The last update changes A's negamax score (-10 → 30) but not R's (B dominates), so the unrepaired
`updateNegaMax` queues only C for the path-error pass and A keeps pathErrorWhite = 40 where its equation gives 80.
These are the values the real library produces (`./check C19 --replay` on the corpus entry); 1804, 1739, … are texel's
compressed moves.  `exB` / `exR` serve the non-vacuity example of `AddOk` with an existing child (C19).
-/
namespace Bk
open Book

def witnessRun (fixed : Bool) : Book :=
  let b := Book.new 0 {}
  let b := addPos fixed b 1 [(1804, 0)] []
  let b := addPos fixed b 2 [(1739, 0)] []
  let b := addPos fixed b 3 [(2356, 1)] []
  let b := setSearchResult fixed b 0 1350 0 1000
  let b := setSearchResult fixed b 2 2942 (-50) 1000
  let b := setSearchResult fixed b 1 2942 (-10) 1000
  let b := setSearchResult fixed b 3 1350 10 1000
  setSearchResult fixed b 3 1350 (-30) 1000

/-- a three-node chain root → 1 → 2 (for the non-vacuity example of `AddOk` with an existing child) -/
def exB : Book := addPos true (addPos true (Book.new 7 {}) 1 [(10, 0)] []) 2 [(20, 1)] []
/-- a rank for `exB` extended by a node 3 between the root and node 2 -/
def exR (i : Nat) : Nat := if i = 0 then 0 else if i = 2 then 2 else 1

/-- all score equations of all nodes, as a Boolean -/
def scoresOkB (b : Book) : Bool := (List.range b.size).all fun i => decide (nmOk b i) && decide (peOk b i)

theorem scoresOkB_iff (b : Book) : scoresOkB b = true ↔ ∀ i, i < b.size → nmOk b i ∧ peOk b i := by
  simp [scoresOkB]

theorem nd_new (k : Nat) (c : Costs) (i : Nat) :
    (Book.new k c).nd i = if i = 0 then { key := k, depth := 0, peW := 0, peB := 0 } else default := by
  cases i with
  | zero => rfl
  | succ n => rfl

theorem calcScores_fresh (c : Costs) (pend wtm : Bool) (mv : Nat) (h : pend = false) :
    calcScores c pend wtm mv INVALID [] = (INVALID, INVALID, INVALID) := by
  subst h
  simp [calcScores, calcNm, calcEc, coveredBy]

theorem fixedPoint_new (k : Nat) (c : Costs) : FixedPoint (Book.new k c) := by
  have hsz : (Book.new k c).size = 1 := rfl
  have h0 : ∀ i, i < (Book.new k c).size → i = 0 := fun i hi => by omega
  have hn : (Book.new k c).nd 0 = { key := k, depth := 0, peW := 0, peB := 0 } := rfl
  have hch : ∀ i, i < (Book.new k c).size → ∀ x, x ∉ childIds ((Book.new k c).nd i) := by
    intro i hi x hx; rw [h0 i hi, hn] at hx; cases hx
  refine ⟨by rw [hsz]; omega, ⟨?_, ?_⟩,
    (fun j => by rw [nd_new]; split <;> exact ⟨List.Pairwise.nil, List.Pairwise.nil⟩),
    ⟨fun _ => 0, ⟨fun _ _ => by rw [hsz]; omega, fun i hi c' hc => absurd hc (hch i hi c')⟩⟩, ⟨rfl, rfl, rfl⟩, ?_,
    fun i hi c' hc => absurd hc (hch i hi c'), ?_, ?_⟩
  · intro i hi e he; rw [h0 i hi, hn] at he; cases he
  · intro i hi e he; rw [h0 i hi, hn] at he; cases he
  · intro i h0' hi; rw [hsz] at hi; omega
  · intro i hi
    rw [h0 i hi, nmOk, Book.scoresOf, hn]
    exact calcScores_fresh _ _ _ _ rfl
  · intro i hi
    rw [h0 i hi]
    simp [peOk, Book.pathErrOf, nd_new, calcPE, pe2]

end Bk
