import TexelVerif.BookBuild.LinkNew
import TexelVerif.BookBuild.Sorted
import TexelVerif.BookBuild.Ops
/-! # BookBuild: `addPos` (the model of `Book::addPosToBook`) preserves `FixedPoint` -/
namespace Bk
open Book

/-- parents whose path errors are INVALID do not contribute to `computePathError` -/
theorem foldl_peStep_skip (d : Nat) (nm : Int) (f f' : Nat × Nat → PInfo) (N : Nat) :
    ∀ (l : List (Nat × Nat)) (acc : Int × Int), (∀ e ∈ l, e.2 ≠ N → f' e = f e) → (∀ e ∈ l, e.2 = N → (f' e).peW = INVALID) →
      (l.map f').foldl (peStep d nm) acc = ((l.filter (fun e => e.2 != N)).map f).foldl (peStep d nm) acc := by
  intro l
  induction l with
  | nil => intro acc _ _; rfl
  | cons e t ih =>
    intro acc h1 h2
    have ih' := fun acc' => ih acc' (fun x hx => h1 x (by simp [hx])) (fun x hx => h2 x (by simp [hx]))
    by_cases he : e.2 = N
    · have hskip : peStep d nm acc (f' e) = acc := by
        simp [peStep, h2 e (by simp) he]
      simp only [List.map_cons, List.foldl_cons, hskip, List.filter_cons, he, bne_self_eq_false, Bool.false_eq_true, if_false]
      exact ih' acc
    · have hne : (e.2 != N) = true := by simpa using he
      simp only [List.map_cons, List.foldl_cons, List.filter_cons, hne, if_true, h1 e (by simp) he]
      exact ih' _

theorem sortedLinks_pushNew (b : Book) (key : Nat) (h : SortedLinks b) : SortedLinks (pushNew b key) := by
  intro j
  by_cases hj : j < b.size
  · rw [nd_pushNew_old b key j hj]; exact h j
  · by_cases hj2 : j = b.size
    · subst hj2; rw [nd_pushNew_new]; exact ⟨List.Pairwise.nil, List.Pairwise.nil⟩
    · rw [nd_oob _ _ (by rw [size_pushNew]; omega)]; exact ⟨List.Pairwise.nil, List.Pairwise.nil⟩

theorem sortedLinks_foldl {α : Type} (f : Book → α → Book) (hf : ∀ a x, SortedLinks a → SortedLinks (f a x)) :
    ∀ (l : List α) (a : Book), SortedLinks a → SortedLinks (l.foldl f a) := by
  intro l
  induction l with
  | nil => intro a h; exact h
  | cons x t ih => intro a h; exact ih _ (hf a x h)

theorem sortedLinks_linkNew (b : Book) (key : Nat) (ps cs : List (Nat × Nat)) (h : SortedLinks b) :
    SortedLinks (linkNew b key ps cs) := by
  rw [linkNew_eq]
  exact sortedLinks_foldl (fun (acc : Book) (e : Nat × Nat) => addLink acc e.2 e.1 b.size)
    (fun a e ha => sortedLinks_addLink a e.2 e.1 b.size ha) cs _
    (sortedLinks_foldl (fun (acc : Book) (e : Nat × Nat) => addLink acc b.size e.1 e.2)
      (fun a e ha => sortedLinks_addLink a b.size e.1 e.2 ha) ps _ (sortedLinks_pushNew b key h))

section addpos
variable (b : Book) (key : Nat) (ps cs : List (Nat × Nat)) (r' : Nat → Nat) (hF : FixedPoint b) (hA : AddOk b ps cs r')

include hF hA in
theorem addPos_preserves : FixedPoint (addPos true b key ps cs) := by
  have hS := hF.struct
  obtain ⟨hinv, hnf, hpaPs, hpaNe⟩ := linkNew_spec b key ps cs r' hS hA
  have hsorted3 := sortedLinks_linkNew b key ps cs hS.sorted
  unfold addPos
  generalize linkNew b key ps cs = b3 at *
  have hsz := hnf.size
  have hold : ∀ j, j < b3.size → j ≠ b.size → j < b.size := by intro j hj hne; omega
  have hS3 : StructOk b3 := by
    refine ⟨hinv.nonempty, hinv.wf, hsorted3, ⟨r', hinv.rk⟩, ⟨hinv.root.1, hinv.root.2, ?_⟩, ?_, hinv.par⟩
    · exact (scal_pe2 (hnf.scalOld 0 hS.nonempty)).trans hS.root.2.2
    · intro i h0 hi
      rcases hinv.dep i hi with h | h
      · by_cases hin : i = b.size
        · subst hin; exact absurd h hpaNe
        · exact absurd h (nf_parents_ne b key hS b3 hnf i (hold i hi hin) (by omega))
      · exact h
  apply updateScores_fixedPoint b3 b.size hS3 (by omega)
  · -- not a parent of the new node: old children with their old scores
    intro j hj hjn hjp
    have hjo := hold j hj hjn
    have hsc := hnf.scalOld j hjo
    have hchild : (b3.nd j).children = (b.nd j).children := by
      rw [← hnf.chOld j hjo]
      symm
      apply filter_id_of_all
      intro e he
      simp only [bne_iff_ne, ne_eq]
      intro hen
      have := wf_child b3 hinv.wf j e.2 hj ((mem_childIds _ _).mpr ⟨e, he, rfl⟩)
      rw [hen] at this
      exact hjp this.2
    rw [nmOk, scal_scores3 hsc, ← show b.scoresOf j = scores3 (b.nd j) from hF.scores j hjo]
    exact scoresOf_congr b b3 j (congrArg (List.contains · j) hnf.pending) hnf.costs (hnf.dparOld j hjo).1
      (scal_bestMove hsc) (scal_search hsc) hchild
      (fun c hc => scal_scores3 (hnf.scalOld c (wf_child b hS.wf j c hjo hc).1))
  · -- the new node is a further parent, but its path errors are still INVALID, so it is skipped
    intro j hj hjn
    have hjo := hold j hj hjn
    have hsc := hnf.scalOld j hjo
    have hdp := hnf.dparOld j hjo
    rw [peOk, scal_pe2 hsc, ← show b.pathErrOf j = pe2 (b.nd j) from hF.pathErr j hjo]
    unfold Book.pathErrOf calcPE
    by_cases h0 : (b.nd j).depth = 0
    · rw [if_pos h0, if_pos (hdp.2.mpr h0), scal_peW hsc, scal_peB hsc]
    · rw [if_neg h0, if_neg (fun h => h0 (hdp.2.mp h)), peStep_parity _ _ hdp.1, scal_nm hsc]
      have hfold : ∀ acc, (b3.parentInfos (b3.nd j)).foldl (peStep (b.nd j).depth (b.nd j).nm) acc =
          (b.parentInfos (b.nd j)).foldl (peStep (b.nd j).depth (b.nd j).nm) acc := by
        intro acc
        unfold Book.parentInfos
        rw [← hnf.paOld j hjo]
        apply foldl_peStep_skip
        · intro e he hen
          have hscp := hnf.scalOld e.2 (hold e.2 (hinv.wf.parent j hj e he).1 hen)
          simp only [scal_nm hscp, scal_peW hscp, scal_peB hscp]
        · intro e _ hen
          simp only [hen]
          exact scal_peW hnf.scalNew
      simp only [hfold]

end addpos
end Bk
