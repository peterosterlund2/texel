import TexelVerif.BookBuild.UpdateSpec
/-!
# BookBuild: the score-changing operations preserve `FixedPoint`

`setSearchResult`, `addPending`, `removePending` and a bare `updateScores` for the repaired algorithm.
-/
namespace Bk
open Book

/-- same size, and every node has the same links and depth; the root keeps its path errors -/
structure SameStruct (b' b : Book) : Prop where
  size : b'.size = b.size
  children : ∀ j, (b'.nd j).children = (b.nd j).children
  parents : ∀ j, (b'.nd j).parents = (b.nd j).parents
  depth : ∀ j, (b'.nd j).depth = (b.nd j).depth
  rootpe : pe2 (b'.nd 0) = pe2 (b.nd 0)

theorem StructOk.transfer {b' b : Book} (h : SameStruct b' b) (hs : StructOk b) : StructOk b' := by
  refine ⟨by rw [h.size]; exact hs.nonempty, hs.wf.of_links h.size h.children h.parents,
    fun j => by rw [h.children j, h.parents j]; exact hs.sorted j, ?_, ?_, ?_, ?_⟩
  · obtain ⟨r, hr⟩ := hs.acyclic; exact ⟨r, hr.of_links h.size h.children⟩
  · rw [h.depth 0, h.parents 0, h.rootpe]; exact hs.root
  · intro i h0 hi
    rw [h.size] at hi
    have := hs.depth i h0 hi
    unfold depthOk at this ⊢
    simp only [parentIds_congr (h.parents i), h.depth]
    exact this
  · intro i hi c hc
    rw [h.size] at hi
    rw [childIds_congr (h.children i)] at hc
    rw [h.depth i, h.depth c]
    exact hs.parity i hi c hc

theorem SameBase.sameStruct {b' b : Book} (h : SameBase b' b) (h0 : (b.nd 0).depth = 0) : SameStruct b' b :=
  ⟨h.size, fun j => base_children (h.base j), fun j => base_parents (h.base j), fun j => base_depth (h.base j),
   h.rootpe 0 h0⟩

/-- `updateScores` (repaired) on a structurally sound book in which only `start` and `start`'s parents may violate the
    negamax/cost equations and only `start` may violate the path-error equations. -/
theorem updateScores_fixedPoint (b : Book) (start : Nat) (hS : StructOk b) (hs : start < b.size)
    (hnm : ∀ j, j < b.size → j ≠ start → j ∉ parentIds (b.nd start) → nmOk b j)
    (hpe : ∀ j, j < b.size → j ≠ start → peOk b j) :
    FixedPoint (updateScores true b start) := by
  obtain ⟨r, hr⟩ := hS.acyclic
  have h := updateScores_spec b start r hS.wf hr hs hnm hpe
  have hss := h.1.sameStruct hS.root.1
  refine FixedPoint.mk' (hS.transfer hss) ?_ ?_
  · intro i hi; rw [hss.size] at hi; exact h.2.1 i hi
  · intro i hi; rw [hss.size] at hi; exact h.2.2 i hi

/-- an explicit `node->updateScores(bookData)` on a book at its fixed point -/
theorem updateScores_preserves (b : Book) (start : Nat) (h : FixedPoint b) (hs : start < b.size) :
    FixedPoint (updateScores true b start) :=
  updateScores_fixedPoint b start h.struct hs (fun j hj _ _ => h.scores j hj) (fun j hj _ => h.pathErr j hj)

theorem setSearch_sameStruct (b : Book) (i mv : Nat) (sc : Int) (t : Nat) :
    SameStruct (b.setNode i { b.nd i with bestMove := mv, search := sc, time := t }) b :=
  ⟨size_setNode _ _ _, nd_setNode_field Node.children b i _ (by rfl), nd_setNode_field Node.parents b i _ (by rfl),
   nd_setNode_field Node.depth b i _ (by rfl), nd_setNode_field pe2 b i _ (by rfl) 0⟩

theorem setSearchResult_preserves (b : Book) (i mv : Nat) (sc : Int) (t : Nat) (h : FixedPoint b) (hi : i < b.size) :
    FixedPoint (setSearchResult true b i mv sc t) := by
  show FixedPoint (updateScores true (b.setNode i { b.nd i with bestMove := mv, search := sc, time := t }) i)
  have hss := setSearch_sameStruct b i mv sc t
  have hs3 := nd_setNode_field scores3 b i { b.nd i with bestMove := mv, search := sc, time := t } rfl
  have hpe := nd_setNode_field pe2 b i { b.nd i with bestMove := mv, search := sc, time := t } rfl
  have hnm := nd_setNode_field Node.nm b i { b.nd i with bestMove := mv, search := sc, time := t } rfl
  generalize { b.nd i with bestMove := mv, search := sc, time := t } = n' at *
  apply updateScores_fixedPoint _ i (h.struct.transfer hss) (hss.size ▸ hi)
  · -- an equation that may be left alone is that of a node which is neither `i` nor reads `i`
    intro j hj hne hnp
    rw [hss.size] at hj
    rw [nmOk, hs3 j, ← h.scores j hj]
    refine scoresOf_setNode_ne b i j n' (Ne.symm hne) (fun hc => hnp ?_)
    rw [parentIds_congr (hss.parents i)]; exact (wf_child b h.wf j i hj hc).2
  · -- path errors read nothing that was written
    intro j hj _
    rw [hss.size] at hj
    rw [peOk, hpe j, ← h.pathErr j hj]
    exact pathErrOf_congr b _ j (by rw [hss.depth j]) (by rw [hss.depth j]) (hnm j) (hss.parents j) (fun _ => hpe j)
      (fun p _ => ⟨hnm p, hpe p⟩)

theorem pending_fixedPoint (b : Book) (i : Nat) (pend : List Nat) (h : FixedPoint b) (hi : i < b.size)
    (hp : ∀ j, j ≠ i → pend.contains j = b.pending.contains j) :
    FixedPoint (updateScores true { b with pending := pend } i) := by
  have hss : SameStruct { b with pending := pend } b := ⟨rfl, fun _ => rfl, fun _ => rfl, fun _ => rfl, rfl⟩
  apply updateScores_fixedPoint _ i (h.struct.transfer hss) hi
  · intro j hj hne _
    exact (scoresOf_congr b { b with pending := pend } j (hp j hne) rfl rfl rfl rfl rfl (fun _ _ => rfl)).trans
      (h.scores j hj)
  · intro j hj _
    exact h.pathErr j hj

theorem addPending_preserves (b : Book) (i : Nat) (h : FixedPoint b) (hi : i < b.size) :
    FixedPoint (addPending true b i) := by
  apply pending_fixedPoint b i _ h hi
  intro j hj
  rw [Bool.eq_iff_iff, List.contains_iff_mem, List.contains_iff_mem, mem_insertSet]
  exact ⟨fun h => h.resolve_left hj, Or.inr⟩

theorem removePending_preserves (b : Book) (i : Nat) (h : FixedPoint b) (hi : i < b.size) :
    FixedPoint (removePending true b i) := by
  apply pending_fixedPoint b i _ h hi
  intro j hj
  rw [Bool.eq_iff_iff, List.contains_iff_mem, List.contains_iff_mem, List.mem_filter, bne_iff_ne]
  exact ⟨fun h => h.1, fun h => ⟨h, hj⟩⟩

end Bk
