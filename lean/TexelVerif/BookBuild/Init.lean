import TexelVerif.BookBuild.Distance
import TexelVerif.BookBuild.Ops
/-!
# BookBuild: initialisation after loading (`readFromFile` → `root->updateScores`)

After deserialisation every node carries INVALID scores.  `updateNegaMax(root, true, true, true)` then walks down the
`updateChildren` branch (children first, skipping nodes whose negamax score is already valid).  `down_spec`: as long as
every node with a valid negamax score satisfies its equations together with all its descendants (`Settled`), one such
call makes the node it is called on and all its descendants satisfy theirs and keeps `Settled`.
`updateScores_init`: from the root of a structurally sound book with fresh scores the repaired `updateScores` reaches
the fixed point.
-/
namespace Bk
open Book Propagate

section init
variable (b0 : Book) (r : Nat → Nat) (hwf : WF b0) (hr : Ranked b0 r) (start : Nat)

/-- node `j` and everything below it satisfy the negamax / expansion cost equations -/
def GoodBelow (s : US) (j : Nat) : Prop := ∀ k len, Path b0 j k len → nmOk s.b k

/-- every node that already has a valid negamax score is settled together with all its descendants -/
def Settled (s : US) : Prop := ∀ j, j < b0.size → (s.b.nd j).nm ≠ INVALID → GoodBelow b0 s j

include hwf hr in
theorem nmStep_good (s : US) (c : Nat) (hc : c < b0.size) (hI : InvUp b0 s) (hJ : Settled b0 s)
    (hch : ∀ c' ∈ childIds (b0.nd c), GoodBelow b0 s c') :
    InvUp b0 (nmStep true s c).1 ∧ Settled b0 (nmStep true s c).1 ∧ GoodBelow b0 (nmStep true s c).1 c ∧
    ∀ j, GoodBelow b0 s j → GoodBelow b0 (nmStep true s c).1 j := by
  have hsp := specUp b0 r hwf hr 0
  have hI' : InvUp b0 (nmStep true s c).1 := hsp.inv_step s c hI hc
  have hokc : nmOk (nmStep true s c).1.b c := up_ok_step b0 r hr s c hI hc
  -- nodes below c are not parents of c
  have hbelow : ∀ c' ∈ childIds (b0.nd c), ∀ k len, Path b0 c' k len → k ∉ parentIds (b0.nd c) := by
    intro c' hc' k len hp hk
    have h1 := hr.mono c hc c' hc'
    have h2 := path_rank b0 r hwf hr (wf_child b0 hwf c c' hc hc').1 hp
    have h3 := rank_parent b0 r hwf hr c k hc hk
    omega
  by_cases hun : s.b.scoresOf c = scores3 (s.b.nd c)
  · -- nothing changes
    have hs : nmStep true s c = (s, false) := nmStep_unchanged s c hun
    rw [hs]
    refine ⟨hI, hJ, ?_, fun j h => h⟩
    intro k len hp
    cases len with
    | zero => cases hp; exact hun
    | succ l =>
      obtain ⟨c', hc', hp'⟩ := path_uncons b0 hp
      exact hch c' hc' k l hp'
  · have hgood : GoodBelow b0 (nmStep true s c).1 c := by
      intro k len hp
      cases len with
      | zero => cases hp; exact hokc
      | succ l =>
        obtain ⟨c', hc', hp'⟩ := path_uncons b0 hp
        exact hsp.frame_changed s c k hI hc (hbelow c' hc' k l hp') (hch c' hc' k l hp')
    have hmono : ∀ j, GoodBelow b0 s j → GoodBelow b0 (nmStep true s c).1 j := by
      intro j hg k len hp
      by_cases hk : k ∈ parentIds (b0.nd c)
      · -- then c is below j and was fine: the step cannot have changed it
        have hck := (wf_parent b0 hwf c k hc hk).2
        exact absurd (hg c (len + 1) (Path.step hp hck)) hun
      · exact hsp.frame_changed s c k hI hc hk (hg k len hp)
    refine ⟨hI', ?_, hgood, hmono⟩
    intro j hj hnm
    by_cases hjc : j = c
    · subst hjc; exact hgood
    · have hnd : (nmStep true s c).1.b.nd j = s.b.nd j := by
        rw [nmStep_changed s c hun]; exact nd_setS3_ne _ _ _ _ (Ne.symm hjc)
      rw [hnd] at hnm
      exact hmono j (hJ j hj hnm)

include hwf hr in
theorem down_spec : ∀ (f c : Nat) (s : US), b0.size - r c < f → c < b0.size → InvUp b0 s → Settled b0 s →
    InvUp b0 (updNM true start f c false true false s) ∧ Settled b0 (updNM true start f c false true false s) ∧
    GoodBelow b0 (updNM true start f c false true false s) c ∧
    ∀ j, GoodBelow b0 s j → GoodBelow b0 (updNM true start f c false true false s) j := by
  intro f
  induction f with
  | zero => intro c s h; omega
  | succ f ih =>
    intro c s hf hc hI hJ
    simp only [updNM, Bool.not_false, Bool.true_and, Bool.false_and, Bool.false_eq_true, if_false, if_true]
    by_cases hnm : ((s.b.nd c).nm != INVALID) = true
    · simp only [hnm, if_true]
      exact ⟨hI, hJ, hJ c hc (by simpa using hnm), fun j h => h⟩
    · simp only [hnm, Bool.false_eq_true, if_false]
      have hcid : childIds (s.b.nd c) = childIds (b0.nd c) := by simp only [childIds, hI.children c]
      rw [hcid]
      have hfold := fold_spec (Inv := fun s => InvUp b0 s ∧ Settled b0 s) (ok := GoodBelow b0)
        (fun c' acc => updNM true start f c' false true false acc) (fun c' => c' < b0.size ∧ b0.size - r c' < f)
        (fun c' s' hP his => by
          have := ih c' s' hP.2 hP.1 his.1 his.2
          exact ⟨⟨this.1, this.2.1⟩, this.2.2.1, this.2.2.2⟩)
        (childIds (b0.nd c)) s
        (fun c' hc' => by
          have h1 := (wf_child b0 hwf c c' hc hc').1
          have h2 := hr.mono c hc c' hc'
          have h3 := hr.bound c' h1
          exact ⟨h1, by omega⟩)
        ⟨hI, hJ⟩
      generalize (childIds (b0.nd c)).foldl (fun acc c' => updNM true start f c' false true false acc) s = s1 at hfold
      obtain ⟨⟨hI1, hJ1⟩, hgch, hmono1⟩ := hfold
      have hstep := nmStep_good b0 r hwf hr s1 c hc hI1 hJ1 hgch
      exact ⟨hstep.1, hstep.2.1, hstep.2.2.1, fun j h => hstep.2.2.2 j (hmono1 j h)⟩

end init

/-- From the root of a structurally sound book in which no node has a valid negamax score yet and every non-root
    node satisfies its path-error equation (in particular: all scores fresh), `updateScores` reaches the fixed point. -/
theorem updateScores_init (b : Book) (hS : StructOk b)
    (hfresh : ∀ j, j < b.size → (b.nd j).nm = INVALID)
    (hpe : ∀ j, j < b.size → j ≠ 0 → peOk b j) :
    FixedPoint (updateScores true b 0) ∧ SameBase (updateScores true b 0) b := by
  obtain ⟨r, hr⟩ := hS.acyclic
  have hwf := hS.wf
  have hn := hS.nonempty
  let s0 : US := { b := b, tu := [0] }
  have hI0 : InvUp b s0 :=
    ⟨rfl, rfl, rfl, fun _ => rfl, by intro j hj; simp [s0] at hj; subst hj; exact hn,
     by intro j hj
        by_cases h : j = 0
        · right; simp [s0, h]
        · left; exact hpe j hj h⟩
  have hJ0 : Settled b s0 := fun j hj h => absurd (hfresh j hj) h
  -- the first pass: children (initialisation branch), then the root itself; the root has no parents
  have hpar0 : parentIds (b.nd 0) = [] := by simp only [parentIds, hS.root.2.1]; rfl
  have hfold := fold_spec (Inv := fun s => InvUp b s ∧ Settled b s) (ok := GoodBelow b)
    (fun c' acc => updNM true 0 b.size c' false true false acc) (fun c' => c' < b.size ∧ b.size - r c' < b.size)
    (fun c' s' hP his => by
      have := down_spec b r hwf hr 0 b.size c' s' hP.2 hP.1 his.1 his.2
      exact ⟨⟨this.1, this.2.1⟩, this.2.2.1, this.2.2.2⟩)
    (childIds (b.nd 0)) s0
    (fun c' hc' => by
      have h1 := (wf_child b hwf 0 c' hn hc').1
      have h2 := hr.mono 0 hn c' hc'
      exact ⟨h1, by omega⟩)
    ⟨hI0, hJ0⟩
  have htop : updNM true 0 (b.size + 1) 0 true true true s0 =
      (nmStep true ((childIds (b.nd 0)).foldl (fun acc c' => updNM true 0 b.size c' false true false acc) s0) 0).1 := by
    simp only [updNM, Bool.not_true, Bool.false_and, Bool.false_eq_true, if_false, if_true, Bool.true_and, beq_self_eq_true,
      Bool.or_true]
    have : ∀ s : US, InvUp b s → parentIds ((nmStep true s 0).1.b.nd 0) = [] := by
      intro s hs
      have : InvUp b (nmStep true s 0).1 := (specUp b r hwf hr 0).inv_step s 0 hs hn
      show List.map (·.2) ((nmStep true s 0).1.b.nd 0).parents = []
      rw [this.parents 0, hS.root.2.1]; rfl
    rw [this _ hfold.1.1]; rfl
  generalize (childIds (b.nd 0)).foldl (fun acc c' => updNM true 0 b.size c' false true false acc) s0 = s1 at hfold htop
  obtain ⟨⟨hI1, hJ1⟩, hgch, _⟩ := hfold
  have hstep := nmStep_good b r hwf hr s1 0 hn hI1 hJ1 hgch
  obtain ⟨hI2, _, hgood, _⟩ := hstep
  have hnm2 : ∀ j, j < b.size → nmOk (nmStep true s1 0).1.b j := by
    intro j hj
    exact hgood j (b.nd j).depth (path_of_depth b hS _ j hj rfl)
  have h2 := second_pass_spec b r hwf hr (nmStep true s1 0).1 hI2 hnm2
  have hres : updateScores true b 0 =
      (sortByDepth (nmStep true s1 0).1.b (nmStep true s1 0).1.tu).foldl (fun acc n => updPE (b.size + 1) n acc) (nmStep true s1 0).1.b := by
    simp only [updateScores]
    rw [show ({ b := b, tu := [0] } : US) = s0 from rfl, htop]
  rw [hres]
  have hss := h2.1.sameStruct hS.root.1
  refine ⟨FixedPoint.mk' (hS.transfer hss) ?_ ?_, h2.1⟩
  · intro i hi; rw [hss.size] at hi; exact h2.2.1 i hi
  · intro i hi; rw [hss.size] at hi; exact h2.2.2 i hi

end Bk
