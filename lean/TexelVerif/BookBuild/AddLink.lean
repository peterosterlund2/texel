import TexelVerif.BookBuild.LinkSpec
/-! # BookBuild: `addLink_spec` (see `LinkSpec.lean`) -/
namespace Bk
open Book Propagate

section addlink
variable (b : Book) (r : Nat → Nat) (c mv p : Nat) (hI : LinkInv b r) (hp : p < b.size) (hc : c < b.size)
  (hc0 : c ≠ 0) (hrk : r p < r c) (hpl : p = 0 ∨ parentIds (b.nd p) ≠ [])
  (hpar : parentIds (b.nd c) = [] ∨ ((b.nd p).depth + (b.nd c).depth) % 2 = 1)
  (huniq : ∀ x ∈ (b.nd p).children, x.1 = mv → x = (mv, c))

include hrk in
theorem al_ne : p ≠ c := by rintro rfl; omega

include hI hp hc huniq in
theorem al_wf : WF (linkOnly b c mv p) := by
  have hL := al_linkOnly b c mv p hp hc
  constructor
  · intro i hi e he
    rw [size_linkOnly] at hi ⊢
    rcases hL.mem_children he with h | ⟨rfl, rfl⟩
    · have := hI.wf.child i hi e h
      exact ⟨this.1, hL.mem_parents.mpr (Or.inl this.2)⟩
    · exact ⟨hc, hL.mem_parents.mpr (Or.inr ⟨rfl, rfl⟩)⟩
  · intro i hi e he
    rw [size_linkOnly] at hi ⊢
    rcases hL.mem_parents.mp he with h | ⟨rfl, rfl⟩
    · have := hI.wf.parent i hi e h
      exact ⟨this.1, hL.children_mono this.2⟩
    · exact ⟨hp, hL.new_child huniq⟩

include hI hp hc hrk in
theorem al_ranked : Ranked (linkOnly b c mv p) r := by
  constructor
  · intro i hi; rw [size_linkOnly] at hi ⊢; exact hI.rk.bound i hi
  · intro i hi q hq
    rw [size_linkOnly] at hi
    rcases (al_linkOnly b c mv p hp hc).mem_childIds hq with h | ⟨rfl, rfl⟩
    · exact hI.rk.mono i hi q h
    · exact hrk

include hI hp hc hpar in
theorem al_parentsParity (j : Nat) (hj : j ≠ c ∨ parentIds (b.nd c) ≠ []) : ParentsParity (linkOnly b c mv p) j := by
  intro q hq
  rw [depth_linkOnly b c mv p, depth_linkOnly b c mv p]
  rcases (al_linkOnly b c mv p hp hc).mem_parentIds.mp hq with h | ⟨rfl, rfl⟩
  · exact parentsParity_of_parityOk b hI.wf hI.par j q h
  · rcases hpar with h | h
    · rcases hj with h' | h'
      · exact absurd rfl h'
      · exact absurd h h'
    · exact h

include hI hp hc hc0 hrk hpl hpar huniq in
theorem addLink_spec : LinkInv (addLink b c mv p) r ∧ AL b (addLink b c mv p) c mv p := by
  have hne := al_ne r c p hrk
  have hwf2 := al_wf b r c mv p hI hp hc huniq
  have hr2 := al_ranked b r c mv p hI hp hc hrk
  have hch := children_linkOnly b c mv p hp
  have hpa := parents_linkOnly b c mv p hc
  have hde := depth_linkOnly b c mv p
  have hpfin : (b.nd p).depth + 1 ≤ DEPTH_INF := by
    have h1 := hI.dle p hp hpl
    have h2 := hI.rk.bound p hp
    have h3 := hI.small
    omega
  have hpid : ∀ j, j ≠ c → parentIds ((linkOnly b c mv p).nd j) = parentIds (b.nd j) := by
    intro j hj; simp only [parentIds, hpa j, hj, if_false]
  have hL := al_linkOnly b c mv p hp hc
  have hpc : p ∈ parentIds ((linkOnly b c mv p).nd c) := hL.mem_parentIds.mpr (Or.inr ⟨rfl, rfl⟩)
  have hQ2 : ∀ i, i < (linkOnly b c mv p).size → childIds ((linkOnly b c mv p).nd i) ≠ [] →
      ParentsParity (linkOnly b c mv p) i := by
    intro i hi hnil
    rw [size_linkOnly] at hi
    apply al_parentsParity b r c mv p hI hp hc hpar
    by_cases hic : i = c
    · right
      subst hic
      intro hpn
      have hcn : childIds ((linkOnly b i mv p).nd i) = childIds (b.nd i) := by
        simp only [childIds, hch i, Ne.symm hne, if_false]
      rw [hcn] at hnil
      exact hnil (hI.orphan i hc hc0 hpn)
    · exact Or.inl hic
  have hI0 : InvDepth (linkOnly b c mv p) (linkOnly b c mv p) := by
    refine ⟨rfl, rfl, rfl, fun _ => rfl, fun _ => Nat.le_refl _, fun _ _ => rfl, fun _ => Iff.rfl, ?_, fun _ _ => rfl⟩
    intro j hj hnil
    rw [size_linkOnly] at hj
    by_cases hjc : j = c
    · subst hjc
      by_cases hfr : parentIds (b.nd j) = []
      · refine ⟨p, hpc, ?_⟩
        rw [hde, hde, hI.fresh j hc hc0 hfr]; exact hpfin
      · obtain ⟨q, hq, he⟩ := (hI.dep j hc).parent hfr
        refine ⟨q, hL.mem_parentIds.mpr (Or.inl hq), ?_⟩
        rw [hde, hde]; omega
    · rw [hpid j hjc] at hnil ⊢
      obtain ⟨q, hq, he⟩ := (hI.dep j hj).parent hnil
      refine ⟨q, hq, ?_⟩
      rw [hde, hde]; omega
  have hspec := run_spec (specDepth (linkOnly b c mv p) r hwf2 hr2 hQ2) ((linkOnly b c mv p).size + 1) c (linkOnly b c mv p)
    (by have := hI.rk.bound c hc; simp only [size_linkOnly]; omega) (by simpa using hc) hI0
  rw [← updDepth_eq_run, ← addLink_eq] at hspec
  generalize addLink b c mv p = b' at hspec
  obtain ⟨hI', hokc, hmono, _⟩ := hspec
  have hsz : b'.size = b.size := by rw [hI'.size, size_linkOnly]
  have hch' : ∀ j, (b'.nd j).children = if j = p then insertChild (b.nd p).children mv c else (b.nd j).children := by
    intro j; rw [hI'.children j, hch j]
  have hpa' : ∀ j, (b'.nd j).parents = if j = c then insertParent (b.nd c).parents mv p else (b.nd j).parents := by
    intro j; rw [hI'.parents j, hpa j]
  have hle' : ∀ j, (b'.nd j).depth ≤ (b.nd j).depth := by
    intro j; have := hI'.le j; rw [hde j] at this; exact this
  have hdpar : ∀ j, (j ≠ c ∨ parentIds (b.nd c) ≠ []) →
      (b'.nd j).depth % 2 = (b.nd j).depth % 2 ∧ ((b'.nd j).depth = 0 ↔ (b.nd j).depth = 0) := by
    intro j hj
    have h1 := hI'.par j (al_parentsParity b r c mv p hI hp hc hpar j hj)
    have h2 := hI'.pos j
    rw [hde j] at h1 h2
    exact ⟨h1, h2⟩
  have hdep' : ∀ j, j < b.size → dOkF b' j := by
    intro j hj
    by_cases hjc : j = c
    · subst hjc; exact hokc
    · apply hmono
      rcases hI.dep j hj with h | h
      · left; rw [hpid j hjc]; exact h
      · right
        unfold depthOk at h ⊢
        rw [hpid j hjc]
        simp only [hde]
        exact h
  have hA : AL b b' c mv p :=
    ⟨hsz, hI'.pending, hI'.costs, fun j => (scal_of_noDepth (hI'.skel j)).trans (scal_linkOnly b c mv p j), hch', hpa',
     hle', hdpar⟩
  have hpc' : p ∈ parentIds (b'.nd c) := hA.mem_parentIds.mpr (Or.inr ⟨rfl, rfl⟩)
  -- a node without parents afterwards is not `c` and had none before
  have hnopar : ∀ j, parentIds (b'.nd j) = [] → j ≠ c ∧ parentIds (b.nd j) = [] := by
    intro j hnil
    have hjc : j ≠ c := by rintro rfl; rw [hnil] at hpc'; cases hpc'
    exact ⟨hjc, by rw [← hnil]; exact parentIds_congr (by rw [hpa' j, if_neg hjc])⟩
  have hdepc : depthOk b' c := hokc.resolve_left (fun h => (hnopar c h).1 rfl)
  -- if `c` was unlinked its depth is now one more than that of `p`
  have hcnew : parentIds (b.nd c) = [] → (b'.nd c).depth = (b'.nd p).depth + 1 := by
    intro hnil
    obtain ⟨q', hq', he⟩ := hdepc.1
    rcases hA.mem_parentIds.mp hq' with h | ⟨_, rfl⟩
    · rw [hnil] at h; cases h
    · exact he
  refine ⟨⟨hsz ▸ hI.nonempty, hsz ▸ hI.small,
    WF.of_links hI'.size hI'.children hI'.parents hwf2, Ranked.of_links hI'.size hI'.children hr2, ?_, ?_, ?_, ?_, ?_, ?_⟩, hA⟩
  · constructor
    · have := hle' 0; rw [hI.root.1] at this; omega
    · rw [hpa' 0, if_neg (Ne.symm hc0)]; exact hI.root.2
  · intro j hj; exact hdep' j (hsz ▸ hj)
  · intro i hi q hq
    rw [hsz] at hi
    have hq2 : q ∈ childIds ((linkOnly b c mv p).nd i) := childIds_congr (hI'.children i) ▸ hq
    have hpi := hI'.par i (hQ2 i (by simpa using hi) (List.ne_nil_of_mem hq2))
    rw [hde i] at hpi
    by_cases hfresh : q = c ∧ parentIds (b.nd c) = []
    · -- the new node's only parent is p
      obtain ⟨rfl, hnil⟩ := hfresh
      have hip : i = p := by
        rcases hL.mem_childIds hq2 with h | ⟨h, _⟩
        · have := (wf_child b hI.wf i q hi h).2
          rw [hnil] at this; cases this
        · exact h
      subst hip
      rw [hcnew hnil]; exact same_parity_succ rfl
    · have hjq : q ≠ c ∨ parentIds (b.nd c) ≠ [] := by
        by_cases h1 : q = c
        · exact Or.inr (fun h2 => hfresh ⟨h1, h2⟩)
        · exact Or.inl h1
      have hedge : ((b.nd i).depth + (b.nd q).depth) % 2 = 1 := by
        rcases hL.mem_childIds hq2 with h | ⟨rfl, rfl⟩
        · exact hI.par i hi q h
        · exact hpar.resolve_left (hjq.resolve_left (fun h => h rfl))
      exact (add_parity_congr hpi (hdpar q hjq).1).trans hedge
  · intro j hj hj0 hnil
    obtain ⟨hjc, hnb⟩ := hnopar j hnil
    have hjp : j ≠ p := by
      rintro rfl
      exact hpl.elim hj0 (fun h => h hnb)
    rw [childIds_congr (show (b'.nd j).children = (b.nd j).children by rw [hch' j, if_neg hjp])]
    exact hI.orphan j (hsz ▸ hj) hj0 hnb
  · intro j hj hj0 hnil
    obtain ⟨hjc, hnb⟩ := hnopar j hnil
    rw [hI'.same j (by rw [hpid j hjc]; exact hnb), hde j]
    exact hI.fresh j (hsz ▸ hj) hj0 hnb
  · intro j hj hl
    rw [hsz] at hj
    have hle := hle' j
    by_cases hjc : j = c
    · subst hjc
      by_cases hfr : parentIds (b.nd j) = []
      · have h1 := hle' p
        have h2 := hI.dle p hp hpl
        have h3 := hcnew hfr
        omega
      · have := hI.dle j hj (Or.inr hfr)
        omega
    · have heq : parentIds (b'.nd j) = parentIds (b.nd j) := parentIds_congr (by rw [hpa' j, if_neg hjc])
      have := hI.dle j hj (heq ▸ hl)
      omega

end addlink
end Bk
