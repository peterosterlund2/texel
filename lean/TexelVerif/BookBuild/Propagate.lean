/-!
# Generic change propagation over a DAG

`run` is the common shape of the three recursive lambdas/methods of `BookNode` (`updateNegaMax` towards the parents,
`updatePathErrors` and `updateDepth` towards the children): recompute one node; if it changed (or the node is
`force`d), do the same for every node that reads it.

`run_spec`: if recomputing a node makes *its* equation hold and can only disturb the equations of the nodes that read
it, then `run` from node `i` makes `i`'s equation hold and keeps every equation that held before — on any graph whose
reader relation decreases a rank (acyclicity), given fuel above the rank of `i`.
-/
namespace Bk.Propagate

structure Sys (σ : Type) where
  step : σ → Nat → σ × Bool
  succ : σ → Nat → List Nat
  force : Nat → Bool

def run {σ : Type} (S : Sys σ) : Nat → Nat → σ → σ
  | 0, _, s => s
  | fuel+1, i, s =>
    let r := S.step s i
    if r.2 || S.force i then (S.succ r.1 i).foldl (fun acc j => run S fuel j acc) r.1 else r.1

theorem run_inv {σ : Type} (S : Sys σ) (P : σ → Prop) (hstep : ∀ s i, P s → P (S.step s i).1) :
    ∀ (fuel i : Nat) (s : σ), P s → P (run S fuel i s) := by
  intro fuel
  induction fuel with
  | zero => intro i s h; exact h
  | succ f ih =>
    intro i s h
    simp only [run]
    have h1 := hstep s i h
    split
    · generalize (S.step s i).1 = s1 at h1
      generalize S.succ s1 i = l
      induction l generalizing s1 with
      | nil => exact h1
      | cons a t iht => simp only [List.foldl_cons]; exact iht _ (ih a s1 h1)
    · exact h1

/-- What `run_spec` needs to know about a system.  `Inv` collects everything that stays fixed (shape of the graph,
    side invariants), `V` is the set of valid nodes, `ok s j` says that node `j`'s equation holds in `s`,
    `succF` is the (static) reader relation and `rk` a rank that decreases along it.  A step that reports "unchanged"
    returns its argument; a changing step at `i` can disturb only the readers of `i`. -/
structure Spec {σ : Type} (S : Sys σ) (Inv : σ → Prop) (V : Nat → Prop) (ok : σ → Nat → Prop)
    (succF : Nat → List Nat) (rk : Nat → Nat) : Prop where
  succ_eq : ∀ s i, Inv s → S.succ s i = succF i
  succ_valid : ∀ i j, V i → j ∈ succF i → V j ∧ rk j < rk i
  inv_step : ∀ s i, Inv s → V i → Inv (S.step s i).1
  ok_step : ∀ s i, Inv s → V i → ok (S.step s i).1 i
  step_false : ∀ s i, (S.step s i).2 = false → (S.step s i).1 = s
  frame : ∀ s i j, Inv s → V i → j ≠ i → j ∉ succF i → ok s j → ok (S.step s i).1 j

variable {σ : Type} {S : Sys σ} {Inv : σ → Prop} {V : Nat → Prop} {ok : σ → Nat → Prop}
  {succF : Nat → List Nat} {rk : Nat → Nat}

theorem Spec.frame_changed (h : Spec S Inv V ok succF rk) (s : σ) (i j : Nat) (hi : Inv s) (hv : V i)
    (hn : j ∉ succF i) (hk : ok s j) : ok (S.step s i).1 j := by
  by_cases hji : j = i
  · subst hji; exact h.ok_step s j hi hv
  · exact h.frame s i j hi hv hji hn hk

/-- A fold of a state transformer that (on valid nodes of small rank) keeps `Inv`, establishes `ok` at its node and
    keeps every `ok`: afterwards `ok` holds on the whole list. -/
theorem fold_spec (f : Nat → σ → σ) (P : Nat → Prop)
    (hf : ∀ j s, P j → Inv s → Inv (f j s) ∧ ok (f j s) j ∧ ∀ k, ok s k → ok (f j s) k) :
    ∀ (l : List Nat) (s : σ), (∀ j ∈ l, P j) → Inv s →
      Inv (l.foldl (fun acc j => f j acc) s) ∧ (∀ j ∈ l, ok (l.foldl (fun acc j => f j acc) s) j) ∧
      ∀ k, ok s k → ok (l.foldl (fun acc j => f j acc) s) k := by
  intro l
  induction l with
  | nil => intro s _ hi; exact ⟨hi, by simp, fun _ h => h⟩
  | cons a t ih =>
    intro s hP hi
    have ha := hf a s (hP a (by simp)) hi
    have := ih (f a s) (fun j hj => hP j (by simp [hj])) ha.1
    simp only [List.foldl_cons]
    refine ⟨this.1, ?_, fun k hk => this.2.2 k (ha.2.2 k hk)⟩
    intro j hj
    rcases List.mem_cons.mp hj with rfl | hj
    · exact this.2.2 _ ha.2.1
    · exact this.2.1 j hj

theorem run_spec (h : Spec S Inv V ok succF rk) :
    ∀ (fuel i : Nat) (s : σ), rk i < fuel → V i → Inv s →
      Inv (run S fuel i s) ∧ ok (run S fuel i s) i ∧ (∀ k, ok s k → ok (run S fuel i s) k) ∧
      (S.force i = true → ∀ j ∈ succF i, ok (run S fuel i s) j) := by
  intro fuel
  induction fuel with
  | zero => intro i s hr; omega
  | succ f ih =>
    intro i s hr hv hi
    have hi1 := h.inv_step s i hi hv
    have hok1 := h.ok_step s i hi hv
    simp only [run]
    by_cases hc : ((S.step s i).2 || S.force i) = true
    · simp only [hc, if_true]
      rw [h.succ_eq _ i hi1]
      have hfold := fold_spec (Inv := Inv) (ok := ok) (fun j acc => run S f j acc) (fun j => V j ∧ rk j < f)
        (fun j s' hP his => by
          have := ih j s' hP.2 hP.1 his
          exact ⟨this.1, this.2.1, this.2.2.1⟩)
        (succF i) (S.step s i).1
        (fun j hj => by
          have := h.succ_valid i j hv hj
          exact ⟨this.1, by omega⟩)
        hi1
      refine ⟨hfold.1, hfold.2.2 i hok1, ?_, fun _ j hj => hfold.2.1 j hj⟩
      intro k hk
      by_cases hmem : k ∈ succF i
      · exact hfold.2.1 k hmem
      · exact hfold.2.2 k (h.frame_changed s i k hi hv hmem hk)
    · have h2 : (S.step s i).2 = false ∧ S.force i = false := by simpa using hc
      rw [if_neg hc]
      rw [h.step_false s i h2.1] at hi1 hok1 ⊢
      exact ⟨hi1, hok1, fun k hk => hk, fun hf => by rw [h2.2] at hf; cases hf⟩

theorem run_list_spec (h : Spec S Inv V ok succF rk) (fuel : Nat) (l : List Nat) (s : σ)
    (hl : ∀ j ∈ l, V j ∧ rk j < fuel) (hi : Inv s) :
    Inv (l.foldl (fun acc j => run S fuel j acc) s) ∧ (∀ j ∈ l, ok (l.foldl (fun acc j => run S fuel j acc) s) j) ∧
    ∀ k, ok s k → ok (l.foldl (fun acc j => run S fuel j acc) s) k :=
  fold_spec (Inv := Inv) (ok := ok) (fun j acc => run S fuel j acc) (fun j => V j ∧ rk j < fuel)
    (fun j s' hP his => by
      have := run_spec h fuel j s' hP.2 hP.1 his
      exact ⟨this.1, this.2.1, this.2.2.1⟩) l s hl hi

end Bk.Propagate
