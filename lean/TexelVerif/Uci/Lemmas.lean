import TexelVerif.Uci.Spec
/-! The contract automaton's bookkeeping: each allowed event changes every debt by what it asks for minus what it delivers. -/
namespace Uci

theorem run_append (s : St) (a b : List Ev) : run s (a ++ b) = (run s a).bind fun s' => run s' b := by
  induction a generalizing s with
  | nil => simp [run]
  | cons e es ih =>
    simp only [List.cons_append, run]
    cases step s e with
    | none => simp
    | some s' => simpa using ih s'

theorem countIn_inp (p : Cmd → Bool) (c : Cmd) : countIn p [.inp c] = if p c then 1 else 0 := by
  simp only [countIn, List.filter_cons, List.filter_nil]; split <;> rfl

theorem countIn_out (p : Cmd → Bool) (o : Out) : countIn p [.out o] = 0 := rfl

theorem countOut_inp (o : Out) (c : Cmd) : countOut o [.inp c] = 0 := rfl

theorem countOut_out (o o' : Out) : countOut o [.out o'] = if o' = o then 1 else 0 := by
  simp only [countOut, List.filter_cons, List.filter_nil, beq_iff_eq, Ev.out.injEq]; split <;> rfl

theorem countIn_cons (p : Cmd → Bool) (e : Ev) (es : List Ev) : countIn p (e :: es) = countIn p [e] + countIn p es := by
  simp only [countIn, ← List.length_append, ← List.filter_append, List.singleton_append]

theorem countOut_cons (o : Out) (e : Ev) (es : List Ev) : countOut o (e :: es) = countOut o [e] + countOut o es := by
  simp only [countOut, ← List.length_append, ← List.filter_append, List.singleton_append]

theorem step_counts (s s' : St) (e : Ev) (h : step s e = some s') :
    s'.goOwed + countOut .bestmove [e] = s.goOwed + countIn isGo [e] ∧
    s'.readyOwed + countOut .readyok [e] = s.readyOwed + countIn (· == .isready) [e] ∧
    s'.uciOwed + countOut .uciok [e] = s.uciOwed + countIn (· == .uci) [e] := by
  cases e with
  | inp c =>
    simp only [countIn_inp, countOut_inp]
    cases c <;> simp only [step, Option.some.injEq] at h <;> subst h <;> simp [isGo]
  | out o =>
    simp only [countIn_out, countOut_out]
    cases o <;> simp only [step, Option.ite_none_right_eq_some, Option.ite_none_left_eq_some, Option.some.injEq, reduceCtorEq] at h
    case uciok | readyok => obtain ⟨h0, rfl⟩ := h; simp; omega
    case bestmove => obtain ⟨h0, _, rfl⟩ := h; simp; omega
    case info | idOrOption => obtain ⟨_, rfl⟩ := h; simp
    case infoString => subst h; simp

theorem run_counts (tr : List Ev) : ∀ (s0 s : St), run s0 tr = some s →
    s.goOwed + countOut .bestmove tr = s0.goOwed + countIn isGo tr ∧
    s.readyOwed + countOut .readyok tr = s0.readyOwed + countIn (· == .isready) tr ∧
    s.uciOwed + countOut .uciok tr = s0.uciOwed + countIn (· == .uci) tr := by
  induction tr with
  | nil => intro s0 s h; cases h; exact ⟨rfl, rfl, rfl⟩
  | cons e es ih =>
    intro s0 s h
    simp only [run] at h
    cases hs : step s0 e with
    | none => rw [hs] at h; cases h
    | some s1 =>
      rw [hs] at h
      have h1 := step_counts s0 s1 e hs
      have h2 := ih s1 s h
      simp only [countIn_cons _ e es, countOut_cons _ e es]
      omega

end Uci
