import TexelVerif.Chess.TexelGenCC
/-!
The pawn block of `pseudoLegalCapturesAndChecks` against the pawn block of `pseudoLegalMoves`: one statement over the three
shifts of a colour (`mem_ccPawn_sh`), instantiated for white and black.
-/
namespace Chess.Texel
open PosImpl (BB getP getP_eq)

theorem mem_addPawn_and (w : Bool) (mask E : BB) (delta : Int) (m : Mv) :
    m ∈ addPawnMovesByMask w (mask &&& E) delta true ↔ (m ∈ addPawnMovesByMask w mask delta true ∧ tst E m.t = true) := by
  rw [mem_addPawn, mem_addPawn, tst_and, Bool.and_eq_true]
  constructor
  · rintro ⟨⟨h1, h2⟩, h3, h4⟩; exact ⟨⟨h1, h3, h4⟩, h2⟩
  · rintro ⟨⟨h1, h3, h4⟩, h2⟩; exact ⟨⟨h1, h2⟩, h3, h4⟩

theorem mem_addPawnDouble_and (mask E : BB) (delta : Int) (m : Mv) :
    m ∈ addPawnDoubleMovesByMask (mask &&& E) delta ↔ (m ∈ addPawnDoubleMovesByMask mask delta ∧ tst E m.t = true) := by
  rw [mem_addPawnDouble, mem_addPawnDouble, tst_and, Bool.and_eq_true]
  constructor
  · rintro ⟨⟨h1, h2⟩, h3, h4⟩; exact ⟨⟨h1, h3, h4⟩, h2⟩
  · rintro ⟨⟨h1, h3, h4⟩, h2⟩; exact ⟨⟨h1, h2⟩, h3, h4⟩

theorem mem_addPawn_sh {sh : BB → BB} {d : Int} (hs : Shift sh d) (w : Bool) (a X N : BB) (m : Mv) :
    m ∈ addPawnMovesByMask w (sh (a &&& X) &&& N) d true ↔
      (m ∈ addPawnMovesByMask w (sh a &&& N) d true ∧ tst X m.f = true) := by
  rw [mem_addPawn, mem_addPawn, tst_and, tst_and, Bool.and_eq_true, Bool.and_eq_true, hs.and]
  constructor
  · rintro ⟨⟨⟨h1, h2⟩, h3⟩, h4, h5⟩; exact ⟨⟨⟨h1, h3⟩, h4, h5⟩, by rw [h4]; exact h2⟩
  · rintro ⟨⟨⟨h1, h3⟩, h4, h5⟩, h2⟩; exact ⟨⟨⟨h1, by rw [← h4]; exact h2⟩, h3⟩, h4, h5⟩

theorem mem_dbl_sh {sh : BB → BB} {d : Int} (hs : Shift sh d) (a X N R : BB) (m : Mv) :
    m ∈ addPawnDoubleMovesByMask (sh (sh (a &&& X) &&& N &&& R) &&& N) (d + d) ↔
      (m ∈ addPawnDoubleMovesByMask (sh (sh a &&& N &&& R) &&& N) (d + d) ∧ tst X m.f = true) := by
  simp only [mem_addPawnDouble, tst_and, Bool.and_eq_true, hs _ m.t, hs.and, sqOff_sqOff]
  constructor
  · rintro ⟨⟨⟨r1, r2, ⟨⟨h1, hX⟩, hN⟩, hR⟩, ho⟩, hf, hp⟩
    exact ⟨⟨⟨⟨r1, r2, ⟨h1, hN⟩, hR⟩, ho⟩, hf, hp⟩, by rw [hf]; exact hX⟩
  · rintro ⟨⟨⟨⟨r1, r2, ⟨h1, hN⟩, hR⟩, ho⟩, hf, hp⟩, hX⟩
    exact ⟨⟨⟨r1, r2, ⟨⟨h1, by rw [← hf]; exact hX⟩, hN⟩, hR⟩, ho⟩, hf, hp⟩

/-! ## pushes stay on the file, captures change it -/

theorem file_of_shift {sh : BB → BB} {d : Int} (hs : Shift sh d) (w : Bool) (a N : BB) (m : Mv)
    (h : m ∈ addPawnMovesByMask w (sh a &&& N) d true) : (m.f.x = m.t.x ↔ d % 8 = 0) := by
  rw [mem_addPawn, tst_and, Bool.and_eq_true] at h
  have := hs.src h.1.1 h.2.1
  unfold Sq.x; omega

theorem dbl_file {sh : BB → BB} {d : Int} (hs : Shift sh d) (hd : d % 8 = 0) (a N R : BB) (m : Mv)
    (h : m ∈ addPawnDoubleMovesByMask (sh (sh a &&& N &&& R) &&& N) (d + d)) : m.f.x = m.t.x ∧ m.promo = 0 := by
  simp only [mem_addPawnDouble, tst_and, Bool.and_eq_true, hs _ m.t, hs _ (sqOff m.t d), sqOff_sqOff] at h
  obtain ⟨⟨⟨r1, r2, ⟨⟨q1, q2, _⟩, _⟩, _⟩, _⟩, hf, hp⟩ := h
  have hq := sqOff_val m.t d ⟨r1, r2⟩
  have := sqOff_val m.t (d + d) (by omega)
  refine ⟨?_, hp⟩
  rw [hf]; unfold Sq.x; omega

theorem cc_pawn_logic (L1 L2 L3 L4 Q PA NPA PK X : Prop) (hn : NPA ↔ ¬ PA)
    (f1 : L1 → ¬ X) (f2 : L2 → ¬ X ∧ Q) (f3 : L3 → X) (f4 : L4 → X) :
    ((((((L3 ∧ Q) ∨ (L4 ∧ Q)) ∨ ((L1 ∧ PA) ∧ Q)) ∨ (L2 ∧ PA)) ∨ (((L1 ∧ NPA) ∧ PK) ∧ Q)) ∨ ((L2 ∧ NPA) ∧ PK)) ↔
      ((((L1 ∨ L2) ∨ L3) ∨ L4) ∧ Q ∧ (X ∨ PA ∨ PK)) := by
  constructor
  · rintro (((((⟨h, q⟩ | ⟨h, q⟩) | ⟨⟨h, a⟩, q⟩) | ⟨h, a⟩) | ⟨⟨⟨h, _⟩, e⟩, q⟩) | ⟨⟨h, _⟩, e⟩)
    · exact ⟨Or.inl (Or.inr h), q, Or.inl (f3 h)⟩
    · exact ⟨Or.inr h, q, Or.inl (f4 h)⟩
    · exact ⟨Or.inl (Or.inl (Or.inl h)), q, Or.inr (Or.inl a)⟩
    · exact ⟨Or.inl (Or.inl (Or.inr h)), (f2 h).2, Or.inr (Or.inl a)⟩
    · exact ⟨Or.inl (Or.inl (Or.inl h)), q, Or.inr (Or.inr e)⟩
    · exact ⟨Or.inl (Or.inl (Or.inr h)), (f2 h).2, Or.inr (Or.inr e)⟩
  · rintro ⟨((h | h) | h) | h, q, e⟩
    · by_cases a : PA
      · exact Or.inl (Or.inl (Or.inl (Or.inr ⟨⟨h, a⟩, q⟩)))
      · rcases e with e | e | e
        · exact absurd e (f1 h)
        · exact absurd e a
        · exact Or.inl (Or.inr ⟨⟨⟨h, hn.2 a⟩, e⟩, q⟩)
    · by_cases a : PA
      · exact Or.inl (Or.inl (Or.inr ⟨h, a⟩))
      · rcases e with e | e | e
        · exact absurd e (f2 h).1
        · exact absurd e a
        · exact Or.inr ⟨⟨h, hn.2 a⟩, e⟩
    · exact Or.inl (Or.inl (Or.inl (Or.inl (Or.inl ⟨h, q⟩))))
    · exact Or.inl (Or.inl (Or.inl (Or.inl (Or.inr ⟨h, q⟩))))

theorem tst_not_true (a : BB) (s : Sq) : tst (~~~a) s = true ↔ ¬ tst a s = true := by
  rw [tst_not]; cases tst a s <;> simp

theorem qn_of_promo0 (m : Mv) (h : m.promo = 0) : qnPromo m = true := by unfold qnPromo; rw [h]; rfl

/-- `shA`, `shB`, `sh`: the shifts of the two captures and of the push; `PA` = `discovered | maskRow7/2`; `K` = squares
    from which a pawn attacks the king; `R` = rank of a double step's middle square -/
theorem mem_ccPawn_sh {shA shB sh : BB → BB} {dA dB d d2 : Int} (hA : Shift shA dA) (hB : Shift shB dB) (hs : Shift sh d)
    (eA : dA % 8 ≠ 0) (eB : dB % 8 ≠ 0) (e8 : d % 8 = 0) (e2 : d2 = d + d) (w : Bool) (pawns occ capT PA K R FA FB : BB)
    (m : Mv) :
    m ∈ addPawnMovesQN w (shA pawns &&& FA &&& capT) dA ++ addPawnMovesQN w (shB pawns &&& FB &&& capT) dB ++
        addPawnMovesQN w (sh (pawns &&& PA) &&& ~~~occ) d ++
        addPawnDoubleMovesByMask (sh (sh (pawns &&& PA) &&& ~~~occ &&& R) &&& ~~~occ) d2 ++
        addPawnMovesQN w (sh (pawns &&& ~~~PA) &&& ~~~occ &&& K) d ++
        addPawnDoubleMovesByMask (sh (sh (pawns &&& ~~~PA) &&& ~~~occ &&& R) &&& ~~~occ &&& K) d2 ↔
      (m ∈ addPawnMovesByMask w (sh pawns &&& ~~~occ) d true ++
          addPawnDoubleMovesByMask (sh (sh pawns &&& ~~~occ &&& R) &&& ~~~occ) d2 ++
          addPawnMovesByMask w (shA pawns &&& FA &&& capT) dA true ++ addPawnMovesByMask w (shB pawns &&& FB &&& capT) dB true) ∧
        qnPromo m = true ∧ (m.f.x ≠ m.t.x ∨ tst PA m.f = true ∨ tst K m.t = true) := by
  subst e2
  simp only [List.mem_append, mem_QN_iff, mem_addPawn_and w (sh (pawns &&& ~~~PA) &&& ~~~occ) K, mem_addPawn_sh hs,
    mem_addPawnDouble_and (sh (sh (pawns &&& ~~~PA) &&& ~~~occ &&& R) &&& ~~~occ) K, mem_dbl_sh hs]
  have f2 := dbl_file hs e8 pawns (~~~occ) R m
  exact cc_pawn_logic _ _ _ _ _ _ _ _ _ (tst_not_true PA m.f)
    (fun h e => e ((file_of_shift hs w pawns _ m h).2 e8)) (fun h => ⟨fun e => e (f2 h).1, qn_of_promo0 m (f2 h).2⟩)
    (fun h e => eA ((file_of_shift hA w pawns (FA &&& capT) m (by rwa [BitVec.and_assoc] at h)).1 e))
    (fun h e => eB ((file_of_shift hB w pawns (FB &&& capT) m (by rwa [BitVec.and_assoc] at h)).1 e))

theorem mem_ccPawn_white (p : Pos) (ok : Sq) (D : BB) (hw : p.wtm = true) (m : Mv) :
    m ∈ ccPawnMoves p ok D ↔
      (m ∈ pawnMoves p ∧ qnPromo m = true ∧
        (m.f.x ≠ m.t.x ∨ tst (D ||| maskRow7) m.f = true ∨ tst (bPawnAttacks ok) m.t = true)) := by
  unfold ccPawnMoves pawnMoves
  simp only [hw, if_true]
  exact mem_ccPawn_sh (shift_shl 7 (-7) rfl) (shift_shl 9 (-9) rfl) (shift_shl 8 (-8) rfl) (by decide) (by decide) rfl rfl
    true (pcBB p.b (pc true 6)) (occBB p.b) (colorBB p.b (!true) ||| epMask p) (D ||| maskRow7) (bPawnAttacks ok) maskRow3
    maskAToGFiles maskBToHFiles m

theorem mem_ccPawn_black (p : Pos) (ok : Sq) (D : BB) (hw : p.wtm = false) (m : Mv) :
    m ∈ ccPawnMoves p ok D ↔
      (m ∈ pawnMoves p ∧ qnPromo m = true ∧
        (m.f.x ≠ m.t.x ∨ tst (D ||| maskRow2) m.f = true ∨ tst (wPawnAttacks ok) m.t = true)) := by
  unfold ccPawnMoves pawnMoves
  simp only [hw, Bool.false_eq_true, if_false]
  exact mem_ccPawn_sh (shift_shr 9 9 rfl) (shift_shr 7 7 rfl) (shift_shr 8 8 rfl) (by decide) (by decide) rfl rfl
    false (pcBB p.b (pc false 6)) (occBB p.b) (colorBB p.b (!false) ||| epMask p) (D ||| maskRow2) (wPawnAttacks ok) maskRow6
    maskAToGFiles maskBToHFiles m

end Chess.Texel
