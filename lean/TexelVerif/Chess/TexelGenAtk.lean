import TexelVerif.Chess.TexelGenRay
/-!
`MoveGen::sqAttacked` against the specification's `attackedBy`, in a form general enough for every use in
`isLegal` / `removeIllegal` / `pseudoLegalMoves`: the piece bitboards are read from a board `b`, the occupancy
is an arbitrary bitboard `occ`, and the claim is about a board `b'` that agrees with them away from the
target square (`sqAttacked_eq`).  Instances: `b' = b` (`sqAttacked_spec`, `inCheck_eq`) and the king move with
the king lifted off its square.
-/
namespace Chess.Texel
open PosImpl (BB)

theorem step_inj (x y dx dy : Int) (hd : IsDir dx dy) (j k : Nat) (q : Sq)
    (h1 : stepSq x y dx dy j = some q) (h2 : stepSq x y dx dy k = some q) : j = k := by
  rw [stepSq_eq_some] at h1 h2
  rcases hd.2.2.2.2 with a | a
  · exact Int.ofNat_inj.1 (Int.eq_of_mul_eq_mul_right a (by omega))
  · exact Int.ofNat_inj.1 (Int.eq_of_mul_eq_mul_right a (by omega))

theorem stepSq_zero (s : Sq) (dx dy : Int) : stepSq s.x s.y dx dy 0 = some s := by
  unfold stepSq; simp [mkSq?_xy]

theorem stepSq_rev (s t : Sq) (dx dy : Int) (k j : Nat) (hj : j ≤ k) (h : stepSq s.x s.y dx dy k = some t) :
    stepSq t.x t.y (-dx) (-dy) j = stepSq s.x s.y dx dy (k - j) := by
  rw [stepSq_eq_some] at h
  unfold stepSq
  rw [h.1, h.2, Int.natCast_sub hj, Int.sub_mul, Int.sub_mul, Int.mul_neg, Int.mul_neg]
  congr 1 <;> omega

theorem reachN_rev (emp : Sq → Bool) (s t : Sq) (dx dy : Int) (k : Nat) (h : ReachN emp s.x s.y dx dy k t) :
    ReachN emp t.x t.y (-dx) (-dy) k s := by
  obtain ⟨h1, h2, h3⟩ := h
  refine ⟨h1, ?_, ?_⟩
  · rw [stepSq_rev s t dx dy k k (Nat.le_refl _) h2, Nat.sub_self, stepSq_zero]
  · intro j hj1 hjk
    rw [stepSq_rev s t dx dy k j (by omega) h2]
    exact h3 (k - j) (by omega) (by omega)

theorem isDir_neg {dx dy : Int} (h : IsDir dx dy) : IsDir (-dx) (-dy) := by unfold IsDir at *; omega

/-- changing the emptiness predicate on the squares strictly inside the segment -/
theorem reachN_congr (emp emp' : Sq → Bool) (x y dx dy : Int) (k : Nat) (t : Sq) (h : ReachN emp x y dx dy k t)
    (hh : ∀ j q, 1 ≤ j → j < k → stepSq x y dx dy j = some q → emp q = true → emp' q = true) :
    ReachN emp' x y dx dy k t := by
  obtain ⟨h1, h2, h3⟩ := h
  refine ⟨h1, h2, ?_⟩
  intro j hj1 hjk
  obtain ⟨q, hq, he⟩ := h3 j hj1 hjk
  exact ⟨q, hq, hh j q hj1 hjk hq he⟩

/-- the squares strictly inside a segment differ from its end point -/
theorem reachN_inner_ne (emp : Sq → Bool) (s t : Sq) (dx dy : Int) (hd : IsDir dx dy) (k j : Nat) (q : Sq)
    (h : ReachN emp s.x s.y dx dy k t) (hjk : j < k) (hq : stepSq s.x s.y dx dy j = some q) : q ≠ t := by
  intro e; subst e
  have := step_inj _ _ _ _ hd j k q hq h.2.1
  omega

/-- the spec's "`s` reaches `t` along d over board `b'`" is the generator's "`s` is seen from `t` along -d over `occ`",
    whenever `occ` is the occupancy of `b'` away from `t` -/
theorem rayReach_rev (b' : Board) (occ : BB) (s t : Sq) (dx dy : Int) (hd : IsDir dx dy)
    (H1 : ∀ q, q ≠ t → tst occ q = (b'[q] != 0)) :
    rayReach b' s t dx dy = tst (ray occ t (-dx) (-dy)) s := by
  rw [Bool.eq_iff_iff, rayReach_iff _ _ _ _ _ hd, tst_ray_iff _ _ _ _ _ (isDir_neg hd)]
  constructor
  · rintro ⟨k, h⟩
    refine ⟨k, reachN_rev _ s t dx dy k (reachN_congr _ _ _ _ _ _ _ _ h ?_)⟩
    intro j q hj1 hjk hq he
    have hne := reachN_inner_ne _ s t dx dy hd k j q h hjk hq
    rw [H1 q hne]; simpa using he
  · rintro ⟨k, h⟩
    have h' := reachN_rev _ t s (-dx) (-dy) k h
    rw [Int.neg_neg, Int.neg_neg] at h'
    refine ⟨k, reachN_congr _ _ _ _ _ _ _ _ h' ?_⟩
    intro j q hj1 hjk hq he
    have hne := reachN_inner_ne _ s t dx dy hd k j q h' hjk hq
    rw [H1 q hne] at he; simpa using he

/-- a piece of side `o` is `pc o j` for a kind `j` in 1..6 -/
theorem own_pc (o : Bool) (p : Pc) (h : own o p = true) : ∃ j : Fin 7, 1 ≤ j.val ∧ p = pc o (UInt8.ofNat j.val) := by
  have : ∀ o, ∀ x ∈ ownCodes o, ∃ j : Fin 7, 1 ≤ j.val ∧ x = pc o (UInt8.ofNat j.val) := by decide
  exact this o p (own_mem o p h)

theorem kind_pc_fin : ∀ (w : Bool) (k : Fin 7), 1 ≤ k.val →
    kind (pc w (UInt8.ofNat k.val)) = UInt8.ofNat k.val ∧ own w (pc w (UInt8.ofNat k.val)) = true := by decide

theorem pc_inj_fin : ∀ (o : Bool) (j k : Fin 7),
    (pc o (UInt8.ofNat j.val) == pc o (UInt8.ofNat k.val)) = (UInt8.ofNat j.val == UInt8.ofNat k.val) := by decide

theorem beq_pc (o : Bool) (p : Pc) (k : Fin 7) (hk : 1 ≤ k.val) :
    (p == pc o (UInt8.ofNat k.val)) = (own o p && kind p == UInt8.ofNat k.val) := by
  cases h : own o p
  · apply beq_eq_false_iff_ne.2
    intro e
    rw [e, (kind_pc_fin o k hk).2] at h
    cases h
  · obtain ⟨j, hj, rfl⟩ := own_pc o p h
    rw [(kind_pc_fin o j hj).1]
    exact pc_inj_fin o j k

theorem beq_pc1 (o : Bool) (p : Pc) : (p == pc o 1) = (own o p && kind p == 1) := beq_pc o p ⟨1, by decide⟩ (by decide)
theorem beq_pc2 (o : Bool) (p : Pc) : (p == pc o 2) = (own o p && kind p == 2) := beq_pc o p ⟨2, by decide⟩ (by decide)
theorem beq_pc3 (o : Bool) (p : Pc) : (p == pc o 3) = (own o p && kind p == 3) := beq_pc o p ⟨3, by decide⟩ (by decide)
theorem beq_pc4 (o : Bool) (p : Pc) : (p == pc o 4) = (own o p && kind p == 4) := beq_pc o p ⟨4, by decide⟩ (by decide)
theorem beq_pc5 (o : Bool) (p : Pc) : (p == pc o 5) = (own o p && kind p == 5) := beq_pc o p ⟨5, by decide⟩ (by decide)
theorem beq_pc6 (o : Bool) (p : Pc) : (p == pc o 6) = (own o p && kind p == 6) := beq_pc o p ⟨6, by decide⟩ (by decide)

theorem isWhite_pc_fin : ∀ (o : Bool) (j : Fin 7), 1 ≤ j.val → isWhite (pc o (UInt8.ofNat j.val)) = o := by decide

theorem isWhite_of_own (o : Bool) (p : Pc) (h : own o p = true) : isWhite p = o := by
  obtain ⟨j, hj, rfl⟩ := own_pc o p h
  exact isWhite_pc_fin o j hj

theorem tst_pcBB (b : Board) (p : Pc) (s : Sq) : tst (pcBB b p) s = (b[s] == p) := tst_bbSq _ _

theorem dxy_swap (s t : Sq) : dxy t s = (-(dxy s t).1, -(dxy s t).2) := by
  unfold dxy; ext <;> simp only <;> omega

theorem kingGeom_swap (s t : Sq) : kingGeom t s = kingGeom s t := by
  unfold kingGeom; rw [dxy_swap s t]
  have hz : ∀ a : Int, (-a == 0) = (a == 0) := fun a => by rw [Bool.eq_iff_iff]; simp
  simp only [Int.natAbs_neg, hz]

theorem knightGeom_swap (s t : Sq) : knightGeom t s = knightGeom s t := by
  unfold knightGeom; rw [dxy_swap s t]
  simp only [Int.natAbs_neg]

theorem pawnGeom_swap (w : Bool) (s t : Sq) : pawnGeom (!w) t s = pawnGeom w s t := by
  unfold pawnGeom; rw [dxy_swap s t]
  simp only [Int.natAbs_neg]
  cases w <;> simp only [Bool.not_true, Bool.not_false, if_true, if_false, Bool.false_eq_true] <;> congr 1 <;>
    rw [Bool.eq_iff_iff] <;> simp only [beq_iff_eq] <;> omega

/-- piece `p` standing on `s` attacks `t`, read off the generator's attack sets *of the target square* -/
def atkFrom (p : Pc) (occ : BB) (s t : Sq) : Bool :=
  match kind p with
  | 1 => kingGeom t s
  | 5 => knightGeom t s
  | 6 => pawnGeom (!isWhite p) t s
  | 3 => tst (rookAttacks t occ) s
  | 4 => tst (bishopAttacks t occ) s
  | 2 => tst (rookAttacks t occ) s || tst (bishopAttacks t occ) s
  | _ => false

theorem not_tst_ray_self (occ : BB) (t : Sq) (dx dy : Int) (hd : IsDir dx dy) : tst (ray occ t dx dy) t = false := by
  apply Bool.eq_false_iff.2
  intro h
  rw [tst_ray_iff _ _ _ _ _ hd] at h
  obtain ⟨k, h1, h2, _⟩ := h
  have := step_inj _ _ _ _ hd k 0 t h2 (stepSq_zero t dx dy)
  omega

theorem not_tst_rook_self (occ : BB) (t : Sq) : tst (rookAttacks t occ) t = false := by
  obtain ⟨d1, d2, d3, d4⟩ := isDir_rook
  simp [rookAttacks, not_tst_ray_self, d1, d2, d3, d4]

theorem not_tst_bishop_self (occ : BB) (t : Sq) : tst (bishopAttacks t occ) t = false := by
  obtain ⟨d1, d2, d3, d4⟩ := isDir_bishop
  simp [bishopAttacks, not_tst_ray_self, d1, d2, d3, d4]

theorem dxy_self (t : Sq) : dxy t t = (0, 0) := by unfold dxy; ext <;> simp

theorem atkFrom_self (p : Pc) (occ : BB) (t : Sq) : atkFrom p occ t t = false := by
  unfold atkFrom
  split <;> simp [kingGeom, knightGeom, pawnGeom, dxy_self, not_tst_rook_self, not_tst_bishop_self]

theorem isDir_rookDirs : ∀ dd ∈ rookDirs, IsDir dd.1 dd.2 := by unfold IsDir; decide
theorem isDir_bishDirs : ∀ dd ∈ bishDirs, IsDir dd.1 dd.2 := by unfold IsDir; decide

/-- over a set of directions closed under reversal, "some ray from `s` reaches `t`" is "`s` is seen from `t` along some ray" -/
theorem any_rayReach_rev (b' : Board) (occ : BB) (s t : Sq) (H1 : ∀ q, q ≠ t → tst occ q = (b'[q] != 0))
    (dirs : List (Int × Int)) (hd : ∀ d ∈ dirs, IsDir d.1 d.2) (hp : (dirs.map fun d => (-d.1, -d.2)).Perm dirs) :
    (dirs.any fun d => rayReach b' s t d.1 d.2) = dirs.any fun d => tst (ray occ t d.1 d.2) s := by
  rw [← hp.any_eq (f := fun d => tst (ray occ t d.1 d.2) s), List.any_map, Bool.eq_iff_iff, List.any_eq_true, List.any_eq_true]
  exact exists_congr fun d => and_congr_right fun hm => by rw [rayReach_rev b' occ s t d.1 d.2 (hd d hm) H1]; rfl

/-- the specification's `attacks` over `b'` is `atkFrom` over any occupancy that is `b'`'s away from the target -/
theorem attacks_eq_atkFrom (b' : Board) (occ : BB) (s t : Sq) (H1 : ∀ q, q ≠ t → tst occ q = (b'[q] != 0)) :
    attacks b' s t = atkFrom b'[s] occ s t := by
  have hr : (rookDirs.any fun dd => rayReach b' s t dd.1 dd.2) = tst (rookAttacks t occ) s := by
    rw [any_rayReach_rev b' occ s t H1 rookDirs isDir_rookDirs (by decide)]
    simp only [rookDirs, List.any_cons, List.any_nil, Bool.or_false, rookAttacks, tst_or, Bool.or_assoc]
  have hb : (bishDirs.any fun dd => rayReach b' s t dd.1 dd.2) = tst (bishopAttacks t occ) s := by
    rw [any_rayReach_rev b' occ s t H1 bishDirs isDir_bishDirs (by decide)]
    simp only [bishDirs, List.any_cons, List.any_nil, Bool.or_false, bishopAttacks, tst_or, Bool.or_assoc]
  unfold attacks atkFrom
  simp only
  generalize kind b'[s] = kd
  split
  · rw [kingGeom_swap]; rfl
  · rw [knightGeom_swap]; rfl
  · rw [pawnGeom_swap]; rfl
  · exact hr
  · exact hb
  · rw [dirs8, List.any_append, hr, hb]; rfl
  · split <;> simp_all

theorem pawnAtk_eq (w : Bool) (t : Sq) : (if w then wPawnAttacks t else bPawnAttacks t) = bbSq (pawnGeom w t) := by
  cases w
  · exact if_neg Bool.false_ne_true
  · exact if_pos rfl

/-- `sqAttacked` unfolded: some enemy piece of `b` attacks `t` according to the attack sets of `t` over `occ` -/
theorem sqAttacked_iff (b : Board) (w : Bool) (t : Sq) (occ : BB) :
    sqAttacked b w t occ = true ↔ ∃ s, own (!w) b[s] = true ∧ atkFrom b[s] occ s t = true := by
  unfold sqAttacked
  simp only [Bool.or_eq_true, bb_ne_zero_iff, tst_and, tst_or, tst_pcBB, pawnAtk_eq, knightAttacks, kingAttacks, tst_bbSq,
    beq_pc1, beq_pc2, beq_pc3, beq_pc4, beq_pc5, beq_pc6, Bool.and_eq_true, beq_iff_eq]
  constructor
  -- the five masks in the order of `sqAttacked`: knight, king, pawn, bishop | queen, rook | queen; `h1` mask, `h2` side, `h3` kind
  · rintro ((((⟨s, h1, h2, h3⟩ | ⟨s, h1, h2, h3⟩) | ⟨s, h1, h2, h3⟩) | ⟨s, h1, (⟨h2, h3⟩ | ⟨h2, h3⟩)⟩) | ⟨s, h1, (⟨h2, h3⟩ | ⟨h2, h3⟩)⟩) <;>
      refine ⟨s, h2, ?_⟩ <;> unfold atkFrom <;> rw [h3]
    · exact h1
    · exact h1
    · simp only; rw [isWhite_of_own _ _ h2, Bool.not_not]; exact h1
    · exact h1
    · simp only; rw [h1]; simp
    · exact h1
    · simp only; rw [h1]; rfl
  · rintro ⟨s, h2, h⟩
    unfold atkFrom at h
    split at h
    · rename_i hk; exact Or.inl (Or.inl (Or.inl (Or.inr ⟨s, h, h2, hk⟩)))
    · rename_i hk; exact Or.inl (Or.inl (Or.inl (Or.inl ⟨s, h, h2, hk⟩)))
    · rename_i hk
      rw [isWhite_of_own _ _ h2, Bool.not_not] at h
      exact Or.inl (Or.inl (Or.inr ⟨s, h, h2, hk⟩))
    · rename_i hk; exact Or.inr ⟨s, h, Or.inl ⟨h2, hk⟩⟩
    · rename_i hk; exact Or.inl (Or.inr ⟨s, h, Or.inl ⟨h2, hk⟩⟩)
    · rename_i hk
      rcases Bool.or_eq_true _ _ ▸ h with h | h
      · exact Or.inr ⟨s, h, Or.inr ⟨h2, hk⟩⟩
      · exact Or.inl (Or.inr ⟨s, h, Or.inr ⟨h2, hk⟩⟩)
    · cases h

theorem attackedBy_iff (b : Board) (o : Bool) (t : Sq) :
    attackedBy b o t = true ↔ ∃ s, own o b[s] = true ∧ attacks b s t = true := by
  simp [attackedBy, allSq]

/-- **`sqAttacked` against the specification.**  Piece bitboards from `b`, occupancy `occ`; `b'` is any board whose
    occupancy away from `t` is `occ` and whose pieces of the attacking side away from `t` are those of `b`. -/
theorem sqAttacked_eq (b b' : Board) (w : Bool) (t : Sq) (occ : BB)
    (H1 : ∀ q, q ≠ t → tst occ q = (b'[q] != 0))
    (H2 : ∀ s, s ≠ t → (own (!w) b[s] = true ∨ own (!w) b'[s] = true) → b'[s] = b[s]) :
    sqAttacked b w t occ = attackedBy b' (!w) t := by
  rw [Bool.eq_iff_iff, sqAttacked_iff, attackedBy_iff]
  constructor
  · rintro ⟨s, h1, h2⟩
    have hne : s ≠ t := by intro e; subst e; rw [atkFrom_self] at h2; cases h2
    have e := H2 s hne (Or.inl h1)
    exact ⟨s, by rw [e]; exact h1, by rw [attacks_eq_atkFrom b' occ s t H1, e]; exact h2⟩
  · rintro ⟨s, h1, h2⟩
    rw [attacks_eq_atkFrom b' occ s t H1] at h2
    have hne : s ≠ t := by intro e; subst e; rw [atkFrom_self] at h2; cases h2
    have e := H2 s hne (Or.inr h1)
    exact ⟨s, by rw [← e]; exact h1, by rw [← e]; exact h2⟩

/-- every square holds one of the codes 0..12 (`Piece::EMPTY` … `Piece::BPAWN`) -/
def ValidB (b : Board) : Prop := ∀ s : Sq, b[s] ≤ 12

set_option maxRecDepth 100000 in
theorem occ_code_fin : ∀ (n : Fin 256), UInt8.ofNat n.val ≤ 12 →
    (own true (UInt8.ofNat n.val) || own false (UInt8.ofNat n.val)) = (UInt8.ofNat n.val != 0) := by
  decide +kernel

theorem tst_occBB (b : Board) (hv : ValidB b) (q : Sq) : tst (occBB b) q = (b[q] != 0) := by
  unfold occBB colorBB
  rw [tst_or, tst_bbSq, tst_bbSq]
  have := occ_code_fin ⟨b[q].toNat, b[q].toNat_lt⟩
  simp only [UInt8.ofNat_toNat] at this
  exact this (hv q)

/-- `MoveGen::sqAttacked(pos, sq)` is the specification's `attackedBy` -/
theorem sqAttacked_spec (b : Board) (hv : ValidB b) (w : Bool) (t : Sq) :
    sqAttacked b w t (occBB b) = attackedBy b (!w) t :=
  sqAttacked_eq b b w t (occBB b) (fun q _ => tst_occBB b hv q) (fun _ _ _ => rfl)

/-- `MoveGen::inCheck` is the specification's `inCheck` -/
theorem inCheck_eq (b : Board) (hv : ValidB b) (w : Bool) : inCheck b w = Chess.inCheck b w := by
  unfold inCheck Chess.inCheck inCheckK
  cases kingSq b w with
  | none => rfl
  | some k => exact sqAttacked_spec b hv w k

end Chess.Texel
