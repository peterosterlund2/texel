import TexelVerif.Chess.TexelGenCC3
import TexelVerif.Chess.TexelGenGivesCastle
/-!
`cc_complete`: `MoveGen::pseudoLegalCapturesAndChecks` omits no pseudo-legal move of its class — captures (en passant
included), promotions, and moves that give check (decided through `givesCheck_eq`); promotion piece queen or knight.
-/
namespace Chess.Texel
open PosImpl (BB getP getP_eq)

theorem tst_maskRow7 : ∀ t : Sq, tst maskRow7 t = decide (t.val / 8 = 6) := by decide +kernel
theorem tst_maskRow2 : ∀ t : Sq, tst maskRow2 t = decide (t.val / 8 = 1) := by decide +kernel

theorem pawn_capture_diag (p : Pos) (m : Mv) (hp : pseudo p m = true) (h6 : kind p.b[m.f] = 6) (hne : p.b[m.t] ≠ 0) :
    m.f.x ≠ m.t.x := by
  unfold pseudo at hp
  simp only [Pos.at, h6, Bool.and_eq_true, Bool.or_eq_true, beq_iff_eq, bne_iff_ne, ne_eq, dxy] at hp
  obtain ⟨_, _, hmv⟩ := hp
  rcases hmv with (⟨_, h0⟩ | ⟨⟨_, h0⟩, _⟩) | ⟨⟨a, _⟩, _⟩
  · exact absurd h0 hne
  · exact absurd h0 hne
  · omega

theorem promo_row (p : Pos) (m : Mv) (hp : pseudo p m = true) (h0 : m.promo ≠ 0) :
    tst (if p.wtm then maskRow7 else maskRow2) m.f = true := by
  have h6 := (promo_kind p m hp h0).2.2
  unfold pseudo at hp
  simp only [Pos.at, h6, Bool.and_eq_true, Bool.or_eq_true, beq_iff_eq, bne_iff_ne, ne_eq, dxy, decide_eq_true_eq] at hp
  obtain ⟨_, hpr, hmv⟩ := hp
  unfold promoOk at hpr
  have hfy := Sq.y_lt m.f; have hty := Sq.y_lt m.t
  cases hw : p.wtm
  · rw [hw] at hpr hmv
    simp only [Bool.false_eq_true, if_false] at hpr hmv ⊢
    have ht0 : m.t.y = 0 := by
      apply Classical.byContradiction
      intro hn
      have : (m.t.y == 0) = false := by simpa using hn
      rw [this] at hpr
      simp only [Bool.false_eq_true, if_false, beq_iff_eq] at hpr
      exact h0 hpr
    rw [tst_maskRow2]
    simp only [decide_eq_true_eq]
    show m.f.y = 1
    rcases hmv with (⟨⟨_, a⟩, _⟩ | ⟨⟨⟨⟨_, a⟩, c⟩, _⟩, _⟩) | ⟨⟨_, a⟩, _⟩ <;> omega
  · rw [hw] at hpr hmv
    simp only [if_true] at hpr hmv ⊢
    have ht7 : m.t.y = 7 := by
      apply Classical.byContradiction
      intro hn
      have : (m.t.y == 7) = false := by simpa using hn
      rw [this] at hpr
      simp only [Bool.false_eq_true, if_false, beq_iff_eq] at hpr
      exact h0 hpr
    rw [tst_maskRow7]
    simp only [decide_eq_true_eq]
    show m.f.y = 6
    rcases hmv with (⟨⟨_, a⟩, _⟩ | ⟨⟨⟨⟨_, a⟩, c⟩, _⟩, _⟩) | ⟨⟨_, a⟩, _⟩ <;> omega

/-- why a move is in the class, read off the board before the move (`givesCheck_eq` turns "gives check" into the blocks) -/
theorem cc_reasons (p : Pos) (ok : Sq) (H : GcWF p ok) (m : Mv) (hp : pseudo p m = true)
    (hkk : kind p.b[m.f] = 1 → kingGeom ok m.t = false)
    (hc : isCaptureMv p m = true ∨ m.promo ≠ 0 ∨ givesCheckSpec p m = true) :
    (tst (ccDiscovered p.b p.wtm ok) m.f = true ∨ own (!p.wtm) p.b[m.t] = true) ∨ m.promo ≠ 0 ∨
    (kind p.b[m.f] = 6 ∧ m.f.x ≠ m.t.x) ∨ gcDirect p.b p.wtm ok (kind p.b[m.f]) m.t = true ∨
    (kind p.b[m.f] = 1 ∧ (m.t.val = m.f.val + 2 ∨ m.t.val + 2 = m.f.val)) := by
  have hv := H.valid
  have hK := H.oking
  by_cases h0 : m.promo = 0
  · rcases hc with hc | hc | hc
    · unfold isCaptureMv at hc
      simp only [Pos.at, Bool.or_eq_true, Bool.and_eq_true, bne_iff_ne, ne_eq, beq_iff_eq] at hc
      rcases hc with hc | ⟨⟨a, _⟩, c⟩
      · exact Or.inl (Or.inr (enemy_of_capture p hv m hp hc))
      · exact Or.inr (Or.inr (Or.inl ⟨a, c⟩))
    · exact absurd h0 hc
    · rw [← givesCheck_eq p ok H m hp hkk, givesCheck_split, movedKind_of_promo0 p m h0] at hc
      simp only [Bool.or_eq_true] at hc
      rcases hc with ((hc | hc) | hc) | hc
      · exact Or.inr (Or.inr (Or.inr (Or.inl hc)))
      · exact Or.inl (Or.inl (disc_mem p.b hv p.wtm ok hK m.f m.t hc))
      · exact absurd h0 ((gcPromo_iff _ _ _ hK _ _ _ _).1 hc).1
      · by_cases hk1 : kind p.b[m.f] = 1
        · rw [hk1] at hc
          simp only [beq_self_eq_true, if_true] at hc
          refine Or.inr (Or.inr (Or.inr (Or.inr ⟨hk1, ?_⟩)))
          apply Classical.byContradiction
          intro hn
          rw [gcCastle_none _ _ _ _ (fun e => hn (Or.inl e)) (fun e => hn (Or.inr e))] at hc
          cases hc
        · rw [if_neg (by simpa using hk1)] at hc
          by_cases hk6 : kind p.b[m.f] = 6
          · rw [hk6] at hc
            simp only [beq_self_eq_true, if_true] at hc
            refine Or.inr (Or.inr (Or.inl ⟨hk6, ?_⟩))
            intro e
            rw [gcEp_off _ _ _ _ _ (Or.inr e.symm)] at hc
            cases hc
          · rw [if_neg (by simpa using hk6)] at hc; cases hc
  · exact Or.inr (Or.inl h0)

/-- **completeness of `pseudoLegalCapturesAndChecks`**: every pseudo-legal move that captures (en passant included),
    promotes, or gives check is generated, provided its promotion piece (if any) is a queen or a knight -/
theorem cc_complete (p : Pos) (k ok : Sq) (h1 : GenWF p k) (H : GcWF p ok) (m : Mv) (hp : pseudo p m = true)
    (hkk : kind p.b[m.f] = 1 → kingGeom ok m.t = false) (hq : qnPromo m = true)
    (hc : isCaptureMv p m = true ∨ m.promo ≠ 0 ∨ givesCheckSpec p m = true) :
    m ∈ pseudoLegalCapturesAndChecks p k ok := by
  rw [mem_cc_iff p k ok h1]
  refine ⟨hp, ?_⟩
  have hv := H.valid
  have hK := H.oking
  have hown := pseudo_own_f p m hp
  have hcases := cc_reasons p ok H m hp hkk hc
  unfold CCGen
  simp only
  rcases hcases with h | h | ⟨k6, h⟩ | h | ⟨k1, h⟩
  · -- `discovered` or a capture: generated whatever the piece
    have hl : ∀ X : Prop, tst (ccDiscovered p.b p.wtm ok) m.f = true ∨ own (!p.wtm) p.b[m.t] = true ∨ X :=
      fun X => h.elim Or.inl (fun c => Or.inr (Or.inl c))
    rcases kind_of_own _ _ hown with k1 | k2 | k3 | k4 | k5 | k6
    · exact Or.inr (Or.inr (Or.inr (Or.inr (Or.inl ⟨k1, hl _⟩))))
    · exact Or.inl ⟨k2, hl _⟩
    · exact Or.inr (Or.inl ⟨k3, hl _⟩)
    · exact Or.inr (Or.inr (Or.inl ⟨k4, hl _⟩))
    · exact Or.inr (Or.inr (Or.inr (Or.inl ⟨k5, hl _⟩)))
    · refine Or.inr (Or.inr (Or.inr (Or.inr (Or.inr ⟨k6, hq, ?_⟩))))
      rcases h with h | h
      · exact Or.inr (Or.inl (by rw [tst_or, h]; rfl))
      · exact Or.inl (pawn_capture_diag p m hp k6 (own_ne_zero _ _ h))
  · exact Or.inr (Or.inr (Or.inr (Or.inr (Or.inr ⟨(promo_kind p m hp h).2.2, hq,
      Or.inr (Or.inl (by rw [tst_or, promo_row p m hp h]; simp))⟩))))
  · exact Or.inr (Or.inr (Or.inr (Or.inr (Or.inr ⟨k6, hq, Or.inl h⟩))))
  · -- first block: the to-square lies in the king's mask for that kind of piece
    rcases (gcDirect_iff _ _ _ hK _ _).1 h with ⟨hk, dx, dy, n, hd, hs⟩ | ⟨hk, dx, dy, n, hd, hs⟩ | ⟨k6, hg⟩ | ⟨k5, hg⟩
    · have ha := (seg_in_atk p.b hv ok m.t dx dy n hd.isDir hs).1 hd
      rcases hk with k2 | k3
      · exact Or.inl ⟨k2, Or.inr (Or.inr (Or.inl ha))⟩
      · exact Or.inr (Or.inl ⟨k3, Or.inr (Or.inr ha)⟩)
    · have ha := (seg_in_atk p.b hv ok m.t dx dy n hd.isDir hs).2 hd
      rcases hk with k2 | k4
      · exact Or.inl ⟨k2, Or.inr (Or.inr (Or.inr ha))⟩
      · exact Or.inr (Or.inr (Or.inl ⟨k4, Or.inr (Or.inr ha)⟩))
    · refine Or.inr (Or.inr (Or.inr (Or.inr (Or.inr ⟨k6, hq, Or.inr (Or.inr ?_)⟩))))
      cases hw : p.wtm
      · rw [hw] at hg
        simp only [Bool.false_eq_true, if_false]
        rw [wPawnAttacks, tst_bbSq]; exact (pawnGeom_swap false m.t ok).trans hg
      · rw [hw] at hg
        simp only [if_true]
        rw [bPawnAttacks, tst_bbSq]; exact (pawnGeom_swap true m.t ok).trans hg
    · refine Or.inr (Or.inr (Or.inr (Or.inl ⟨k5, Or.inr (Or.inr ?_)⟩)))
      rw [knightAttacks, tst_bbSq, knightGeom_swap]; exact hg
  · exact Or.inr (Or.inr (Or.inr (Or.inr (Or.inl ⟨k1, Or.inr (Or.inr h)⟩))))

end Chess.Texel
