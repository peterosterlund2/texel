import TexelVerif.Chess.GenCheck
/-! Elementary facts about the specification: coordinates, piece codes, the common part of `pseudo`, membership in
    the generated lists and their freedom from duplicates, and the shape of `fixupEP` (`fixupEP_cases`). -/
namespace Chess

theorem Sq.x_lt (s : Sq) : s.x < 8 := Nat.mod_lt _ (by decide)
theorem Sq.y_lt (s : Sq) : s.y < 8 := by unfold Sq.y; omega
theorem Sq.val_eq (s : Sq) : s.val = s.y * 8 + s.x := by unfold Sq.x Sq.y; omega

theorem Sq.ext_xy (s t : Sq) (hx : s.x = t.x) (hy : s.y = t.y) : s = t := by
  apply Fin.ext; rw [Sq.val_eq s, Sq.val_eq t, hx, hy]

theorem mkSq?_eq_some (x y : Int) (q : Sq) : mkSq? x y = some q ↔ ((q.x : Int) = x ∧ (q.y : Int) = y) := by
  unfold mkSq?
  have hx := Sq.x_lt q; have hy := Sq.y_lt q; have hv := Sq.val_eq q
  split
  · rename_i h
    simp only [Option.some.injEq]
    constructor
    · intro e
      have : q.val = (y * 8 + x).toNat := by rw [← e]
      omega
    · intro ⟨e1, e2⟩
      apply Fin.ext
      simp only
      omega
  · rename_i h
    simp only [reduceCtorEq, false_iff]
    omega

theorem mkSq?_xy (s : Sq) : mkSq? s.x s.y = some s := (mkSq?_eq_some _ _ _).2 ⟨rfl, rfl⟩

theorem mkSq?_eq_none (x y : Int) : mkSq? x y = none ↔ ¬ (0 ≤ x ∧ x < 8 ∧ 0 ≤ y ∧ y < 8) := by
  unfold mkSq?; split <;> simp_all

theorem mkSq?_isSome (x y : Int) : (mkSq? x y).isSome = true ↔ (0 ≤ x ∧ x < 8 ∧ 0 ≤ y ∧ y < 8) := by
  unfold mkSq?; split <;> simp_all

/-! ## piece codes

An own piece is one of the 13 codes `0 .. 12` by the bounds in `isWhite` / `isBlack`; what else is needed about piece
codes is checked on those 13 codes (`forall_code`) or on the six of a colour (`own_mem`). -/

theorem own_toNat_le (w : Bool) (pc : Pc) (h : own w pc = true) : pc.toNat ≤ 12 := by
  unfold own isWhite isBlack at h
  cases w <;> simp [UInt8.le_iff_toNat_le] at h <;> omega

theorem forall_code (P : Pc → Prop) (h : ∀ n : Fin 13, P (UInt8.ofNat n.val)) {x : Pc} (hx : x.toNat ≤ 12) : P x := by
  have := h ⟨x.toNat, by omega⟩
  rwa [UInt8.ofNat_toNat] at this

def ownCodes (w : Bool) : List Pc := if w then [1, 2, 3, 4, 5, 6] else [7, 8, 9, 10, 11, 12]

theorem own_mem (w : Bool) (x : Pc) (h : own w x = true) : x ∈ ownCodes w :=
  forall_code (fun x => own w x = true → x ∈ ownCodes w) (by cases w <;> decide) (own_toNat_le w x h) h

theorem own_excl (w : Bool) (x : Pc) (h : own w x = true) : own (!w) x = false := by
  have : ∀ w, ∀ x ∈ ownCodes w, own (!w) x = false := by decide
  exact this w x (own_mem w x h)

theorem own_ne_zero (w : Bool) (x : Pc) (h : own w x = true) : x ≠ 0 := by
  have : ∀ w, ∀ x ∈ ownCodes w, x ≠ 0 := by decide
  exact this w x (own_mem w x h)

theorem own_kind6 (w : Bool) (x : Pc) (ho : own w x = true) (hk : kind x = 6) : x = if w then WPAWN else BPAWN := by
  have : ∀ w, ∀ x ∈ ownCodes w, kind x = 6 → x = if w then WPAWN else BPAWN := by decide
  exact this w x (own_mem w x ho) hk

theorem kind_of_own (w : Bool) (x : Pc) (h : own w x = true) :
    kind x = 1 ∨ kind x = 2 ∨ kind x = 3 ∨ kind x = 4 ∨ kind x = 5 ∨ kind x = 6 := by
  have : ∀ w, ∀ x ∈ ownCodes w, kind x = 1 ∨ kind x = 2 ∨ kind x = 3 ∨ kind x = 4 ∨ kind x = 5 ∨ kind x = 6 := by decide
  exact this w x (own_mem w x h)

theorem enemy_code (w : Bool) (x : Pc) (hv : x ≤ 12) (h0 : x ≠ 0) (ho : own w x = false) : own (!w) x = true :=
  forall_code (fun x => x ≠ 0 → own w x = false → own (!w) x = true) (by cases w <;> decide)
    (UInt8.le_iff_toNat_le.1 hv) h0 ho

theorem promo_mem (w : Bool) (pr : Pc) (h : isPromoPiece w pr = true) : pr ∈ promos w := by
  have ho : own w pr = true := by
    unfold isPromoPiece at h
    exact (Bool.and_eq_true _ _ ▸ h).1
  have : ∀ w, ∀ x ∈ ownCodes w, isPromoPiece w x = true → x ∈ promos w := by decide
  exact this w pr (own_mem w pr ho) h

theorem zero_mem_promos (w : Bool) : (0 : Pc) ∈ promos w := by cases w <;> simp [promos]

theorem promoOk_mem (w : Bool) (m : Mv) (h : promoOk w m = true) : m.promo ∈ promos w := by
  unfold promoOk at h
  by_cases hc : (m.t.y == (if w then 7 else 0)) = true
  · rw [if_pos hc] at h; exact promo_mem _ _ h
  · rw [if_neg hc] at h
    have : m.promo = 0 := by simpa using h
    rw [this]; exact zero_mem_promos _

theorem setSq_get (b : Board) (n : Nat) (v : Pc) (s : Sq) : (setSq b n v)[s] = if n = s.val then v else b[s] := by
  unfold setSq
  simp only [Fin.getElem_fin, Vector.getElem_setIfInBounds]

theorem pseudo_basic (p : Pos) (m : Mv) (h : pseudo p m = true) :
    own p.wtm (p.at m.f) = true ∧ own p.wtm (p.at m.t) = false ∧ m.f ≠ m.t := by
  unfold pseudo at h
  simp only [Bool.and_eq_true, Bool.not_eq_true', bne_iff_ne, ne_eq] at h
  exact ⟨h.1.1.1, h.1.1.2, h.1.2⟩

theorem pseudo_own (p : Pos) (m : Mv) (h : pseudo p m = true) : own p.wtm (p.at m.f) = true := (pseudo_basic p m h).1

theorem pseudo_promo (p : Pos) (m : Mv) (h : pseudo p m = true) : m.promo ∈ promos p.wtm := by
  unfold pseudo at h
  simp only [Bool.and_eq_true] at h
  obtain ⟨_, hk⟩ := h
  split at hk
  · simp only [Bool.and_eq_true] at hk
    exact promoOk_mem _ _ hk.1
  · simp only [Bool.and_eq_true] at hk
    have : m.promo = 0 := by simpa using hk.1
    rw [this]; exact zero_mem_promos _
  · simp only [Bool.and_eq_true] at hk
    have : m.promo = 0 := by simpa using hk.1
    rw [this]; exact zero_mem_promos _

theorem mv_eq_iff (m : Mv) (a b : Sq) (c : Pc) : m = { f := a, t := b, promo := c } ↔ (m.f = a ∧ m.t = b ∧ m.promo = c) := by
  cases m; simp

theorem mem_candidates (p : Pos) (m : Mv) : m ∈ candidates p ↔ (own p.wtm (p.at m.f) = true ∧ m.promo ∈ promos p.wtm) := by
  unfold candidates
  simp only [List.mem_flatMap, List.mem_filter, List.mem_map, allSq, List.mem_finRange, true_and]
  constructor
  · rintro ⟨f, hf, t, pr, hpr, rfl⟩
    exact ⟨hf, hpr⟩
  · rintro ⟨h1, h2⟩
    exact ⟨m.f, h1, m.t, m.promo, h2, rfl⟩

theorem mem_genPseudo (p : Pos) (m : Mv) : m ∈ genPseudo p ↔ pseudo p m = true := by
  unfold genPseudo
  rw [List.mem_filter, mem_candidates]
  constructor
  · exact fun h => h.2
  · exact fun h => ⟨⟨pseudo_own p m h, pseudo_promo p m h⟩, h⟩

theorem legalB_pseudo (p : Pos) (m : Mv) (h : legalB p m = true) : pseudo p m = true := by
  unfold legalB at h; simp only [Bool.and_eq_true] at h; exact h.1

theorem mem_genLegal (p : Pos) (m : Mv) : m ∈ genLegal p ↔ legalB p m = true := by
  unfold genLegal
  rw [List.mem_filter, mem_candidates]
  constructor
  · exact fun h => h.2
  · intro h
    have hp := legalB_pseudo p m h
    exact ⟨⟨pseudo_own p m hp, pseudo_promo p m hp⟩, h⟩

theorem candidates_nodup (p : Pos) : (candidates p).Nodup := by
  unfold candidates
  unfold List.Nodup
  rw [List.pairwise_flatMap]
  constructor
  · intro f _
    rw [List.pairwise_flatMap]
    constructor
    · intro t _
      rw [List.pairwise_map]
      have : (promos p.wtm).Nodup := by unfold promos; cases p.wtm <;> decide
      exact List.Pairwise.imp (fun h hc => h (by simpa using congrArg Mv.promo hc)) this
    · have : (allSq).Nodup := List.nodup_finRange 64
      refine List.Pairwise.imp ?_ this
      intro a b hab x hx y hy hxy
      simp only [List.mem_map] at hx hy
      obtain ⟨_, _, rfl⟩ := hx
      obtain ⟨_, _, rfl⟩ := hy
      exact hab (by simpa using congrArg Mv.t hxy)
  · have : (allSq.filter fun f => own p.wtm (p.at f)).Nodup := List.Pairwise.filter _ (List.nodup_finRange 64)
    refine List.Pairwise.imp ?_ this
    intro a b hab x hx y hy hxy
    simp only [List.mem_flatMap, List.mem_map] at hx hy
    obtain ⟨_, _, _, _, rfl⟩ := hx
    obtain ⟨_, _, _, _, rfl⟩ := hy
    exact hab (by simpa using congrArg Mv.f hxy)

theorem genLegal_nodup (p : Pos) : (genLegal p).Nodup := List.Pairwise.filter _ (candidates_nodup p)

theorem nodupB_iff (l : List Mv) : nodupB l = true ↔ l.Nodup := by
  induction l with
  | nil => simp [nodupB]
  | cons a l ih => simp [nodupB, ih, List.nodup_cons]

/-- `fixupEP` changes at most the e.p. square -/
theorem fixupEP_cases (p : Pos) : fixupEP p = p ∨ fixupEP p = { p with ep := none } := by
  unfold fixupEP
  split
  · exact Or.inl rfl
  · split
    · exact Or.inl rfl
    · exact Or.inr rfl

@[simp] theorem fixupEP_b (p : Pos) : (fixupEP p).b = p.b := by
  rcases fixupEP_cases p with h | h <;> rw [h]
@[simp] theorem fixupEP_wtm (p : Pos) : (fixupEP p).wtm = p.wtm := by
  rcases fixupEP_cases p with h | h <;> rw [h]
@[simp] theorem fixupEP_castle (p : Pos) : (fixupEP p).castle = p.castle := by
  rcases fixupEP_cases p with h | h <;> rw [h]
@[simp] theorem fixupEP_hmc (p : Pos) : (fixupEP p).hmc = p.hmc := by
  rcases fixupEP_cases p with h | h <;> rw [h]
@[simp] theorem fixupEP_fmc (p : Pos) : (fixupEP p).fmc = p.fmc := by
  rcases fixupEP_cases p with h | h <;> rw [h]

end Chess
