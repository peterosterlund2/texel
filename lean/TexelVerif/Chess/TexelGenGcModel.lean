import TexelVerif.Chess.TexelGenGcGeom
/-!
The model of `MoveGen::givesCheck` (`TexelGenMore.lean`) block by block: `givesCheck_split` cuts it into the four
blocks of moveGen.cpp:458-571 (`gcDirect` 463-485, `gcDisc` 486-501, `gcPromo` 502-516, `gcCastle` 517-528, `gcEp`
529-569) and each block gets a characterisation in terms of segments (`Seg`) on the board before the move.
-/
namespace Chess.Texel
open PosImpl (BB getP getP_eq)

def oKingPc (w : Bool) : Pc := if w then BKING else WKING

theorem oKingPc_eq (w : Bool) : oKingPc w = (if (!w) then WKING else BKING) := by cases w <;> rfl
theorem oKingPc_ne_zero (w : Bool) : oKingPc w ≠ 0 := by cases w <;> decide
theorem pc2_ne_zero (w : Bool) : pc w 2 ≠ 0 := by cases w <;> decide
theorem pc3_ne_zero (w : Bool) : pc w 3 ≠ 0 := by cases w <;> decide
theorem pc4_ne_zero (w : Bool) : pc w 4 ≠ 0 := by cases w <;> decide

/-- first `switch` of `givesCheck`: the moved (or promoted-to) piece of white kind `pw` attacks the king from `t` -/
def gcDirect (b : Board) (w : Bool) (ok : Sq) (pw : UInt8) (t : Sq) : Bool :=
  let d1 := direction t ok
  if isRookDelta d1 then (pw == 2 || pw == 3) && nextPiece b t d1 == oKingPc w
  else if isBishDelta d1 then
    (if pw == 2 || pw == 4 then nextPiece b t d1 == oKingPc w
     else if pw == 6 then (decide (d1 > 0) == w) && pieceAtStep b t d1 == oKingPc w
     else false)
  else d1 != 0 && pw == 5

/-- second block: discovered check through the from-square -/
def gcDisc (b : Board) (w : Bool) (ok : Sq) (f t : Sq) : Bool :=
  let d1 := direction t ok
  let d2 := direction f ok
  d2 != 0 && d2 != d1 && nextPiece b f d2 == oKingPc w &&
    (let p2 := nextPiece b f (-d2)
     if isRookDelta d2 then p2 == pc w 2 || p2 == pc w 3
     else if isBishDelta d2 then p2 == pc w 2 || p2 == pc w 4
     else false)

/-- third block: a promoted piece attacks through the vacated from-square -/
def gcPromo (b : Board) (w : Bool) (ok : Sq) (pw : UInt8) (promo : Pc) (f t : Sq) : Bool :=
  let d1 := direction t ok
  let d2 := direction f ok
  promo != 0 && d1 != 0 && d1 == d2 &&
    (if isRookDelta d1 then (pw == 2 || pw == 3) && nextPiece b f d1 == oKingPc w
     else if isBishDelta d1 then (pw == 2 || pw == 4) && nextPiece b f d1 == oKingPc w
     else false)

/-- fourth block, king: the castling rook gives check -/
def gcCastle (b : Board) (w : Bool) (f t : Sq) : Bool :=
  let up : Int := if w then 8 else -8
  if t.val == f.val + 2 then
    nextPiece b f (-1) == oKingPc w || nextPiece b (sqOff f 1) up == oKingPc w
  else if t.val + 2 == f.val then
    nextPiece b f 1 == oKingPc w || nextPiece b (sqOff f (-1)) up == oKingPc w
  else false

/-- fourth block, pawn: en passant uncovers a line through the captured pawn's square -/
def gcEp (b : Board) (w : Bool) (ok : Sq) (f t : Sq) : Bool :=
  if b[t] == 0 && t.x != f.x then
    let dx : Int := (t.x : Int) - f.x
    let epSq := sqOff f dx
    let d3 := direction epSq ok
    if isBishDelta d3 then
      nextPiece b epSq d3 == oKingPc w && (let p2 := nextPiece b epSq (-d3); p2 == pc w 2 || p2 == pc w 4)
    else if d3 == 1 || d3 == -1 then
      let maxS := if epSq.val ≥ f.val then epSq else f
      let minS := if epSq.val ≥ f.val then f else epSq
      if d3 == 1 then
        nextPiece b maxS d3 == oKingPc w && (let p2 := nextPiece b minS (-d3); p2 == pc w 2 || p2 == pc w 3)
      else
        nextPiece b minS d3 == oKingPc w && (let p2 := nextPiece b maxS (-d3); p2 == pc w 2 || p2 == pc w 3)
    else false
  else false

/-- white kind of the piece that stands on the to-square after the move (`Piece::makeWhite`) -/
def movedKind (p : Pos) (m : Mv) : UInt8 := kind (if m.promo == 0 then p.b[m.f] else m.promo)

theorem givesCheck_split (p : Pos) (ok : Sq) (m : Mv) :
    givesCheck p ok m =
      (gcDirect p.b p.wtm ok (movedKind p m) m.t || gcDisc p.b p.wtm ok m.f m.t ||
       gcPromo p.b p.wtm ok (movedKind p m) m.promo m.f m.t ||
       (if movedKind p m == 1 then gcCastle p.b p.wtm m.f m.t
        else if movedKind p m == 6 then gcEp p.b p.wtm ok m.f m.t else false)) := rfl

theorem hit_iff (b : Board) (w : Bool) (ok : Sq) (hK : KingAt b (!w) ok) (a : Sq) (d dx dy : Int) (hd : IsDir dx dy)
    (he : d = dy * 8 + dx) : (nextPiece b a d == oKingPc w) = true ↔ ∃ n, Seg b a dx dy n ok := by
  rw [beq_iff_eq, he, nextPiece_iff b a dx dy hd _ (oKingPc_ne_zero w)]
  constructor
  · rintro ⟨n, c, hs, hc⟩
    rw [oKingPc_eq] at hc
    have := hK.2 c hc
    subst this; exact ⟨n, hs⟩
  · rintro ⟨n, hs⟩
    exact ⟨n, ok, hs, by rw [oKingPc_eq]; exact hK.1⟩

theorem behind_iff (b : Board) (a : Sq) (d dx dy : Int) (hd : IsDir dx dy) (he : d = dy * 8 + dx) (v1 v2 : Pc)
    (h1 : v1 ≠ 0) (h2 : v2 ≠ 0) :
    (nextPiece b a d == v1 || nextPiece b a d == v2) = true ↔ ∃ i s, Seg b a dx dy i s ∧ (b[s] = v1 ∨ b[s] = v2) := by
  rw [Bool.or_eq_true, beq_iff_eq, beq_iff_eq, he, nextPiece_iff b a dx dy hd _ h1, nextPiece_iff b a dx dy hd _ h2]
  constructor
  · rintro (⟨i, s, hs, hb⟩ | ⟨i, s, hs, hb⟩)
    · exact ⟨i, s, hs, Or.inl hb⟩
    · exact ⟨i, s, hs, Or.inr hb⟩
  · rintro ⟨i, s, hs, hb | hb⟩
    · exact Or.inl ⟨i, s, hs, hb⟩
    · exact Or.inr ⟨i, s, hs, hb⟩

theorem pawnGeom_step (w : Bool) (t K : Sq) :
    pawnGeom w t K = true ↔ ∃ dx : Int, (dx = 1 ∨ dx = -1) ∧ stepSq t.x t.y dx (if w then 1 else -1) 1 = some K := by
  unfold pawnGeom dxy
  simp only [Bool.and_eq_true, beq_iff_eq, stepSq_eq_some]
  constructor
  · rintro ⟨h1, h2⟩
    refine ⟨(K.x : Int) - t.x, by omega, ?_, ?_⟩
    · omega
    · rw [← h2]; omega
  · rintro ⟨dx, hdx, h1, h2⟩
    refine ⟨by omega, ?_⟩
    cases w <;> simp only [Bool.false_eq_true, if_false, if_true] at h2 ⊢ <;> omega

theorem pawnBranch_iff (b : Board) (w : Bool) (ok : Sq) (hK : KingAt b (!w) ok) (t : Sq) (d dx dy : Int) (hd : BishD dx dy)
    (he : d = dy * 8 + dx) :
    ((decide (d > 0) == w) && pieceAtStep b t d == oKingPc w) = true ↔
      (dy = (if w then 1 else -1) ∧ stepSq t.x t.y dx dy 1 = some ok) := by
  unfold pieceAtStep
  rw [he, deltaDir_code dx dy hd.isDir, stepSq_one]
  simp only [Bool.and_eq_true, beq_iff_eq]
  have hdy : (decide (dy * 8 + dx > 0) = w) ↔ dy = (if w then 1 else -1) := by
    unfold BishD at hd
    cases w <;> simp only [decide_eq_false_iff_not, decide_eq_true_eq, Bool.false_eq_true, if_false, if_true] <;> omega
  rw [hdy]
  constructor
  · rintro ⟨h1, h2⟩
    refine ⟨h1, ?_⟩
    cases hq : mkSq? ((t.x : Int) + dx) ((t.y : Int) + dy) with
    | none => rw [hq] at h2; exact absurd h2.symm (oKingPc_ne_zero w)
    | some q =>
      rw [hq] at h2
      simp only at h2
      rw [oKingPc_eq] at h2
      rw [hK.2 q h2]
  · rintro ⟨h1, h2⟩
    refine ⟨h1, ?_⟩
    rw [h2]
    simp only
    rw [oKingPc_eq]; exact hK.1

theorem gcDirect_iff (b : Board) (w : Bool) (ok : Sq) (hK : KingAt b (!w) ok) (pw : UInt8) (t : Sq) :
    gcDirect b w ok pw t = true ↔
      ((pw = 2 ∨ pw = 3) ∧ ∃ dx dy n, RookD dx dy ∧ Seg b t dx dy n ok) ∨
      ((pw = 2 ∨ pw = 4) ∧ ∃ dx dy n, BishD dx dy ∧ Seg b t dx dy n ok) ∨
      (pw = 6 ∧ pawnGeom w t ok = true) ∨ (pw = 5 ∧ knightGeom t ok = true) := by
  have hkn := knight_dir_iff t ok
  -- what each alternative says about `direction t ok`
  have hR : ∀ dx dy n, RookD dx dy → Seg b t dx dy n ok → isRookDelta (direction t ok) = true := by
    intro dx dy n hd hs
    rw [hs.dir hd.isDir]; exact (isRookDelta_iff _).2 ⟨dx, dy, hd, rfl⟩
  have hB : ∀ dx dy n, BishD dx dy → Seg b t dx dy n ok →
      isBishDelta (direction t ok) = true ∧ isRookDelta (direction t ok) = false := by
    intro dx dy n hd hs
    rw [hs.dir hd.isDir]; exact ⟨(isBishDelta_iff _).2 ⟨dx, dy, hd, rfl⟩, bish_not_rook dx dy hd⟩
  have hP : pawnGeom w t ok = true → ∃ dx dy, BishD dx dy ∧ dy = (if w then 1 else -1) ∧
      stepSq t.x t.y dx dy 1 = some ok ∧ direction t ok = dy * 8 + dx := by
    intro hg
    obtain ⟨dx, hdx, hs⟩ := (pawnGeom_step w t ok).1 hg
    have hbd : BishD dx (if w then 1 else -1) := by unfold BishD; cases w <;> simp <;> omega
    exact ⟨dx, _, hbd, rfl, hs, (direction_iff t ok dx _ hbd.isDir).2 ⟨1, Nat.le_refl _, hs⟩⟩
  unfold gcDirect
  simp only
  by_cases hr : isRookDelta (direction t ok) = true
  · rw [if_pos hr]
    obtain ⟨dx, dy, hd, he⟩ := (isRookDelta_iff _).1 hr
    rw [Bool.and_eq_true, hit_iff b w ok hK t _ dx dy hd.isDir he, Bool.or_eq_true, beq_iff_eq, beq_iff_eq]
    constructor
    · rintro ⟨hp, n, hs⟩; exact Or.inl ⟨hp, dx, dy, n, hd, hs⟩
    · rintro (⟨hp, dx', dy', n, hd', hs⟩ | ⟨hp, dx', dy', n, hd', hs⟩ | ⟨_, hg⟩ | ⟨_, hg⟩)
      · have := hs.dir hd'.isDir
        rw [he] at this
        obtain ⟨e1, e2⟩ := code_inj _ _ _ _ hd.isDir hd'.isDir this
        subst e1; subst e2
        exact ⟨hp, n, hs⟩
      · rw [(hB dx' dy' n hd' hs).2] at hr; cases hr
      · obtain ⟨dx', dy', hbd, _, _, hdir⟩ := hP hg
        rw [hdir, bish_not_rook dx' dy' hbd] at hr; cases hr
      · rw [← hkn, hr] at hg; cases hg
  · have hr' : isRookDelta (direction t ok) = false := by simpa using hr
    rw [if_neg hr]
    by_cases hb : isBishDelta (direction t ok) = true
    · rw [if_pos hb]
      obtain ⟨dx, dy, hd, he⟩ := (isBishDelta_iff _).1 hb
      have hsame : ∀ dx' dy' n, BishD dx' dy' → Seg b t dx' dy' n ok → dx = dx' ∧ dy = dy' := by
        intro dx' dy' n hd' hs
        have := hs.dir hd'.isDir
        rw [he] at this
        exact code_inj _ _ _ _ hd.isDir hd'.isDir this
      by_cases h24 : (pw == 2 || pw == 4) = true
      · rw [if_pos h24, hit_iff b w ok hK t _ dx dy hd.isDir he]
        have h24' : pw = 2 ∨ pw = 4 := by simpa using h24
        constructor
        · rintro ⟨n, hs⟩; exact Or.inr (Or.inl ⟨h24', dx, dy, n, hd, hs⟩)
        · rintro (⟨hp, dx', dy', n, hd', hs⟩ | ⟨hp, dx', dy', n, hd', hs⟩ | ⟨h6, _⟩ | ⟨h5, hg⟩)
          · rw [hR dx' dy' n hd' hs] at hr'; cases hr'
          · obtain ⟨e1, e2⟩ := hsame dx' dy' n hd' hs
            subst e1; subst e2; exact ⟨n, hs⟩
          · exfalso; rcases h24' with h | h <;> rw [h] at h6 <;> exact absurd h6 (by decide)
          · exfalso; rcases h24' with h | h <;> rw [h] at h5 <;> exact absurd h5 (by decide)
      · rw [if_neg h24]
        have h24' : ¬ (pw = 2 ∨ pw = 4) := by simpa using h24
        by_cases h6 : (pw == 6) = true
        · rw [if_pos h6, pawnBranch_iff b w ok hK t _ dx dy hd he]
          have h6' : pw = 6 := by simpa using h6
          constructor
          · rintro ⟨h1, h2⟩
            refine Or.inr (Or.inr (Or.inl ⟨h6', ?_⟩))
            rw [pawnGeom_step]
            unfold BishD at hd
            exact ⟨dx, by omega, by rw [← h1]; exact h2⟩
          · rintro (⟨hp, _⟩ | ⟨hp, _⟩ | ⟨_, hg⟩ | ⟨h5, _⟩)
            · exfalso; rcases hp with h | h <;> rw [h] at h6' <;> exact absurd h6' (by decide)
            · exact absurd hp h24'
            · obtain ⟨dx', dy', hbd, hdy, hs, hdir⟩ := hP hg
              rw [he] at hdir
              obtain ⟨e1, e2⟩ := code_inj _ _ _ _ hd.isDir hbd.isDir hdir
              subst e1; subst e2
              exact ⟨hdy, hs⟩
            · exfalso; rw [h5] at h6'; exact absurd h6' (by decide)
        · rw [if_neg h6]
          have h6' : ¬ pw = 6 := by simpa using h6
          simp only [Bool.false_eq_true, false_iff]
          rintro (⟨_, dx', dy', n, hd', hs⟩ | ⟨hp, _⟩ | ⟨h, _⟩ | ⟨_, hg⟩)
          · rw [hR dx' dy' n hd' hs] at hr'; cases hr'
          · exact h24' hp
          · exact h6' h
          · rw [← hkn, hb] at hg; simp at hg
    · have hb' : isBishDelta (direction t ok) = false := by simpa using hb
      rw [if_neg hb]
      rw [hr', hb'] at hkn
      simp only [Bool.not_false, Bool.true_and] at hkn
      rw [Bool.and_eq_true, hkn, beq_iff_eq]
      constructor
      · rintro ⟨h1, h2⟩; exact Or.inr (Or.inr (Or.inr ⟨h2, h1⟩))
      · rintro (⟨_, dx', dy', n, hd', hs⟩ | ⟨_, dx', dy', n, hd', hs⟩ | ⟨_, hg⟩ | ⟨h5, hg⟩)
        · rw [hR dx' dy' n hd' hs] at hr'; cases hr'
        · rw [(hB dx' dy' n hd' hs).1] at hb'; cases hb'
        · obtain ⟨dx', dy', hbd, _, _, hdir⟩ := hP hg
          rw [hdir, (isBishDelta_iff _).2 ⟨dx', dy', hbd, rfl⟩] at hb'; cases hb'
        · exact ⟨hg, h5⟩

/-- the piece found behind the from-square fits the line -/
def behindOk (b : Board) (w : Bool) (s : Sq) (dx dy : Int) : Prop :=
  (RookD dx dy ∧ (b[s] = pc w 2 ∨ b[s] = pc w 3)) ∨ (BishD dx dy ∧ (b[s] = pc w 2 ∨ b[s] = pc w 4))

theorem isDir_neg' {dx dy : Int} (h : IsDir dx dy) : IsDir (-dx) (-dy) := isDir_neg h

theorem gcDisc_iff (b : Board) (w : Bool) (ok : Sq) (hK : KingAt b (!w) ok) (f t : Sq) :
    gcDisc b w ok f t = true ↔
      ∃ dx dy n i s, IsDir dx dy ∧ Seg b f dx dy n ok ∧ direction t ok ≠ dy * 8 + dx ∧
        Seg b f (-dx) (-dy) i s ∧ behindOk b w s dx dy := by
  unfold gcDisc behindOk
  simp only [Bool.and_eq_true, bne_iff_ne, ne_eq]
  rw [lineIf_iff]
  have hbe := fun (dx dy : Int) (hd : IsDir dx dy) (he : direction f ok = dy * 8 + dx) (v1 v2 : Pc) =>
    behind_iff b f (-direction f ok) (-dx) (-dy) (isDir_neg hd) (by rw [he]; omega) v1 v2
  constructor
  · rintro ⟨⟨⟨_, h1⟩, hh⟩, dx, dy, he, hp2⟩
    have hd : IsDir dx dy := hp2.elim (fun h => h.1.isDir) (fun h => h.1.isDir)
    obtain ⟨n, hs⟩ := (hit_iff b w ok hK f _ dx dy hd he).1 hh
    rcases hp2 with ⟨hrd, hp2⟩ | ⟨hbd, hp2⟩
    · obtain ⟨i, s, hs2, hb⟩ := (hbe dx dy hd he _ _ (pc2_ne_zero w) (pc3_ne_zero w)).1 hp2
      exact ⟨dx, dy, n, i, s, hd, hs, fun e => h1 (he.trans e.symm), hs2, Or.inl ⟨hrd, hb⟩⟩
    · obtain ⟨i, s, hs2, hb⟩ := (hbe dx dy hd he _ _ (pc2_ne_zero w) (pc4_ne_zero w)).1 hp2
      exact ⟨dx, dy, n, i, s, hd, hs, fun e => h1 (he.trans e.symm), hs2, Or.inr ⟨hbd, hb⟩⟩
  · rintro ⟨dx, dy, n, i, s, hd, hs, hne, hs2, hbeh⟩
    have he := hs.dir hd
    refine ⟨⟨⟨by rw [he]; exact code_ne_zero dx dy hd, fun e => hne (e ▸ he)⟩,
      (hit_iff b w ok hK f _ dx dy hd he).2 ⟨n, hs⟩⟩, dx, dy, he, ?_⟩
    rcases hbeh with ⟨hrd, hb⟩ | ⟨hbd, hb⟩
    · exact Or.inl ⟨hrd, (hbe dx dy hd he _ _ (pc2_ne_zero w) (pc3_ne_zero w)).2 ⟨i, s, hs2, hb⟩⟩
    · exact Or.inr ⟨hbd, (hbe dx dy hd he _ _ (pc2_ne_zero w) (pc4_ne_zero w)).2 ⟨i, s, hs2, hb⟩⟩

theorem gcPromo_iff (b : Board) (w : Bool) (ok : Sq) (hK : KingAt b (!w) ok) (pw : UInt8) (promo : Pc) (f t : Sq) :
    gcPromo b w ok pw promo f t = true ↔
      promo ≠ 0 ∧ ∃ dx dy n, direction t ok = dy * 8 + dx ∧ Seg b f dx dy n ok ∧ kindOn pw dx dy := by
  unfold gcPromo kindOn
  simp only [Bool.and_eq_true, bne_iff_ne, ne_eq, beq_iff_eq]
  rw [lineIf_iff]
  constructor
  · rintro ⟨⟨⟨h0, _⟩, _⟩, dx, dy, he, hh⟩
    refine ⟨h0, dx, dy, ?_⟩
    rcases hh with ⟨hd, hh⟩ | ⟨hd, hh⟩
    · rw [Bool.and_eq_true, hit_iff b w ok hK f _ dx dy hd.isDir he] at hh
      obtain ⟨hp, n, hs⟩ := hh
      exact ⟨n, he, hs, Or.inl ⟨hd, Or.symm (by simpa using hp)⟩⟩
    · rw [Bool.and_eq_true, hit_iff b w ok hK f _ dx dy hd.isDir he] at hh
      obtain ⟨hp, n, hs⟩ := hh
      exact ⟨n, he, hs, Or.inr ⟨hd, Or.symm (by simpa using hp)⟩⟩
  · rintro ⟨h0, dx, dy, n, he, hs, hk⟩
    have hd := kindOn.isDir hk
    have hit := (hit_iff b w ok hK f _ dx dy hd he).2 ⟨n, hs⟩
    refine ⟨⟨⟨h0, by rw [he]; exact code_ne_zero dx dy hd⟩, he.trans (hs.dir hd).symm⟩, dx, dy, he, ?_⟩
    rcases hk with ⟨hrd, hp⟩ | ⟨hbd, hp⟩
    · exact Or.inl ⟨hrd, by rw [Bool.and_eq_true]; exact ⟨by simpa using hp.symm, hit⟩⟩
    · exact Or.inr ⟨hbd, by rw [Bool.and_eq_true]; exact ⟨by simpa using hp.symm, hit⟩⟩

theorem isDir_left : IsDir (-1) 0 := by unfold IsDir; omega
theorem isDir_right : IsDir 1 0 := by unfold IsDir; omega
theorem isDir_up (w : Bool) : IsDir 0 (if w then 1 else -1) := by unfold IsDir; cases w <;> simp

theorem gcCastle_short (b : Board) (w : Bool) (ok : Sq) (hK : KingAt b (!w) ok) (f t : Sq) (h : t.val = f.val + 2) :
    gcCastle b w f t = true ↔
      (∃ n, Seg b f (-1) 0 n ok) ∨ (∃ n, Seg b (sqOff f 1) 0 (if w then 1 else -1) n ok) := by
  unfold gcCastle
  simp only
  rw [if_pos (by simp [h]), Bool.or_eq_true, hit_iff b w ok hK f _ (-1) 0 isDir_left (by omega),
    hit_iff b w ok hK (sqOff f 1) _ 0 (if w then 1 else -1) (isDir_up w) (by cases w <;> simp)]

theorem gcCastle_long (b : Board) (w : Bool) (ok : Sq) (hK : KingAt b (!w) ok) (f t : Sq) (h : t.val + 2 = f.val) :
    gcCastle b w f t = true ↔
      (∃ n, Seg b f 1 0 n ok) ∨ (∃ n, Seg b (sqOff f (-1)) 0 (if w then 1 else -1) n ok) := by
  unfold gcCastle
  simp only
  rw [if_neg (by simp; omega), if_pos (by simp [h]), Bool.or_eq_true, hit_iff b w ok hK f _ 1 0 isDir_right (by omega),
    hit_iff b w ok hK (sqOff f (-1)) _ 0 (if w then 1 else -1) (isDir_up w) (by cases w <;> simp)]

theorem gcCastle_none (b : Board) (w : Bool) (f t : Sq) (h1 : t.val ≠ f.val + 2) (h2 : t.val + 2 ≠ f.val) :
    gcCastle b w f t = false := by
  unfold gcCastle
  simp only
  rw [if_neg (by simpa using h1), if_neg (by simpa using h2)]

theorem gcEp_off (b : Board) (w : Bool) (ok : Sq) (f t : Sq) (h : b[t] ≠ 0 ∨ t.x = f.x) : gcEp b w ok f t = false := by
  unfold gcEp
  rw [if_neg]
  simp only [Bool.and_eq_true, beq_iff_eq, bne_iff_ne, ne_eq, not_and, Decidable.not_not]
  intro h0
  rcases h with h | h
  · exact absurd h0 h
  · exact h

theorem stepSq_one_iff (a q : Sq) (dx dy : Int) :
    stepSq a.x a.y dx dy 1 = some q ↔ ((q.x : Int) = a.x + dx ∧ (q.y : Int) = a.y + dy) := by
  rw [stepSq_one, mkSq?_eq_some]

theorem dir_of_rank {b : Board} {A B K : Sq} {σ : Int} {n : Nat} (hσ : σ = 1 ∨ σ = -1)
    (hAB : stepSq A.x A.y (-σ) 0 1 = some B) (hs : Seg b A σ 0 n K) : direction A K = σ ∧ direction B K = σ := by
  have hd : IsDir σ 0 := by unfold IsDir; omega
  have e : (0 : Int) * 8 + σ = σ := by omega
  have hBA : stepSq B.x B.y σ 0 1 = some A := by
    have := stepSq_rev A B (-σ) 0 1 1 (Nat.le_refl _) hAB
    rwa [Int.neg_neg, Int.neg_zero, Nat.sub_self, stepSq_zero] at this
  refine ⟨e ▸ hs.dir hd, e ▸ (direction_iff B K σ 0 hd).2 ⟨1 + n, by omega, ?_⟩⟩
  rw [← stepSq_from B A σ 0 1 n hBA]; exact hs.step

/-- the e.p. block; `c` is the captured pawn's square.  Diagonal through `c`, or the rank: the king seen from one of
    `f`, `c` (`A`) away from the other (`B`), a rook or queen from `B` the opposite way -/
theorem gcEp_iff (b : Board) (w : Bool) (ok : Sq) (hK : KingAt b (!w) ok) (f t c : Sq)
    (h0 : b[t] = 0) (hx : t.x ≠ f.x) (hc : c = sqOff f ((t.x : Int) - f.x))
    (hcy : c.y = f.y) (hcx : (c.x : Int) = f.x + 1 ∨ (c.x : Int) = f.x - 1) :
    gcEp b w ok f t = true ↔
      (∃ dx dy n i s, BishD dx dy ∧ Seg b c dx dy n ok ∧ Seg b c (-dx) (-dy) i s ∧ (b[s] = pc w 2 ∨ b[s] = pc w 4)) ∨
      (∃ σ A B n i s, (σ = 1 ∨ σ = -1) ∧ (A = f ∧ B = c ∨ A = c ∧ B = f) ∧ stepSq A.x A.y (-σ) 0 1 = some B ∧
          Seg b A σ 0 n ok ∧ Seg b B (-σ) 0 i s ∧ (b[s] = pc w 2 ∨ b[s] = pc w 3)) := by
  -- `maxS` / `minS` of the C++: the right / left one of the two squares
  obtain ⟨hi, lo, ehi, elo, hpair, hstep⟩ : ∃ hi lo, hi = (if c.val ≥ f.val then c else f) ∧
      lo = (if c.val ≥ f.val then f else c) ∧ (hi = f ∧ lo = c ∨ hi = c ∧ lo = f) ∧
      stepSq hi.x hi.y (-1) 0 1 = some lo := by
    have hcv := Sq.val_eq c; have hfv := Sq.val_eq f
    have := Sq.x_lt c; have := Sq.x_lt f
    by_cases hge : c.val ≥ f.val
    · exact ⟨c, f, (if_pos hge).symm, (if_pos hge).symm, Or.inr ⟨rfl, rfl⟩, (stepSq_one_iff _ _ _ _).2 ⟨by omega, by omega⟩⟩
    · exact ⟨f, c, (if_neg hge).symm, (if_neg hge).symm, Or.inl ⟨rfl, rfl⟩, (stepSq_one_iff _ _ _ _).2 ⟨by omega, by omega⟩⟩
  have hxlo := ((stepSq_one_iff _ _ _ _).1 hstep).1
  have hrank : ∀ (σ : Int) (A B : Sq) (n : Nat), (σ = 1 ∨ σ = -1) → (A = f ∧ B = c ∨ A = c ∧ B = f) →
      stepSq A.x A.y (-σ) 0 1 = some B → Seg b A σ 0 n ok →
      direction c ok = σ ∧ (σ = 1 → A = hi ∧ B = lo) ∧ (σ = -1 → A = lo ∧ B = hi) := by
    intro σ A B n hσ hAB hst hs
    obtain ⟨dA, dB⟩ := dir_of_rank hσ hst hs
    have hxB := ((stepSq_one_iff _ _ _ _).1 hst).1
    rcases hAB with ⟨rfl, rfl⟩ | ⟨rfl, rfl⟩
    · refine ⟨dB, fun e => ?_, fun e => ?_⟩ <;> rcases hpair with ⟨rfl, rfl⟩ | ⟨rfl, rfl⟩ <;>
        first | exact ⟨rfl, rfl⟩ | (exfalso; omega)
    · refine ⟨dA, fun e => ?_, fun e => ?_⟩ <;> rcases hpair with ⟨rfl, rfl⟩ | ⟨rfl, rfl⟩ <;>
        first | exact ⟨rfl, rfl⟩ | (exfalso; omega)
  have hdiag : ∀ dx dy n, BishD dx dy → Seg b c dx dy n ok → isBishDelta (direction c ok) = true := by
    intro dx dy n hd hs
    rw [hs.dir hd.isDir]; exact (isBishDelta_iff _).2 ⟨dx, dy, hd, rfl⟩
  unfold gcEp
  rw [if_pos (by simp [h0, hx])]
  simp only []
  rw [← hc, ← ehi, ← elo]
  by_cases hb : isBishDelta (direction c ok) = true
  · rw [if_pos hb]
    obtain ⟨dx, dy, hd, he⟩ := (isBishDelta_iff _).1 hb
    rw [Bool.and_eq_true, hit_iff b w ok hK c _ dx dy hd.isDir he,
      behind_iff b c _ (-dx) (-dy) (isDir_neg hd.isDir) (by rw [he]; omega) _ _ (pc2_ne_zero w) (pc4_ne_zero w)]
    constructor
    · rintro ⟨⟨n, hs⟩, i, s, hs2, hbs⟩
      exact Or.inl ⟨dx, dy, n, i, s, hd, hs, hs2, hbs⟩
    · rintro (⟨dx', dy', n, i, s, hd', hs, hs2, hbs⟩ | ⟨σ, A, B, n, i, s, hσ, hAB, hst, hs, _⟩)
      · have := hs.dir hd'.isDir
        rw [he] at this
        obtain ⟨e1, e2⟩ := code_inj _ _ _ _ hd.isDir hd'.isDir this
        subst e1; subst e2
        exact ⟨⟨n, hs⟩, i, s, hs2, hbs⟩
      · rw [(hrank σ A B n hσ hAB hst hs).1] at hb
        rcases hσ with rfl | rfl <;> exact absurd hb (by decide)
  · rw [if_neg hb]
    by_cases h1 : direction c ok = 1
    · rw [h1]
      simp only [beq_self_eq_true, Bool.true_or, if_true]
      rw [Bool.and_eq_true, hit_iff b w ok hK hi _ 1 0 isDir_right (by omega),
        behind_iff b lo _ (-1) 0 isDir_left (by omega) _ _ (pc2_ne_zero w) (pc3_ne_zero w)]
      constructor
      · rintro ⟨⟨n, hs⟩, i, s, hs2, hbs⟩
        exact Or.inr ⟨1, hi, lo, n, i, s, Or.inl rfl, hpair, hstep, hs, hs2, hbs⟩
      · rintro (⟨dx', dy', n, i, s, hd', hs, _⟩ | ⟨σ, A, B, n, i, s, hσ, hAB, hst, hs, hs2, hbs⟩)
        · exact absurd (hdiag dx' dy' n hd' hs) hb
        · obtain ⟨e, hA, _⟩ := hrank σ A B n hσ hAB hst hs
          have e1 : σ = 1 := e.symm.trans h1
          obtain ⟨rfl, rfl⟩ := hA e1
          subst e1
          exact ⟨⟨n, hs⟩, i, s, hs2, hbs⟩
    · by_cases h2 : direction c ok = -1
      · rw [h2]
        have e1 : ((-1 : Int) == 1 || (-1 : Int) == -1) = true := by decide
        have e2 : ((-1 : Int) == 1) = false := by decide
        rw [if_pos e1, if_neg (by rw [e2]; exact Bool.false_ne_true)]
        rw [Bool.and_eq_true, hit_iff b w ok hK lo _ (-1) 0 isDir_left (by omega),
          behind_iff b hi _ 1 0 isDir_right (by omega) _ _ (pc2_ne_zero w) (pc3_ne_zero w)]
        have hstep' : stepSq lo.x lo.y (-(-1)) 0 1 = some hi := by
          have := stepSq_rev hi lo (-1) 0 1 1 (Nat.le_refl _) hstep
          rwa [Int.neg_zero, Nat.sub_self, stepSq_zero] at this
        constructor
        · rintro ⟨⟨n, hs⟩, i, s, hs2, hbs⟩
          exact Or.inr ⟨-1, lo, hi, n, i, s, Or.inr rfl, hpair.symm.imp And.symm And.symm, hstep', hs,
            by rw [Int.neg_neg]; exact hs2, hbs⟩
        · rintro (⟨dx', dy', n, i, s, hd', hs, _⟩ | ⟨σ, A, B, n, i, s, hσ, hAB, hst, hs, hs2, hbs⟩)
          · exact absurd (hdiag dx' dy' n hd' hs) hb
          · obtain ⟨e, _, hA⟩ := hrank σ A B n hσ hAB hst hs
            have e1 : σ = -1 := e.symm.trans h2
            obtain ⟨rfl, rfl⟩ := hA e1
            subst e1
            rw [Int.neg_neg] at hs2
            exact ⟨⟨n, hs⟩, i, s, hs2, hbs⟩
      · rw [if_neg (by simp [h1, h2])]
        simp only [Bool.false_eq_true, false_iff]
        rintro (⟨dx', dy', n, i, s, hd', hs, _⟩ | ⟨σ, A, B, n, i, s, hσ, hAB, hst, hs, _⟩)
        · exact hb (hdiag dx' dy' n hd' hs)
        · have e := (hrank σ A B n hσ hAB hst hs).1
          rcases hσ with rfl | rfl
          · exact h1 e
          · exact h2 e

end Chess.Texel
