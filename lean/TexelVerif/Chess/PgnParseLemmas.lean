import TexelVerif.Chess.PgnLemmas
/-!
The PGN parser model never fails a checked access (property C17): with parent indices in range and no empty SYMBOL on
the put-back stack — both invariants of `parsePgn` itself — `st.arena[node]`, `tok.token[len-1]` and
`tok.token[movLen-1]` are always in range.
-/
namespace Chess.Pgn

/-- every parent index points into the arena -/
def WF (a : Array NodeR) : Prop := ∀ i (h : i < a.size) (par : Nat), a[i].parent = some par → par < a.size

/-- no empty SYMBOL token on the put-back stack (only NAG tokens are ever put back) -/
def SavedOK (sc : Sc) : Prop := ∀ t ∈ sc.saved, t.ty = .symbol → t.s ≠ []

theorem addChild_spec (st : PState) (pos : Pos) (node : Nat) (pending : NodeR) (hwf : WF st.arena) (hn : node < st.arena.size) :
    WF (addChild st pos node pending).1.arena ∧ (addChild st pos node pending).1.arena.size = st.arena.size + 1 ∧
    (addChild st pos node pending).2.2 = st.arena.size ∧ (addChild st pos node pending).1.sc = st.sc := by
  unfold addChild
  simp only
  refine ⟨?_, ?_, ?_, ?_⟩
  rotate_left
  · simp [Array.size_modify, Array.size_push]
  · trivial
  · trivial
  intro i hi par hpar
  simp only [Array.size_modify, Array.size_push] at hi ⊢
  rw [Array.getElem_modify] at hpar
  have key : ((st.arena.push { pending with parent := some node, posBefore := some pos })[i]'(by simp [Array.size_push]; omega)).parent = some par := by
    split at hpar
    · exact hpar
    · exact hpar
  rw [Array.getElem_push] at key
  split at key
  · rename_i hlt
    have := hwf i hlt par key
    omega
  · simp only [Option.some.injEq] at key
    omega

theorem flush_spec (st : PState) (c : Cur) (hwf : WF st.arena) (hn : c.node < st.arena.size) :
    WF (flush st c).1.arena ∧ (flush st c).2.node < (flush st c).1.arena.size ∧
    st.arena.size ≤ (flush st c).1.arena.size ∧ (flush st c).1.sc = st.sc := by
  unfold flush
  split
  · obtain ⟨h1, h2, h3, h4⟩ := addChild_spec st c.pos c.node c.pending hwf hn
    simp only
    refine ⟨h1, ?_, ?_, h4⟩
    · rw [h3, h2]; omega
    · rw [h2]; omega
  · exact ⟨hwf, hn, Nat.le_refl _, rfl⟩

theorem next_spec (sc : Sc) (h : SavedOK sc) : SavedOK sc.next.2 ∧ (sc.next.1.ty = .symbol → sc.next.1.s ≠ []) := by
  unfold Sc.next
  split
  · rename_i t r heq
    simp only
    constructor
    · intro x hx; exact h x (by rw [heq]; exact List.mem_cons_of_mem _ hx)
    · exact h t (by rw [heq]; exact List.mem_cons_self)
  · rename_i heq
    simp only
    constructor
    · intro x hx; exact h x hx
    · exact nextTok_symbol_nonempty sc.cs

def TokOK (t : Tok) : Prop := t.ty = .symbol → t.s ≠ []

theorem putBack_ok (sc : Sc) (t : Tok) (h : SavedOK sc) (ht : TokOK t) : SavedOK (sc.putBack t) := by
  intro x hx hty
  unfold Sc.putBack at hx
  simp only [List.mem_cons] at hx
  rcases hx with rfl | hx
  · exact ht hty
  · exact h x hx hty

theorem annStart_ok (t : Array Char) (n : Nat) (h : n ≤ t.size) : ∃ k, annStart t n = .ok k := by
  induction n with
  | zero => exact ⟨0, rfl⟩
  | succ k ih =>
    unfold annStart
    rw [Array.getElem?_eq_getElem (by omega)]
    simp only
    split
    · exact ih (by omega)
    · exact ⟨_, rfl⟩

theorem symbolPrep_spec (tok : List Char) (sc : Sc) (hne : tok ≠ []) (h : SavedOK sc) :
    ∃ t sc', symbolPrep tok sc = .ok (t, sc') ∧ SavedOK sc' := by
  unfold symbolPrep
  have hsz : tok.toArray.size - 1 < tok.toArray.size := by
    have : 0 < tok.length := List.length_pos_iff.2 hne
    simp only [List.size_toArray]; omega
  dsimp only
  rw [Array.getElem?_eq_getElem hsz]
  dsimp only
  split
  · rename_i hann
    generalize ht : (if (tok.toArray[tok.toArray.size - 1] == '+') = true then tok.toArray.extract 0 (tok.toArray.size - 1) else tok.toArray) = t
    obtain ⟨k, hk⟩ := annStart_ok t (t.size - 1) (by omega)
    rw [hk]
    simp only
    refine ⟨_, _, rfl, ?_⟩
    split
    · exact putBack_ok sc _ h (fun hty => by cases hty)
    · exact h
  · exact ⟨_, _, rfl, h⟩

theorem skipGroup_saved (f : Nat) (sc : Sc) (level : Nat) (h : SavedOK sc) : SavedOK (skipGroup f sc level).1 := by
  induction f generalizing sc level with
  | zero => exact h
  | succ f ih =>
    unfold skipGroup
    have hn := (next_spec sc h).1
    simp only
    split
    · exact ih _ _ hn
    · split
      · exact hn
      · exact ih _ _ hn
    · exact hn
    · exact ih _ _ hn

/-- the invariant-carrying statement: no `.oob`, and an accepted result keeps the arena well-formed and no smaller -/
def Good (st : PState) (r : Except PErr PState) : Prop :=
  match r with
  | .error e => e ≠ .oob
  | .ok st' => WF st'.arena ∧ SavedOK st'.sc ∧ st.arena.size ≤ st'.arena.size

theorem Good_mono (st0 st1 : PState) (r : Except PErr PState) (h : Good st1 r) (hle : st0.arena.size ≤ st1.arena.size) :
    Good st0 r := by
  unfold Good at h ⊢
  cases r with
  | error e => exact h
  | ok st' => exact ⟨h.1, h.2.1, by simp only at h; omega⟩

theorem parsePgn_good (f : Nat) : ∀ (st : PState) (c : Cur), WF st.arena → SavedOK st.sc → c.node < st.arena.size →
    Good st (parsePgn f st c) := by
  induction f with
  | zero => intro st c _ _ _; unfold parsePgn Good; simp
  | succ f ih =>
    intro st0 c hwf hsv hn
    unfold parsePgn
    obtain ⟨hsv1, hsym⟩ := next_spec st0.sc hsv
    simp only
    -- the state after the token has been taken
    have ih' : ∀ c', c'.node < st0.arena.size → Good st0 (parsePgn f { st0 with sc := st0.sc.next.2 } c') := by
      intro c' hc'
      exact ih { st0 with sc := st0.sc.next.2 } c' hwf hsv1 hc'
    have hfin : Good st0 (.ok (flush { st0 with sc := st0.sc.next.2 } c).1) := by
      obtain ⟨h1, _, h3, h4⟩ := flush_spec { st0 with sc := st0.sc.next.2 } c hwf hn
      exact ⟨h1, by rw [h4]; exact hsv1, h3⟩
    split
    · exact ih' c hn
    · exact ih' c hn
    · -- '('
      obtain ⟨h1, h2, h3, h4⟩ := flush_spec { st0 with sc := st0.sc.next.2 } c hwf hn
      rw [Array.getElem?_eq_getElem h2]
      simp only
      have hsv2 : SavedOK (flush { st0 with sc := st0.sc.next.2 } c).1.sc := by rw [h4]; exact hsv1
      split
      · rename_i par pos2 hpar _
        have hparlt := h1 _ h2 par hpar
        have r1 := ih (flush { st0 with sc := st0.sc.next.2 } c).1 { pos := pos2, node := par } h1 hsv2 hparlt
        split
        · rename_i e he; rw [he] at r1; exact r1
        · rename_i st' he
          rw [he] at r1
          obtain ⟨w1, w2, w3⟩ := r1
          have r2 := ih st' (flush { st0 with sc := st0.sc.next.2 } c).2 w1 w2 (by omega)
          exact Good_mono _ _ _ r2 (by simp only at h3; omega)
      · have hsk := skipGroup_saved f (flush { st0 with sc := st0.sc.next.2 } c).1.sc 1 hsv2
        split
        · rename_i sc' hsc
          rw [hsc] at hsk
          exact ⟨h1, hsk, h3⟩
        · rename_i sc' hsc
          rw [hsc] at hsk
          have r2 := ih { (flush { st0 with sc := st0.sc.next.2 } c).1 with sc := sc' } (flush { st0 with sc := st0.sc.next.2 } c).2 h1 hsk h2
          exact Good_mono _ _ _ r2 (by simpa using h3)
    · -- NAG
      apply ih'
      split <;> exact hn
    · -- SYMBOL
      rename_i hty
      split
      · exact hfin
      · obtain ⟨t, sc', hp, hsc'⟩ := symbolPrep_spec st0.sc.next.1.s st0.sc.next.2 (hsym hty) hsv1
        rw [hp]
        simp only
        split
        · obtain ⟨h1, h2, h3, h4⟩ := flush_spec { st0 with sc := sc' } c hwf hn
          split
          · intro h; cases h
          · refine Good_mono _ _ _ (ih _ _ h1 (by rw [h4]; exact hsc') ?_) (by simpa using h3)
            simpa using h2
        · exact ih { st0 with sc := sc' } c hwf hsc' hn
    · -- COMMENT
      apply ih'
      split <;> exact hn
    · exact hfin

theorem nextDC_spec (f : Nat) (sc : Sc) (h : SavedOK sc) : SavedOK (sc.nextDC f).2 ∧ TokOK (sc.nextDC f).1 := by
  induction f generalizing sc with
  | zero => exact ⟨h, fun hty => by cases hty⟩
  | succ f ih =>
    unfold Sc.nextDC
    obtain ⟨h1, h2⟩ := next_spec sc h
    simp only
    split
    · exact ih _ h1
    · exact ⟨h1, h2⟩

theorem broken_spec (fuelDC : Nat) (g : Nat) (sc : Sc) (tok : Tok) (prev : TT) (v : List Char) (h : SavedOK sc) :
    SavedOK (readTags.broken fuelDC g sc tok prev v).2 := by
  induction g generalizing sc tok prev v with
  | zero => exact h
  | succ g ih =>
    unfold readTags.broken
    split
    · exact ih _ _ _ _ (nextDC_spec fuelDC sc h).1
    · exact h

theorem readTags_spec (f : Nat) (sc : Sc) (tok : Tok) (acc : List (List Char × List Char)) (h : SavedOK sc) (ht : TokOK tok) :
    SavedOK (readTags f sc tok acc).2 := by
  induction f generalizing sc tok acc with
  | zero => exact putBack_ok sc tok h ht
  | succ f ih =>
    unfold readTags
    split
    · exact putBack_ok sc tok h ht
    · simp only
      generalize 2 * sc.cs.length + sc.saved.length + 2 = fdc
      obtain ⟨a1, a2⟩ := nextDC_spec fdc sc h
      split
      · exact putBack_ok _ _ a1 a2
      · obtain ⟨b1, b2⟩ := nextDC_spec fdc _ a1
        split
        · exact putBack_ok _ _ b1 b2
        · obtain ⟨c1, c2⟩ := nextDC_spec fdc _ b1
          split
          · have d : ∀ g tok prev v, SavedOK (readTags.broken fdc g _ tok prev v).2 :=
              fun g tok prev v => broken_spec _ g _ tok prev v c1
            exact ih _ _ _ (next_spec _ (d _ _ _ _)).1 (next_spec _ (d _ _ _ _)).2
          · obtain ⟨e1, e2⟩ := next_spec _ c1
            exact ih _ _ _ e1 e2

theorem wf_root : WF (#[({} : NodeR)]) := by
  intro i hi par hpar
  have : i = 0 := by simp at hi; omega
  subst this
  simp at hpar

/-- **`PgnReader::readPGN` never fails a checked access**, and hands the scanner on in a state where that stays true -/
theorem readPGN_spec (sc : Sc) (h : SavedOK sc) :
    match readPGN sc with
    | .error e => e ≠ .oob
    | .ok (_, sc') => SavedOK sc' := by
  obtain ⟨h1, h2⟩ := next_spec sc h
  have ht := readTags_spec (2 * sc.cs.length + sc.saved.length + 4) sc.next.2 sc.next.1 [] h1 h2
  unfold readPGN
  dsimp only
  generalize 2 * sc.cs.length + sc.saved.length + 4 = fuel at ht ⊢
  generalize readTags fuel sc.next.2 sc.next.1 [] = tr at ht ⊢
  cases readFEN _ with
  | error e => intro hc; cases hc
  | ok start =>
    dsimp only
    have hg := parsePgn_good (4 * fuel) { arena := #[{}], sc := tr.2 } { pos := start, node := 0 } wf_root ht (by simp)
    cases hp : parsePgn (4 * fuel) { arena := #[{}], sc := tr.2 } { pos := start, node := 0 } with
    | error e => rw [hp] at hg; exact hg
    | ok st => rw [hp] at hg; exact hg.2.1

theorem readAll_noOob (f : Nat) (sc : Sc) (acc : List Game) (h : SavedOK sc) : (readAll f sc acc).2 ≠ some .oob := by
  induction f generalizing sc acc with
  | zero => intro hc; cases hc
  | succ f ih =>
    have hs := readPGN_spec sc h
    rw [readAll]
    cases he : readPGN sc with
    | error e => rw [he] at hs; intro hc; cases hc; exact hs rfl
    | ok r =>
      obtain ⟨g, sc'⟩ := r
      rw [he] at hs
      cases g with
      | none => intro hc; cases hc
      | some g => exact ih _ _ hs

end Chess.Pgn
