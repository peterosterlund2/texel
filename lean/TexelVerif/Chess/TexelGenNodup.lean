import TexelVerif.Chess.TexelGenPseudo
/-!
No duplicates in `pseudoLegalMoves`, hence (with `mem_legalMoves`) the list the engine treats as the legal moves
is a permutation of the specification's `genLegal` (`texel_legal_perm`).
-/
namespace Chess.Texel
open PosImpl (BB getP getP_eq)

theorem nodup_map_inj {α β : Type} (f : α → β) (hf : ∀ a b, f a = f b → a = b) (l : List α) (h : l.Nodup) :
    (l.map f).Nodup := by
  rw [List.Nodup, List.pairwise_map]
  exact h.imp (fun hne e => hne (hf _ _ e))

theorem nodup_flatMap' {α β : Type} (l : List α) (f : α → List β) (hl : l.Nodup) (hin : ∀ a ∈ l, (f a).Nodup)
    (hx : ∀ a b, a ≠ b → ∀ x ∈ f a, ∀ y ∈ f b, x ≠ y) : (l.flatMap f).Nodup := by
  rw [List.Nodup, List.pairwise_flatMap]
  exact ⟨hin, hl.imp (fun hne => hx _ _ hne)⟩

theorem nodup_append_tag {γ : Type} (tg : Mv → γ) (l₁ l₂ : List Mv) (cs : List γ) (c : γ)
    (n1 : l₁.Nodup) (n2 : l₂.Nodup) (h1 : ∀ a ∈ l₁, tg a ∈ cs) (h2 : ∀ b ∈ l₂, tg b = c) (hc : c ∉ cs) :
    (l₁ ++ l₂).Nodup ∧ ∀ a ∈ l₁ ++ l₂, tg a ∈ c :: cs := by
  constructor
  · rw [List.nodup_append]
    refine ⟨n1, n2, ?_⟩
    intro a ha b hb e
    subst e
    have := h1 a ha
    rw [h2 a hb] at this
    exact hc this
  · intro a ha
    rcases List.mem_append.1 ha with h | h
    · exact List.mem_cons_of_mem _ (h1 a h)
    · rw [h2 a h]; exact List.mem_cons_self

theorem nodup_addMovesByMask (sq0 : Sq) (mask : BB) : (addMovesByMask sq0 mask).Nodup := by
  unfold addMovesByMask
  apply nodup_map_inj _ _ _ (squaresOf_nodup mask)
  intro a b e
  exact (Mv.mk.inj e).2.1

theorem nodup_pieceMoves (b : Board) (w : Bool) (kd : UInt8) (att targets : Sq → BB) :
    (pieceMoves b w kd att targets).Nodup := by
  unfold pieceMoves
  apply nodup_flatMap' _ _ (squaresOf_nodup _)
  · intro a _; exact nodup_addMovesByMask _ _
  · intro a b hab x hx y hy e
    subst e
    rw [mem_addMovesByMask] at hx hy
    exact hab (hx.1.symm.trans hy.1)

theorem pc_ne (w : Bool) : pc w 2 ≠ pc w 5 ∧ pc w 2 ≠ pc w 3 ∧ pc w 2 ≠ pc w 4 ∧ pc w 5 ≠ pc w 3 ∧ pc w 5 ≠ pc w 4 ∧
    pc w 3 ≠ pc w 4 ∧ pc w 2 ≠ 0 ∧ pc w 5 ≠ 0 ∧ pc w 3 ≠ 0 ∧ pc w 4 ≠ 0 := by cases w <;> decide

theorem nodup_addPawn (w : Bool) (mask : BB) (delta : Int) : (addPawnMovesByMask w mask delta true).Nodup := by
  obtain ⟨n1, n2, n3, n4, n5, n6, z1, z2, z3, z4⟩ := pc_ne w
  unfold addPawnMovesByMask
  simp only [if_true]
  rw [List.nodup_append]
  refine ⟨?_, ?_, ?_⟩
  · apply nodup_flatMap' _ _ (squaresOf_nodup _)
    · intro a _
      simp only [List.cons_append, List.nil_append, List.nodup_cons, List.mem_cons, List.mem_nil_iff, or_false, Mv.mk.injEq,
        true_and, not_or, List.nodup_nil, and_true, List.not_mem_nil, not_false_eq_true]
      exact ⟨⟨n1, n2, n3⟩, ⟨n4, n5⟩, n6⟩
    · intro a b hab x hx y hy e
      subst e
      simp only [List.cons_append, List.nil_append, List.mem_cons, List.mem_nil_iff, or_false] at hx hy
      have hxa : x.t = a := by rcases hx with rfl | rfl | rfl | rfl <;> rfl
      have hxb : x.t = b := by rcases hy with rfl | rfl | rfl | rfl <;> rfl
      exact hab (hxa.symm.trans hxb)
  · apply nodup_map_inj _ _ _ (squaresOf_nodup _)
    intro a b e
    exact (Mv.mk.inj e).2.1
  · intro x hx y hy e
    subst e
    simp only [List.mem_flatMap, List.cons_append, List.nil_append, List.mem_cons, List.mem_nil_iff, or_false] at hx
    simp only [List.mem_map] at hy
    obtain ⟨t, _, hx⟩ := hx
    obtain ⟨t', _, rfl⟩ := hy
    rcases hx with h | h | h | h <;> have := (Mv.mk.inj h).2.2 <;> simp_all

theorem nodup_addPawnDouble (mask : BB) (delta : Int) : (addPawnDoubleMovesByMask mask delta).Nodup := by
  unfold addPawnDoubleMovesByMask
  apply nodup_map_inj _ _ _ (squaresOf_nodup _)
  intro a b e
  exact (Mv.mk.inj e).2.1

theorem sqOff_tag (t : Sq) (d : Int) : (((sqOff t d).val : Int) - t.val) % 64 = d % 64 := by
  unfold sqOff; simp only; omega

/-- the four pawn sections differ in the offset between from- and to-square, compared modulo 64 because `sqOff` wraps -/
theorem nodup_pawnMoves (p : Pos) : (pawnMoves p).Nodup := by
  let tg : Mv → Int := fun m => ((m.f.val : Int) - m.t.val) % 64
  have hA : ∀ (w : Bool) (mask : BB) (d : Int) (a : Mv), a ∈ addPawnMovesByMask w mask d true → tg a = d % 64 := by
    intro w mask d a ha
    rw [mem_addPawn] at ha
    show ((a.f.val : Int) - a.t.val) % 64 = d % 64
    rw [ha.2.1]; exact sqOff_tag _ _
  have hD : ∀ (mask : BB) (d : Int) (a : Mv), a ∈ addPawnDoubleMovesByMask mask d → tg a = d % 64 := by
    intro mask d a ha
    rw [mem_addPawnDouble] at ha
    show ((a.f.val : Int) - a.t.val) % 64 = d % 64
    rw [ha.2.1]; exact sqOff_tag _ _
  unfold pawnMoves
  simp only
  split
  · obtain ⟨n1, t1⟩ := nodup_append_tag tg _ _ [(-8 : Int) % 64] ((-16 : Int) % 64) (nodup_addPawn _ _ _) (nodup_addPawnDouble _ _)
      (fun a ha => by rw [hA _ _ _ a ha]; exact List.mem_cons_self) (fun b hb => hD _ _ b hb) (by decide)
    obtain ⟨n2, t2⟩ := nodup_append_tag tg _ _ _ ((-7 : Int) % 64) n1 (nodup_addPawn _ _ _) t1 (fun b hb => hA _ _ _ b hb) (by decide)
    exact (nodup_append_tag tg _ _ _ ((-9 : Int) % 64) n2 (nodup_addPawn _ _ _) t2 (fun b hb => hA _ _ _ b hb) (by decide)).1
  · obtain ⟨n1, t1⟩ := nodup_append_tag tg _ _ [(8 : Int) % 64] ((16 : Int) % 64) (nodup_addPawn _ _ _) (nodup_addPawnDouble _ _)
      (fun a ha => by rw [hA _ _ _ a ha]; exact List.mem_cons_self) (fun b hb => hD _ _ b hb) (by decide)
    obtain ⟨n2, t2⟩ := nodup_append_tag tg _ _ _ ((9 : Int) % 64) n1 (nodup_addPawn _ _ _) t1 (fun b hb => hA _ _ _ b hb) (by decide)
    exact (nodup_append_tag tg _ _ _ ((7 : Int) % 64) n2 (nodup_addPawn _ _ _) t2 (fun b hb => hA _ _ _ b hb) (by decide)).1

theorem nodup_two {α : Type} (c1 c2 : Bool) (a b : α) (h : a ≠ b) :
    ((if c1 = true then [a] else []) ++ (if c2 = true then [b] else [])).Nodup := by
  cases c1 <;> cases c2 <;> simp [h]

theorem nodup_castleMoves (p : Pos) (k : Sq) : (castleMoves p k).Nodup := by
  unfold castleMoves
  by_cases hw : p.wtm = true
  case neg =>
    have hw' : p.wtm = false := by simpa using hw
    simp only [hw', Bool.false_eq_true, if_false]
    split
    · apply nodup_two
      intro e
      have := congrArg Mv.t e
      revert this; decide
    · exact List.nodup_nil
  case pos =>
    simp only [hw, if_true]
    split
    · apply nodup_two
      intro e
      have := congrArg Mv.t e
      revert this; decide
    · exact List.nodup_nil

/-- **`MoveGen::pseudoLegalMoves` never emits a move twice** -/
theorem nodup_pseudoLegalMoves (p : Pos) (k : Sq) (h : GenWF p k) : (pseudoLegalMoves p k).Nodup := by
  obtain ⟨hv, hk, hep⟩ := h
  let tg : Mv → UInt8 := fun m => kind p.b[m.f]
  have sPc : ∀ (kd : Fin 7) (_ : 1 ≤ kd.val) (att tgt : Sq → BB) (m : Mv),
      m ∈ pieceMoves p.b p.wtm (UInt8.ofNat kd.val) att tgt → tg m = UInt8.ofNat kd.val := by
    intro kd hkd att tgt m hm
    show kind p.b[m.f] = _
    rw [((mem_pieceMoves _ _ _ _ _ m).1 hm).1]
    exact (kind_pc_fin p.wtm kd hkd).1
  have sQ : ∀ att tgt m, m ∈ pieceMoves p.b p.wtm 2 att tgt → tg m = 2 := sPc ⟨2, by decide⟩ (by decide)
  have sR : ∀ att tgt m, m ∈ pieceMoves p.b p.wtm 3 att tgt → tg m = 3 := sPc ⟨3, by decide⟩ (by decide)
  have sB : ∀ att tgt m, m ∈ pieceMoves p.b p.wtm 4 att tgt → tg m = 4 := sPc ⟨4, by decide⟩ (by decide)
  have sN : ∀ att tgt m, m ∈ pieceMoves p.b p.wtm 5 att tgt → tg m = 5 := sPc ⟨5, by decide⟩ (by decide)
  have sK : ∀ m, m ∈ addMovesByMask k (kingAttacks k &&& ~~~colorBB p.b p.wtm) ++ castleMoves p k → tg m = 1 := fun m hm =>
    ((king_section_iff p k hv hk m).1 (List.mem_append.1 hm)).2
  have sP : ∀ m, m ∈ pawnMoves p → tg m = 6 := fun m hm => ((pawn_section_iff p hv hep m).1 hm).2
  -- king steps and castling moves are different moves
  have nK : (addMovesByMask k (kingAttacks k &&& ~~~colorBB p.b p.wtm) ++ castleMoves p k).Nodup := by
    rw [List.nodup_append]
    refine ⟨nodup_addMovesByMask _ _, nodup_castleMoves p k, ?_⟩
    intro a ha b hb e
    subst e
    rw [mem_kingStep] at ha
    obtain ⟨hf, _, hg, _⟩ := ha
    rw [kingGeom_iff'] at hg
    have hb' : (a.f.val = 4 ∨ a.f.val = 60) ∧ ((a.t.val : Int) = a.f.val + 2 ∨ (a.t.val : Int) = a.f.val + -2) := by
      by_cases hw : p.wtm = true
      · rw [hw] at hk
        rw [mem_castle_white p hw k hv hk] at hb
        obtain ⟨_, _, (⟨h1, h2, _⟩ | ⟨h1, h2, _⟩)⟩ := hb
        · rw [h1, h2]; decide
        · rw [h1, h2]; decide
      · have hw' : p.wtm = false := by simpa using hw
        rw [hw'] at hk
        rw [mem_castle_black p hw' k hv hk] at hb
        obtain ⟨_, _, (⟨h1, h2, _⟩ | ⟨h1, h2, _⟩)⟩ := hb
        · rw [h1, h2]; decide
        · rw [h1, h2]; decide
    rw [← hf] at hg
    obtain ⟨⟨g1, _⟩, _⟩ := hg
    have hft := a.f.isLt; have htt := a.t.isLt
    unfold dxy Sq.x at g1
    simp only at g1
    omega
  unfold pseudoLegalMoves
  simp only
  obtain ⟨n1, t1⟩ := nodup_append_tag tg _ _ [2] 3 (nodup_pieceMoves _ _ _ _ _) (nodup_pieceMoves _ _ _ _ _)
    (fun a ha => by rw [sQ _ _ a ha]; exact List.mem_cons_self) (sR _ _) (by decide)
  obtain ⟨n2, t2⟩ := nodup_append_tag tg _ _ _ 4 n1 (nodup_pieceMoves _ _ _ _ _) t1 (sB _ _) (by decide)
  obtain ⟨n3, t3⟩ := nodup_append_tag tg _ _ _ 1 n2 nK t2 sK (by decide)
  obtain ⟨n4, t4⟩ := nodup_append_tag tg _ _ _ 5 n3 (nodup_pieceMoves _ _ _ _ _) t3 (sN _ _) (by decide)
  have n5 := (nodup_append_tag tg _ _ _ 6 n4 (nodup_pawnMoves p) t4 sP (by decide)).1
  simpa only [List.append_assoc] using n5

theorem nodup_candidates (p : Pos) : (candidates p).Nodup := candidates_nodup p

theorem nodup_genLegal (p : Pos) : (genLegal p).Nodup := genLegal_nodup p

/-- **What the engine treats as the legal moves is, up to order, the specification's list of legal moves.** -/
theorem texel_legal_perm (p : Pos) (k : Sq) (h : GenWF p k) : (legalMoves p k).Perm (genLegal p) := by
  have n1 : (legalMoves p k).Nodup := by
    unfold legalMoves
    rw [removeIllegal_eq p k h.valid h.king _ (fun m hm => (mem_pseudoLegalMoves p k h m).1 hm)]
    exact List.Pairwise.filter _ (nodup_pseudoLegalMoves p k h)
  rw [List.perm_ext_iff_of_nodup n1 (nodup_genLegal p)]
  intro m
  rw [mem_legalMoves p k h, mem_genLegal]

theorem genWF_of_b (p : Pos) (k : Sq) (h : genWFb p k = true) : GenWF p k := by
  unfold genWFb at h
  simp only [Bool.and_eq_true, List.all_eq_true, allSq, List.mem_finRange, true_imp_iff, decide_eq_true_eq, beq_iff_eq,
    Bool.or_eq_true, Bool.not_eq_true', beq_eq_false_iff_ne] at h
  obtain ⟨⟨⟨h1, h2⟩, h3⟩, h4⟩ := h
  refine ⟨h1, ⟨h2, ?_⟩, ?_⟩
  · intro s hs
    rcases h3 s with h | h
    · exact absurd hs h
    · exact h
  · intro e he
    rw [he] at h4
    exact beq_iff_eq.1 h4

end Chess.Texel
