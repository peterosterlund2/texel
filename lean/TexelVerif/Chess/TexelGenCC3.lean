import TexelVerif.Chess.TexelGenCC2
import TexelVerif.Chess.TexelGenGcChange
/-!
`mem_cc_iff`: `m ∈ pseudoLegalCapturesAndChecks p k ok ↔ pseudo p m ∧ CCGen p ok m` — the list is exactly the set of
pseudo-legal moves described by `CCGen` (sound: nothing but pseudo-legal moves; precise: the masks of the C++).  Each
section of the list is compared with the section of `pseudoLegalMoves` for the same kind of piece.
`disc_mem`: the mask `discovered` contains every from-square for which the second block of `givesCheck` fires.
-/
namespace Chess.Texel
open PosImpl (BB getP getP_eq)

/-- what `pseudoLegalCapturesAndChecks` generates among the pseudo-legal moves (`D` = `discovered`) -/
def CCGen (p : Pos) (ok : Sq) (m : Mv) : Prop :=
  let b := p.b
  let w := p.wtm
  let D := ccDiscovered b w ok
  let occ := occBB b
  let cap := own (!w) b[m.t] = true
  (kind b[m.f] = 2 ∧ (tst D m.f = true ∨ cap ∨ tst (rookAttacks ok occ) m.t = true ∨ tst (bishopAttacks ok occ) m.t = true)) ∨
  (kind b[m.f] = 3 ∧ (tst D m.f = true ∨ cap ∨ tst (rookAttacks ok occ) m.t = true)) ∨
  (kind b[m.f] = 4 ∧ (tst D m.f = true ∨ cap ∨ tst (bishopAttacks ok occ) m.t = true)) ∨
  (kind b[m.f] = 5 ∧ (tst D m.f = true ∨ cap ∨ tst (knightAttacks ok) m.t = true)) ∨
  (kind b[m.f] = 1 ∧ (tst D m.f = true ∨ cap ∨ m.t.val = m.f.val + 2 ∨ m.t.val + 2 = m.f.val)) ∨
  (kind b[m.f] = 6 ∧ qnPromo m = true ∧
     (m.f.x ≠ m.t.x ∨ tst (D ||| (if w then maskRow7 else maskRow2)) m.f = true ∨
      tst (if w then bPawnAttacks ok else wPawnAttacks ok) m.t = true))

theorem sectionCC_iff (p : Pos) (k : Fin 7) (hk2 : 2 ≤ k.val) (hk5 : k.val ≤ 5) (att : Sq → BB)
    (hatt : ∀ f t, kind p.b[f] = UInt8.ofNat k.val → attacks p.b f t = tst (att f) t) (D R : BB) (m : Mv) :
    m ∈ pieceMovesCC p.b p.wtm (UInt8.ofNat k.val) att D R ↔
      (pseudo p m = true ∧ kind p.b[m.f] = UInt8.ofNat k.val ∧ (tst D m.f = true ∨ tst R m.t = true)) := by
  rw [mem_pieceMovesCC]
  have hs := section_iff p k hk2 hk5 att hatt m
  rw [mem_pieceMoves] at hs
  simp only [tst_not, tst_colorBB, Bool.not_eq_true'] at hs
  constructor
  · rintro ⟨h1, h2, h3, h4, h5⟩; obtain ⟨a, b⟩ := hs.1 ⟨h1, h2, h3, h4⟩; exact ⟨a, b, h5⟩
  · rintro ⟨a, b, h5⟩; obtain ⟨h1, h2, h3, h4⟩ := hs.2 ⟨a, b⟩; exact ⟨h1, h2, h3, h4, h5⟩

theorem knightCC_iff (p : Pos) (ok : Sq) (D : BB) (m : Mv) :
    m ∈ ccKnightMoves p.b p.wtm ok D ↔
      (pseudo p m = true ∧ kind p.b[m.f] = 5 ∧
        (tst D m.f = true ∨ own (!p.wtm) p.b[m.t] = true ∨ tst (knightAttacks ok) m.t = true)) := by
  rw [mem_ccKnight]
  have hs : m ∈ pieceMoves p.b p.wtm 5 knightAttacks (fun _ => ~~~colorBB p.b p.wtm) ↔
      (pseudo p m = true ∧ kind p.b[m.f] = 5) :=
    section_iff p ⟨5, by decide⟩ (by decide) (by decide) _ (fun f t hk => attacks_knight p.b f t hk) m
  rw [mem_pieceMoves] at hs
  simp only [tst_not, tst_colorBB, Bool.not_eq_true'] at hs
  simp only [tst_or, tst_colorBB, Bool.or_eq_true]
  constructor
  · rintro ⟨h1, h2, h3, h4, h5⟩; obtain ⟨a, b⟩ := hs.1 ⟨h1, h2, h3, h4⟩; exact ⟨a, b, h5⟩
  · rintro ⟨a, b, h5⟩; obtain ⟨h1, h2, h3, h4⟩ := hs.2 ⟨a, b⟩; exact ⟨h1, h2, h3, h4, h5⟩

theorem castle_shape (p : Pos) (k : Sq) (hv : ValidB p.b) (hk : KingAt p.b p.wtm k) (m : Mv) (h : m ∈ castleMoves p k) :
    m.t.val = m.f.val + 2 ∨ m.t.val + 2 = m.f.val := by
  cases hw : p.wtm
  · rw [hw] at hk
    obtain ⟨_, _, h⟩ := (mem_castle_black p hw k hv hk m).1 h
    rcases h with ⟨a, b, _⟩ | ⟨a, b, _⟩ <;> rw [a, b] <;> decide
  · rw [hw] at hk
    obtain ⟨_, _, h⟩ := (mem_castle_white p hw k hv hk m).1 h
    rcases h with ⟨a, b, _⟩ | ⟨a, b, _⟩ <;> rw [a, b] <;> decide

theorem kingStep_not_castle (f t : Sq) (h : kingGeom f t = true) : ¬ (t.val = f.val + 2 ∨ t.val + 2 = f.val) := by
  obtain ⟨⟨a, b⟩, _⟩ := (kingGeom_iff' f t).1 h
  unfold dxy at a b
  simp only at a b
  have := Sq.val_eq f; have := Sq.val_eq t; have := Sq.x_lt f; have := Sq.x_lt t
  omega

theorem kingCC_iff (p : Pos) (k : Sq) (D : BB) (hv : ValidB p.b) (hk : KingAt p.b p.wtm k) (m : Mv) :
    (m ∈ addMovesByMask k (kingAttacks k &&& (if (D &&& sqBit k) == 0 then colorBB p.b (!p.wtm) else ~~~colorBB p.b p.wtm)) ∨
      m ∈ castleMoves p k) ↔
      (pseudo p m = true ∧ kind p.b[m.f] = 1 ∧
        (tst D m.f = true ∨ own (!p.wtm) p.b[m.t] = true ∨ m.t.val = m.f.val + 2 ∨ m.t.val + 2 = m.f.val)) := by
  have hs := king_section_iff p k hv hk m
  have hstep : m ∈ addMovesByMask k (kingAttacks k &&& (if (D &&& sqBit k) == 0 then colorBB p.b (!p.wtm) else ~~~colorBB p.b p.wtm)) ↔
      (m ∈ addMovesByMask k (kingAttacks k &&& ~~~colorBB p.b p.wtm) ∧ (tst D m.f = true ∨ own (!p.wtm) p.b[m.t] = true)) := by
    rw [mem_addMovesByMask, mem_addMovesByMask, and_sqBit_eq_zero]
    cases hD : tst D k
    · simp only [Bool.not_false, if_true, tst_and, tst_not, tst_colorBB, Bool.and_eq_true, Bool.not_eq_true']
      constructor
      · rintro ⟨a, b, c, d⟩
        have := own_excl (!p.wtm) _ d
        rw [Bool.not_not] at this
        exact ⟨⟨a, b, c, this⟩, Or.inr d⟩
      · rintro ⟨⟨a, b, c, _⟩, d⟩
        rcases d with d | d
        · rw [a, hD] at d; cases d
        · exact ⟨a, b, c, d⟩
    · simp only [Bool.not_true, Bool.false_eq_true, if_false]
      constructor
      · rintro ⟨a, b, c⟩; exact ⟨⟨a, b, c⟩, Or.inl (by rw [a]; exact hD)⟩
      · rintro ⟨h, _⟩; exact h
  rw [hstep]
  constructor
  · rintro (⟨h, c⟩ | h)
    · obtain ⟨a, b⟩ := hs.1 (Or.inl h)
      rcases c with c | c
      · exact ⟨a, b, Or.inl c⟩
      · exact ⟨a, b, Or.inr (Or.inl c)⟩
    · obtain ⟨a, b⟩ := hs.1 (Or.inr h)
      exact ⟨a, b, Or.inr (Or.inr (castle_shape p k hv hk m h))⟩
  · rintro ⟨a, b, c⟩
    rcases hs.2 ⟨a, b⟩ with h | h
    · rcases c with c | c | c
      · exact Or.inl ⟨h, Or.inl c⟩
      · exact Or.inl ⟨h, Or.inr c⟩
      · exfalso
        obtain ⟨e, _, g, _⟩ := (mem_kingStep p.b p.wtm k m).1 h
        rw [← e] at g
        exact kingStep_not_castle m.f m.t g c
    · exact Or.inr h

theorem pawnCC_iff (p : Pos) (ok : Sq) (D : BB) (hv : ValidB p.b) (hep : EpEmpty p) (m : Mv) :
    m ∈ ccPawnMoves p ok D ↔
      (pseudo p m = true ∧ kind p.b[m.f] = 6 ∧ qnPromo m = true ∧
        (m.f.x ≠ m.t.x ∨ tst (D ||| (if p.wtm then maskRow7 else maskRow2)) m.f = true ∨
         tst (if p.wtm then bPawnAttacks ok else wPawnAttacks ok) m.t = true)) := by
  have hs := pawn_section_iff p hv hep m
  cases hw : p.wtm
  · rw [mem_ccPawn_black p ok D hw, hs]
    simp only [Bool.false_eq_true, if_false]
    constructor
    · rintro ⟨⟨a, b⟩, c, d⟩; exact ⟨a, b, c, d⟩
    · rintro ⟨a, b, c, d⟩; exact ⟨⟨a, b⟩, c, d⟩
  · rw [mem_ccPawn_white p ok D hw, hs]
    simp only [if_true]
    constructor
    · rintro ⟨⟨a, b⟩, c, d⟩; exact ⟨a, b, c, d⟩
    · rintro ⟨a, b, c, d⟩; exact ⟨⟨a, b⟩, c, d⟩

/-- **`MoveGen::pseudoLegalCapturesAndChecks` generates exactly the pseudo-legal moves described by `CCGen`** -/
theorem mem_cc_iff (p : Pos) (k ok : Sq) (h : GenWF p k) (m : Mv) :
    m ∈ pseudoLegalCapturesAndChecks p k ok ↔ (pseudo p m = true ∧ CCGen p ok m) := by
  obtain ⟨hv, hk, hep⟩ := h
  rw [cc_unfold]
  simp only [List.mem_append]
  have sQ : m ∈ pieceMovesCC p.b p.wtm 2 (fun sq => rookAttacks sq (occBB p.b) ||| bishopAttacks sq (occBB p.b))
      (ccDiscovered p.b p.wtm ok) (colorBB p.b (!p.wtm) ||| rookAttacks ok (occBB p.b) ||| bishopAttacks ok (occBB p.b)) ↔ _ :=
    sectionCC_iff p ⟨2, by decide⟩ (by decide) (by decide) _ (fun f t hk => attacks_queen p.b hv f t hk) _ _ m
  have sR : m ∈ pieceMovesCC p.b p.wtm 3 (fun sq => rookAttacks sq (occBB p.b))
      (ccDiscovered p.b p.wtm ok) (colorBB p.b (!p.wtm) ||| rookAttacks ok (occBB p.b)) ↔ _ :=
    sectionCC_iff p ⟨3, by decide⟩ (by decide) (by decide) _ (fun f t hk => attacks_rook p.b hv f t hk) _ _ m
  have sB : m ∈ pieceMovesCC p.b p.wtm 4 (fun sq => bishopAttacks sq (occBB p.b))
      (ccDiscovered p.b p.wtm ok) (colorBB p.b (!p.wtm) ||| bishopAttacks ok (occBB p.b)) ↔ _ :=
    sectionCC_iff p ⟨4, by decide⟩ (by decide) (by decide) _ (fun f t hk => attacks_bishop p.b hv f t hk) _ _ m
  have sN := knightCC_iff p ok (ccDiscovered p.b p.wtm ok) m
  have sK := kingCC_iff p k (ccDiscovered p.b p.wtm ok) hv hk m
  have sP := pawnCC_iff p ok (ccDiscovered p.b p.wtm ok) hv hep m
  simp only [tst_or, tst_colorBB, Bool.or_eq_true] at sQ sR sB
  unfold CCGen
  simp only
  constructor
  · rintro ((((((h | h) | h) | h) | h) | h) | h)
    · obtain ⟨a, b, c⟩ := sQ.1 h
      refine ⟨a, Or.inl ⟨b, ?_⟩⟩
      rcases c with c | (c | c) | c
      · exact Or.inl c
      · exact Or.inr (Or.inl c)
      · exact Or.inr (Or.inr (Or.inl c))
      · exact Or.inr (Or.inr (Or.inr c))
    · obtain ⟨a, b, c⟩ := sR.1 h
      refine ⟨a, Or.inr (Or.inl ⟨b, ?_⟩)⟩
      rcases c with c | c | c
      · exact Or.inl c
      · exact Or.inr (Or.inl c)
      · exact Or.inr (Or.inr c)
    · obtain ⟨a, b, c⟩ := sB.1 h
      refine ⟨a, Or.inr (Or.inr (Or.inl ⟨b, ?_⟩))⟩
      rcases c with c | c | c
      · exact Or.inl c
      · exact Or.inr (Or.inl c)
      · exact Or.inr (Or.inr c)
    · obtain ⟨a, b, c⟩ := sK.1 (Or.inl h)
      exact ⟨a, Or.inr (Or.inr (Or.inr (Or.inr (Or.inl ⟨b, c⟩))))⟩
    · obtain ⟨a, b, c⟩ := sK.1 (Or.inr h)
      exact ⟨a, Or.inr (Or.inr (Or.inr (Or.inr (Or.inl ⟨b, c⟩))))⟩
    · obtain ⟨a, b, c⟩ := sN.1 h
      exact ⟨a, Or.inr (Or.inr (Or.inr (Or.inl ⟨b, c⟩)))⟩
    · obtain ⟨a, b, c⟩ := sP.1 h
      exact ⟨a, Or.inr (Or.inr (Or.inr (Or.inr (Or.inr ⟨b, c⟩))))⟩
  · rintro ⟨a, (⟨b, c⟩ | ⟨b, c⟩ | ⟨b, c⟩ | ⟨b, c⟩ | ⟨b, c⟩ | ⟨b, c⟩)⟩
    · refine Or.inl (Or.inl (Or.inl (Or.inl (Or.inl (Or.inl (sQ.2 ⟨a, b, ?_⟩))))))
      rcases c with c | c | c | c
      · exact Or.inl c
      · exact Or.inr (Or.inl (Or.inl c))
      · exact Or.inr (Or.inl (Or.inr c))
      · exact Or.inr (Or.inr c)
    · refine Or.inl (Or.inl (Or.inl (Or.inl (Or.inl (Or.inr (sR.2 ⟨a, b, ?_⟩))))))
      rcases c with c | c | c
      · exact Or.inl c
      · exact Or.inr (Or.inl c)
      · exact Or.inr (Or.inr c)
    · refine Or.inl (Or.inl (Or.inl (Or.inl (Or.inr (sB.2 ⟨a, b, ?_⟩)))))
      rcases c with c | c | c
      · exact Or.inl c
      · exact Or.inr (Or.inl c)
      · exact Or.inr (Or.inr c)
    · exact Or.inl (Or.inr (sN.2 ⟨a, b, c⟩))
    · rcases sK.2 ⟨a, b, c⟩ with h | h
      · exact Or.inl (Or.inl (Or.inl (Or.inr h)))
      · exact Or.inl (Or.inl (Or.inr h))
    · exact Or.inr (sP.2 ⟨a, b, c⟩)

theorem cc_sound (p : Pos) (k ok : Sq) (h : GenWF p k) (m : Mv) (hm : m ∈ pseudoLegalCapturesAndChecks p k ok) :
    pseudo p m = true := ((mem_cc_iff p k ok h m).1 hm).1

/-! ## `discovered` contains every square from which a move uncovers a check -/

/-- the x-ray test of `pseudoLegalCapturesAndChecks`: with the first blockers removed, the slider behind `f` is seen -/
theorem xray_seen (b : Board) (hv : ValidB b) (ok f s : Sq) (dx dy : Int) (hd : IsDir dx dy) (n i : Nat) (A : BB)
    (hA : tst A f = true) (h1 : Seg b ok dx dy n f) (h2 : Seg b f dx dy i s) :
    tst (ray (occBB b &&& ~~~A) ok dx dy) s = true := by
  rw [tst_ray_iff _ _ _ _ _ hd]
  have hemp : ∀ q, emp b q = true → (fun q => !tst (occBB b &&& ~~~A) q) q = true := by
    intro q hq
    simp only [tst_and, tst_occBB b hv, beq_iff_eq.1 hq]; rfl
  refine ⟨n + i, reachN_join _ ok f s dx dy n i (reachN_congr _ _ _ _ _ _ _ _ h1 (fun j q _ _ _ he => hemp q he)) ?_
    (reachN_congr _ _ _ _ _ _ _ _ h2 (fun j q _ _ _ he => hemp q he))⟩
  simp only [tst_and, tst_not, hA]; simp

/-- a square from which the king is seen along a rook (bishop) line lies in `kRookAtk` (`kBishAtk`) -/
theorem seg_in_atk (b : Board) (hv : ValidB b) (ok t : Sq) (dx dy : Int) (n : Nat) (hd : IsDir dx dy)
    (hs : Seg b t dx dy n ok) :
    (RookD dx dy → tst (rookAttacks ok (occBB b)) t = true) ∧ (BishD dx dy → tst (bishopAttacks ok (occBB b)) t = true) := by
  have hr := (tst_ray_seg b hv ok t _ _ (isDir_neg hd)).2 ⟨n, hs.rev⟩
  exact ⟨fun h => (tst_rook_iff ok t _).2 ⟨-dx, -dy, rookD_neg h, hr⟩,
    fun h => (tst_bishop_iff ok t _).2 ⟨-dx, -dy, bishD_neg h, hr⟩⟩

theorem disc_mem (b : Board) (hv : ValidB b) (w : Bool) (ok : Sq) (hK : KingAt b (!w) ok) (f t : Sq)
    (h : gcDisc b w ok f t = true) : tst (ccDiscovered b w ok) f = true := by
  obtain ⟨ex, ey, n, i, s, he, hsK, _, hss, hbeh⟩ := (gcDisc_iff b w ok hK f t).1 h
  have hd := isDir_neg he
  unfold ccDiscovered
  simp only
  rcases hbeh with ⟨hrd, hb⟩ | ⟨hbd, hb⟩
  · have hf := (seg_in_atk b hv ok f ex ey n he hsK).1 hrd
    have hx : ((rookAttacks ok (occBB b &&& ~~~rookAttacks ok (occBB b)) &&& (pcBB b (pc w 2) ||| pcBB b (pc w 3))) != 0) = true := by
      rw [bb_ne_zero_iff]
      refine ⟨s, ?_⟩
      rw [tst_and, tst_or, tst_pcBB, tst_pcBB, Bool.and_eq_true]
      refine ⟨(tst_rook_iff ok s _).2 ⟨-ex, -ey, rookD_neg hrd, xray_seen b hv ok f s _ _ hd n i _ hf hsK.rev hss⟩, ?_⟩
      rcases hb with hb | hb <;> simp [hb]
    rw [if_pos hx]
    split
    · rw [tst_or, hf]; rfl
    · exact hf
  · have hf := (seg_in_atk b hv ok f ex ey n he hsK).2 hbd
    have hx : ((bishopAttacks ok (occBB b &&& ~~~bishopAttacks ok (occBB b)) &&& (pcBB b (pc w 2) ||| pcBB b (pc w 4))) != 0) = true := by
      rw [bb_ne_zero_iff]
      refine ⟨s, ?_⟩
      rw [tst_and, tst_or, tst_pcBB, tst_pcBB, Bool.and_eq_true]
      refine ⟨(tst_bishop_iff ok s _).2 ⟨-ex, -ey, bishD_neg hbd, xray_seen b hv ok f s _ _ hd n i _ hf hsK.rev hss⟩, ?_⟩
      rcases hb with hb | hb <;> simp [hb]
    rw [if_pos hx, tst_or, hf]; simp

end Chess.Texel
