/-! The king-ray shortcut of `MoveGen::removeIllegal` / `isLegal` as a lemma about points on a line in `Int × Int`
    (`Props.C01.king_ray_core`); the board version is `SimpleMove.ray_before_of_after`. -/
namespace Ray

abbrev Pt := Int × Int
def step (k d : Pt) (i : Nat) : Pt := (k.1 + i * d.1, k.2 + i * d.2)

theorem step_inj (k d : Pt) (hd : d ≠ (0,0)) (i j : Nat) (h : step k d i = step k d j) : i = j := by
  unfold step at h
  have h1 : k.1 + i * d.1 = k.1 + j * d.1 := congrArg Prod.fst h
  have h2 : k.2 + i * d.2 = k.2 + j * d.2 := congrArg Prod.snd h
  have hd' : d.1 ≠ 0 ∨ d.2 ≠ 0 := by
    by_cases a : d.1 = 0
    · right; intro b; apply hd; exact Prod.ext a b
    · left; exact a
  rcases hd' with a | a
  · have : ((i : Int) - j) * d.1 = 0 := by rw [Int.sub_mul]; omega
    rcases Int.mul_eq_zero.1 this with h | h
    · omega
    · exact absurd h a
  · have : ((i : Int) - j) * d.2 = 0 := by rw [Int.sub_mul]; omega
    rcases Int.mul_eq_zero.1 this with h | h
    · omega
    · exact absurd h a

/-- squares strictly between k and k + n·d are all empty -/
def clear (occ : Pt → Bool) (k d : Pt) (n : Nat) : Prop := ∀ i, 0 < i → i < n → occ (step k d i) = false

/-- f is the first occupied square seen from k in direction d (i.e. f ∈ Texel's `kingAtks` along d) -/
def visible (occ : Pt → Bool) (k d f : Pt) : Prop := ∃ n, 0 < n ∧ f = step k d n ∧ clear occ k d n

/-- board occupancy after moving a piece from f to t -/
def occAfter (occ : Pt → Bool) (f t : Pt) : Pt → Bool := fun s => if s = t then true else if s = f then false else occ s

/-- The king-ray lemma: if the moved piece's origin is not visible from the king along d, any line segment
    from the king along d that is clear after the move was already clear before the move. -/
theorem clear_before_of_clear_after (occ : Pt → Bool) (k d f t : Pt) (hd : d ≠ (0,0)) (n : Nat)
    (hnv : ¬ visible occ k d f) (hc : clear (occAfter occ f t) k d n) : clear occ k d n := by
  intro i hi0 hin
  -- suppose step i is occupied before the move
  by_cases ho : occ (step k d i) = true
  · exfalso
    -- take the smallest occupied index i0 ≤ i
    have : ∃ i0, 0 < i0 ∧ i0 ≤ i ∧ occ (step k d i0) = true ∧ ∀ j, 0 < j → j < i0 → occ (step k d j) = false := by
      clear hc hin
      induction i using Nat.strongRecOn with
      | _ i ih =>
        by_cases hall : ∀ j, 0 < j → j < i → occ (step k d j) = false
        · exact ⟨i, hi0, Nat.le_refl _, ho, hall⟩
        · have : ∃ j, 0 < j ∧ j < i ∧ occ (step k d j) = true := by
            by_cases hex : ∃ j, 0 < j ∧ j < i ∧ occ (step k d j) = true
            · exact hex
            · exfalso; apply hall; intro j hj0 hji
              by_cases hoj : occ (step k d j) = true
              · exact absurd ⟨j, hj0, hji, hoj⟩ hex
              · simpa using hoj
          obtain ⟨j, hj0, hji, hoj⟩ := this
          obtain ⟨i0, a, b, c, e⟩ := ih j hji hj0 hoj
          exact ⟨i0, a, by omega, c, e⟩
    obtain ⟨i0, h0, hle, hocc, hmin⟩ := this
    -- after the move that square is empty (it lies strictly inside the clear segment)
    have hafter := hc i0 h0 (by omega)
    unfold occAfter at hafter
    by_cases e1 : step k d i0 = t
    · simp [e1] at hafter
    · by_cases e2 : step k d i0 = f
      · exact hnv ⟨i0, h0, e2.symm, hmin⟩
      · simp [e1, e2, hocc] at hafter
  · simpa using ho

end Ray
