import TexelVerif.Chess.TexelGenAtk
import TexelVerif.PosImpl.Prims
import TexelVerif.Chess.SpecEquations
/-!
`MoveGen::isLegal` and `MoveGen::removeIllegal` against the specification: for a pseudo-legal move the verdict is
"the mover's king is not attacked after the move".  This file has the slow path, the two "nothing is uncovered" paths and
the plain king step (`isLegal_inCheck`, `isLegal_notVisible`, `isLegal_kingStep`) and derives `removeIllegal_eq` from
`isLegal`'s verdict; the same-ray path, castling and the assembled `isLegal_eq` are in `TexelGenLegal2`.

* slow path (`makeMove`, `inCheck`, `unMakeMove`): `inCheck_eq` on the board after the move;
* in check, non-king, non-e.p. move to a square outside the king's rook/bishop rays that is not a checking knight:
  the checking piece is neither captured nor blocked (`still_attacked`);
* not in check, non-king, non-e.p. move of a piece the king does not see along a ray: nothing is uncovered
  (`not_attacked_after`, the king-ray argument);
* not in check, the moved piece stays on its ray from the king (`same_ray_safe`);
* not in check, king move: `sqAttacked` on the destination with the king lifted off the board (`sqAttacked_eq`),
  castling included.
-/
namespace Chess.Texel
open PosImpl (BB getP getP_eq)

theorem getP_sq (b : Board) (q : Sq) : getP b q.val = b[q] := getP_eq b q.val q.isLt

/-- own king on `k` and nowhere else -/
def KingAt (b : Board) (w : Bool) (k : Sq) : Prop :=
  b[k] = (if w then WKING else BKING) ∧ ∀ s : Sq, b[s] = (if w then WKING else BKING) → s = k

theorem kingSq_of_kingAt (b : Board) (w : Bool) (k : Sq) (h : KingAt b w k) : kingSq b w = some k := by
  unfold kingSq
  have hk : (b[k] == if w then WKING else BKING) = true := by rw [h.1]; simp
  cases hf : allSq.find? fun s => b[s] == (if w then WKING else BKING) with
  | none =>
    rw [List.find?_eq_none] at hf
    exact absurd hk (hf k (by simp [allSq]))
  | some s =>
    have := List.find?_some hf
    rw [h.2 s (by simpa using this)]

theorem validB_setSq (b : Board) (hv : ValidB b) (n : Nat) (v : Pc) (h : v ≤ 12) : ValidB (setSq b n v) := by
  intro q; rw [setSq_get]; split
  · exact h
  · exact hv q

theorem getP_le (b : Board) (hv : ValidB b) (n : Nat) : getP b n ≤ 12 := by
  by_cases h : n < 64
  · rw [getP_eq b n h]; exact hv ⟨n, h⟩
  · rw [PosImpl.getP_oob b n h]; decide

set_option maxRecDepth 100000 in
theorem promos_le : ∀ (w : Bool) (pr : Pc), pr ∈ promos w → pr ≤ 12 := by
  intro w pr h
  cases w <;> simp [promos] at h <;> rcases h with rfl | rfl | rfl | rfl | rfl <;> decide

/-- the board after a pseudo-legal move holds proper piece codes -/
theorem validB_apply (p : Pos) (hv : ValidB p.b) (m : Mv) (hp : pseudo p m = true) : ValidB (apply p m).b := by
  have hpr : m.promo ≤ 12 := promos_le p.wtm _ (pseudo_promo p m hp)
  have hr : (if p.wtm then WROOK else BROOK) ≤ (12 : Pc) := by cases p.wtm <;> decide
  have h0 : (0 : Pc) ≤ 12 := by decide
  rw [apply_eq]
  show ValidB (applyB p m)
  have h3 : ValidB (movedB p m) := by
    unfold movedB
    apply validB_setSq
    · apply validB_setSq _ _ _ _ h0
      split
      · exact validB_setSq _ hv _ _ h0
      · exact hv
    · split
      · exact hpr
      · exact hv m.f
  unfold applyB
  split
  · exact validB_setSq _ (validB_setSq _ h3 _ _ h0) _ _ hr
  · split
    · exact validB_setSq _ (validB_setSq _ h3 _ _ h0) _ _ hr
    · exact h3

/-- the slow path of `isLegal` / `removeIllegal` is the specification's test -/
theorem inCheckAfter_eq (p : Pos) (hv : ValidB p.b) (m : Mv) (hp : pseudo p m = true) :
    inCheckAfter p m = Chess.inCheck (apply p m).b p.wtm :=
  inCheck_eq _ (validB_apply p hv m hp) _

/-- a move that is neither an en-passant capture nor castling changes the from- and the to-square only -/
theorem apply_b_simple (p : Pos) (m : Mv) (h1 : isEp p m = false)
    (h2 : ¬ (kind p.b[m.f] = 1 ∧ (m.t.val = m.f.val + 2 ∨ m.t.val + 2 = m.f.val))) (q : Sq) :
    (apply p m).b[q] = if q = m.t then (if m.promo != 0 then m.promo else p.b[m.f]) else if q = m.f then 0 else p.b[q] := by
  rw [apply_b, applyB_plain p m h2, movedB_get, h1]
  simp only [Bool.false_eq_true, false_and, if_false, Pos.at, Fin.val_inj, @eq_comm _ m.t q, @eq_comm _ m.f q]

def RookD (dx dy : Int) : Prop := (dx = 1 ∧ dy = 0) ∨ (dx = -1 ∧ dy = 0) ∨ (dx = 0 ∧ dy = 1) ∨ (dx = 0 ∧ dy = -1)
def BishD (dx dy : Int) : Prop := (dx = 1 ∧ dy = 1) ∨ (dx = 1 ∧ dy = -1) ∨ (dx = -1 ∧ dy = 1) ∨ (dx = -1 ∧ dy = -1)

theorem RookD.isDir {dx dy : Int} (h : RookD dx dy) : IsDir dx dy := by unfold RookD at h; unfold IsDir; omega
theorem BishD.isDir {dx dy : Int} (h : BishD dx dy) : IsDir dx dy := by unfold BishD at h; unfold IsDir; omega
theorem isDir_split {dx dy : Int} (h : IsDir dx dy) : RookD dx dy ∨ BishD dx dy := by
  obtain ⟨a1, a2, a3, a4, a5⟩ := h
  rcases dir_cases a1 a2 with rfl | rfl | rfl <;> rcases dir_cases a3 a4 with rfl | rfl | rfl
  · exact Or.inr (Or.inr (Or.inr (Or.inr ⟨rfl, rfl⟩)))
  · exact Or.inl (Or.inr (Or.inl ⟨rfl, rfl⟩))
  · exact Or.inr (Or.inr (Or.inr (Or.inl ⟨rfl, rfl⟩)))
  · exact Or.inl (Or.inr (Or.inr (Or.inr ⟨rfl, rfl⟩)))
  · exact absurd rfl (a5.elim id id)
  · exact Or.inl (Or.inr (Or.inr (Or.inl ⟨rfl, rfl⟩)))
  · exact Or.inr (Or.inr (Or.inl ⟨rfl, rfl⟩))
  · exact Or.inl (Or.inl ⟨rfl, rfl⟩)
  · exact Or.inr (Or.inl ⟨rfl, rfl⟩)

theorem tst_rook_iff (k s : Sq) (occ : BB) :
    tst (rookAttacks k occ) s = true ↔ ∃ dx dy, RookD dx dy ∧ tst (ray occ k dx dy) s = true := by
  simp only [rookAttacks, tst_or, Bool.or_eq_true]
  constructor
  · rintro (((h | h) | h) | h)
    · exact ⟨1, 0, Or.inl ⟨rfl, rfl⟩, h⟩
    · exact ⟨-1, 0, Or.inr (Or.inl ⟨rfl, rfl⟩), h⟩
    · exact ⟨0, 1, Or.inr (Or.inr (Or.inl ⟨rfl, rfl⟩)), h⟩
    · exact ⟨0, -1, Or.inr (Or.inr (Or.inr ⟨rfl, rfl⟩)), h⟩
  · rintro ⟨dx, dy, (⟨rfl, rfl⟩ | ⟨rfl, rfl⟩ | ⟨rfl, rfl⟩ | ⟨rfl, rfl⟩), h⟩
    · exact Or.inl (Or.inl (Or.inl h))
    · exact Or.inl (Or.inl (Or.inr h))
    · exact Or.inl (Or.inr h)
    · exact Or.inr h

theorem tst_bishop_iff (k s : Sq) (occ : BB) :
    tst (bishopAttacks k occ) s = true ↔ ∃ dx dy, BishD dx dy ∧ tst (ray occ k dx dy) s = true := by
  simp only [bishopAttacks, tst_or, Bool.or_eq_true]
  constructor
  · rintro (((h | h) | h) | h)
    · exact ⟨1, 1, Or.inl ⟨rfl, rfl⟩, h⟩
    · exact ⟨1, -1, Or.inr (Or.inl ⟨rfl, rfl⟩), h⟩
    · exact ⟨-1, 1, Or.inr (Or.inr (Or.inl ⟨rfl, rfl⟩)), h⟩
    · exact ⟨-1, -1, Or.inr (Or.inr (Or.inr ⟨rfl, rfl⟩)), h⟩
  · rintro ⟨dx, dy, (⟨rfl, rfl⟩ | ⟨rfl, rfl⟩ | ⟨rfl, rfl⟩ | ⟨rfl, rfl⟩), h⟩
    · exact Or.inl (Or.inl (Or.inl h))
    · exact Or.inl (Or.inl (Or.inr h))
    · exact Or.inl (Or.inr h)
    · exact Or.inr h

/-- `s` is seen from `k` along some rook or bishop ray -/
def Visible (occ : BB) (k s : Sq) : Prop := tst (rookAttacks k occ) s = true ∨ tst (bishopAttacks k occ) s = true

theorem visible_of_ray (occ : BB) (k s : Sq) (dx dy : Int) (hd : IsDir dx dy) (h : tst (ray occ k dx dy) s = true) :
    Visible occ k s := by
  rcases isDir_split hd with hr | hb
  · exact Or.inl ((tst_rook_iff k s occ).2 ⟨dx, dy, hr, h⟩)
  · exact Or.inr ((tst_bishop_iff k s occ).2 ⟨dx, dy, hb, h⟩)

/-- if every ray towards `s` transfers from `occ1` to `occ2`, so does `atkFrom` -/
theorem atkFrom_transfer (pc : Pc) (occ1 occ2 : BB) (s k : Sq)
    (hray : ∀ dx dy, IsDir dx dy → tst (ray occ1 k dx dy) s = true → tst (ray occ2 k dx dy) s = true)
    (h : atkFrom pc occ1 s k = true) : atkFrom pc occ2 s k = true := by
  have hr : tst (rookAttacks k occ1) s = true → tst (rookAttacks k occ2) s = true := by
    rw [tst_rook_iff, tst_rook_iff]
    rintro ⟨dx, dy, hd, h⟩; exact ⟨dx, dy, hd, hray dx dy hd.isDir h⟩
  have hb : tst (bishopAttacks k occ1) s = true → tst (bishopAttacks k occ2) s = true := by
    rw [tst_bishop_iff, tst_bishop_iff]
    rintro ⟨dx, dy, hd, h⟩; exact ⟨dx, dy, hd, hray dx dy hd.isDir h⟩
  unfold atkFrom at h ⊢
  split <;> rename_i hk <;> simp only [hk] at h
  · exact h
  · exact h
  · exact h
  · exact hr h
  · exact hb h
  · rw [Bool.or_eq_true] at h ⊢
    exact h.imp hr hb
  · exact h

theorem reachN_prefix (emp : Sq → Bool) (x y dx dy : Int) (n : Nat) (t : Sq) (h : ReachN emp x y dx dy n t)
    (j : Nat) (q : Sq) (hj : 1 ≤ j) (hjn : j < n) (hq : stepSq x y dx dy j = some q) : ReachN emp x y dx dy j q :=
  ⟨hj, hq, fun i hi hij => h.2.2 i hi (by omega)⟩

/-- a ray towards `s` survives a change of occupancy that keeps the squares before `s` empty -/
theorem ray_transfer (occ1 occ2 : BB) (k s : Sq) (dx dy : Int) (hd : IsDir dx dy)
    (h : tst (ray occ1 k dx dy) s = true)
    (hh : ∀ q, q ≠ s → tst (ray occ1 k dx dy) q = true → tst occ1 q = false → tst occ2 q = false) :
    tst (ray occ2 k dx dy) s = true := by
  rw [tst_ray_iff _ _ _ _ _ hd] at h ⊢
  obtain ⟨n, h⟩ := h
  refine ⟨n, reachN_congr _ _ _ _ _ _ _ _ h ?_⟩
  intro j q hj1 hjn hq he
  have hne := reachN_inner_ne _ k s dx dy hd n j q h hjn hq
  have hv : tst (ray occ1 k dx dy) q = true := (tst_ray_iff _ _ _ _ _ hd).2 ⟨j, reachN_prefix _ _ _ _ _ _ _ h j q hj1 hjn hq⟩
  have := hh q hne hv (by simpa using he)
  simp [this]

theorem own_zero (w : Bool) : own w 0 = false := by cases w <;> decide

/-- `b'` is `b` after a piece of side `w` went from `f` to `t` (capture and promotion allowed, nothing else changes) -/
structure SimpleMove (b b' : Board) (w : Bool) (f t : Sq) : Prop where
  hft : f ≠ t
  own_f : own w b[f] = true
  own_t' : own w b'[t] = true
  zero_f' : b'[f] = 0
  other : ∀ q, q ≠ f → q ≠ t → b'[q] = b[q]

namespace SimpleMove
variable {b b' : Board} {w : Bool} {f t : Sq}

theorem occ_other (h : SimpleMove b b' w f t) (hv : ValidB b) (hv' : ValidB b') (q : Sq) (h1 : q ≠ f) (h2 : q ≠ t) :
    tst (occBB b') q = tst (occBB b) q := by
  rw [tst_occBB b hv, tst_occBB b' hv', h.other q h1 h2]

theorem occ_f (h : SimpleMove b b' w f t) (hv : ValidB b) : tst (occBB b) f = true := by
  rw [tst_occBB b hv]; exact bne_iff_ne.2 (own_ne_zero w _ h.own_f)

theorem occ_f' (h : SimpleMove b b' w f t) (hv' : ValidB b') : tst (occBB b') f = false := by
  rw [tst_occBB b' hv', h.zero_f']; rfl

theorem occ_t' (h : SimpleMove b b' w f t) (hv' : ValidB b') : tst (occBB b') t = true := by
  rw [tst_occBB b' hv']; exact bne_iff_ne.2 (own_ne_zero w _ h.own_t')

/-- an enemy piece of the board after the move stood there before -/
theorem enemy_after (h : SimpleMove b b' w f t) (s : Sq) (hs : own (!w) b'[s] = true) : s ≠ f ∧ s ≠ t ∧ b'[s] = b[s] := by
  have h1 : s ≠ f := by intro e; subst e; rw [h.zero_f', own_zero] at hs; cases hs
  have h2 : s ≠ t := by intro e; subst e; rw [own_excl w _ h.own_t'] at hs; cases hs
  exact ⟨h1, h2, h.other s h1 h2⟩

/-- **king-ray lemma** (`removeIllegal` / `isLegal` shortcut, not in check): if the piece that moves is not seen from
    `k` along the ray, every square seen along the ray after the move was seen before the move -/
theorem ray_before_of_after (h : SimpleMove b b' w f t) (hv : ValidB b) (hv' : ValidB b') (k s : Sq) (dx dy : Int)
    (hd : IsDir dx dy) (hnv : tst (ray (occBB b) k dx dy) f = false)
    (ha : tst (ray (occBB b') k dx dy) s = true) : tst (ray (occBB b) k dx dy) s = true := by
  have key : ∀ s', tst (ray (occBB b') k dx dy) s' = true →
      (∀ q, q ≠ s' → tst (ray (occBB b') k dx dy) q = true → tst (occBB b') q = false → q ≠ f) →
      tst (ray (occBB b) k dx dy) s' = true := by
    intro s' hs' hq
    apply ray_transfer _ _ _ _ _ _ hd hs'
    intro q hne hvq he
    have h2 : q ≠ t := by intro e; subst e; rw [h.occ_t' hv'] at he; cases he
    rw [← h.occ_other hv hv' q (hq q hne hvq he) h2]; exact he
  apply key s ha
  intro q hne hvq he e
  subst e
  have : tst (ray (occBB b) k dx dy) q = true := by
    apply key q hvq
    intro q' hne' _ _
    exact hne'
  rw [this] at hnv; cases hnv

/-- in check: if the destination is not seen from `k` along the ray, every square seen along the ray before the move
    is still seen after it -/
theorem ray_after_of_before (h : SimpleMove b b' w f t) (hv : ValidB b) (hv' : ValidB b') (k s : Sq) (dx dy : Int)
    (hd : IsDir dx dy) (hnv : tst (ray (occBB b) k dx dy) t = false)
    (hb : tst (ray (occBB b) k dx dy) s = true) : tst (ray (occBB b') k dx dy) s = true := by
  apply ray_transfer _ _ _ _ _ _ hd hb
  intro q _ hvq he
  have h1 : q ≠ f := by intro e; subst e; rw [h.occ_f hv] at he; cases he
  have h2 : q ≠ t := by intro e; subst e; rw [hvq] at hnv; cases hnv
  rw [h.occ_other hv hv' q h1 h2]; exact he

end SimpleMove

theorem kingGeom_iff (k s : Sq) : kingGeom k s = true ↔
    IsDir ((s.x : Int) - k.x) ((s.y : Int) - k.y) := by
  unfold kingGeom dxy IsDir
  simp only [Bool.and_eq_true, decide_eq_true_eq, Bool.not_eq_true', Bool.and_eq_false_iff, beq_eq_false_iff_ne, ne_eq]
  omega

theorem adjacent_visible (occ : BB) (k s : Sq) (h : kingGeom k s = true) : Visible occ k s := by
  rw [kingGeom_iff] at h
  apply visible_of_ray occ k s _ _ h
  rw [tst_ray_iff _ _ _ _ _ h]
  refine ⟨1, Nat.le_refl _, ?_, fun j h1 h2 => by omega⟩
  rw [stepSq_eq_some]
  constructor <;> simp <;> omega

theorem kingGeom_of_pawnGeom (w : Bool) (k s : Sq) (h : pawnGeom w k s = true) : kingGeom k s = true := by
  rw [kingGeom_iff]
  unfold pawnGeom dxy at h
  unfold IsDir
  simp only [Bool.and_eq_true, beq_iff_eq] at h
  cases w <;> simp at h <;> omega

/-- an attacker of `k` is seen from `k` along a ray unless it is a knight -/
theorem atkFrom_visible_or_knight (p : Pc) (occ : BB) (s k : Sq) (h : atkFrom p occ s k = true) :
    (kind p = 5 ∧ knightGeom k s = true) ∨ Visible occ k s := by
  unfold atkFrom at h
  split at h <;> rename_i hk
  · exact Or.inr (adjacent_visible occ k s h)
  · exact Or.inl ⟨hk, h⟩
  · exact Or.inr (adjacent_visible occ k s (kingGeom_of_pawnGeom _ k s h))
  · exact Or.inr (Or.inl h)
  · exact Or.inr (Or.inr h)
  · rw [Bool.or_eq_true] at h; exact Or.inr h
  · cases h

namespace SimpleMove
variable {b b' : Board} {w : Bool} {f t : Sq}

/-- not in check, the moving piece is not seen from the king along a ray ⇒ the king is not attacked after the move -/
theorem not_attacked_after (h : SimpleMove b b' w f t) (hv : ValidB b) (hv' : ValidB b') (k : Sq)
    (hna : sqAttacked b w k (occBB b) = false) (hnv : ¬ Visible (occBB b) k f) :
    sqAttacked b' w k (occBB b') = false := by
  apply Bool.eq_false_iff.2
  intro ha
  rw [sqAttacked_iff] at ha
  obtain ⟨s, hs, hatk⟩ := ha
  obtain ⟨_, _, e⟩ := h.enemy_after s hs
  have : sqAttacked b w k (occBB b) = true := by
    rw [sqAttacked_iff]
    refine ⟨s, by rw [← e]; exact hs, ?_⟩
    rw [← e]
    apply atkFrom_transfer _ _ _ _ _ _ hatk
    intro dx dy hd hr
    apply h.ray_before_of_after hv hv' k s dx dy hd _ hr
    apply Bool.eq_false_iff.2
    intro hf; exact hnv (visible_of_ray _ _ _ _ _ hd hf)
  rw [this] at hna; cases hna

/-- in check, the destination is neither seen from the king along a ray nor a knight that gives check ⇒ the king is
    still attacked after the move -/
theorem still_attacked (h : SimpleMove b b' w f t) (hv : ValidB b) (hv' : ValidB b') (k : Sq)
    (ha : sqAttacked b w k (occBB b) = true) (hnv : ¬ Visible (occBB b) k t)
    (hkn : ¬ (knightGeom k t = true ∧ b[t] = pc (!w) 5)) :
    sqAttacked b' w k (occBB b') = true := by
  rw [sqAttacked_iff] at ha ⊢
  obtain ⟨s, hs, hatk⟩ := ha
  have h1 : s ≠ f := by
    intro e; subst e; rw [own_excl w _ h.own_f] at hs; cases hs
  have h2 : s ≠ t := by
    intro e; subst e
    rcases atkFrom_visible_or_knight _ _ _ _ hatk with ⟨hk5, hg⟩ | hvis
    · apply hkn
      refine ⟨hg, ?_⟩
      have := beq_pc5 (!w) b[s]
      rw [hs, hk5] at this
      simpa using this
    · exact hnv hvis
  have e := h.other s h1 h2
  refine ⟨s, by rw [e]; exact hs, ?_⟩
  rw [e]
  apply atkFrom_transfer _ _ _ _ _ _ hatk
  intro dx dy hd hr
  apply h.ray_after_of_before hv hv' k s dx dy hd _ hr
  apply Bool.eq_false_iff.2
  intro hf; exact hnv (visible_of_ray _ _ _ _ _ hd hf)

end SimpleMove

theorem pc_king (w : Bool) : pc w 1 = (if w then WKING else BKING) := by cases w <;> rfl

theorem king_of_kind (w : Bool) (p : Pc) (ho : own w p = true) (hk : kind p = 1) : p = (if w then WKING else BKING) := by
  have := beq_pc1 w p
  rw [ho, hk] at this
  rw [← pc_king]; simpa using this

theorem kind_king (w : Bool) : kind (if w then WKING else BKING) = 1 := by cases w <;> decide
theorem own_king (w : Bool) : own w (if w then WKING else BKING) = true := by cases w <;> decide

theorem promo_own (w : Bool) (pr : Pc) (h : pr ∈ promos w) (hne : pr ≠ 0) :
    own w pr = true ∧ pr ≠ (if w then WKING else BKING) := by
  cases w <;> simp [promos] at h <;> rcases h with rfl | rfl | rfl | rfl | rfl <;> first | exact absurd rfl hne | decide

theorem pseudo_ne (p : Pos) (m : Mv) (hp : pseudo p m = true) : m.f ≠ m.t := (pseudo_basic p m hp).2.2

theorem pseudo_nown_t (p : Pos) (m : Mv) (hp : pseudo p m = true) : own p.wtm p.b[m.t] = false :=
  (pseudo_basic p m hp).2.1

theorem pseudo_own_f (p : Pos) (m : Mv) (hp : pseudo p m = true) : own p.wtm p.b[m.f] = true := pseudo_own p m hp

/-- a pseudo-legal move of a piece other than the king that is not an en-passant capture: only the from- and
    to-squares change, and the king stays where it is -/
theorem simple_of_pseudo' (p : Pos) (m : Mv) (hp : pseudo p m = true) (k : Sq) (hk : KingAt p.b p.wtm k)
    (hfk : m.f ≠ k) (hnep : isEp p m = false) :
    SimpleMove p.b (apply p m).b p.wtm m.f m.t ∧ KingAt (apply p m).b p.wtm k := by
  have hnk : ¬ kind p.b[m.f] = 1 := by
    intro h1
    exact hfk (hk.2 _ (king_of_kind _ _ (pseudo_own_f p m hp) h1))
  have hb := apply_b_simple p m hnep (fun h => hnk h.1)
  have hft := pseudo_ne p m hp
  have hprom := pseudo_promo p m hp
  have hto : own p.wtm (apply p m).b[m.t] = true ∧ (apply p m).b[m.t] ≠ (if p.wtm then WKING else BKING) := by
    rw [hb m.t, if_pos rfl]
    by_cases h0 : m.promo = 0
    · rw [h0]; simp only [bne_self_eq_false, Bool.false_eq_true, if_false]
      refine ⟨pseudo_own_f p m hp, ?_⟩
      intro e; exact hfk (hk.2 _ e)
    · have : (m.promo != 0) = true := bne_iff_ne.2 h0
      rw [this]; simp only [if_true]
      exact promo_own _ _ hprom h0
  have htk : m.t ≠ k := by
    intro e
    have := pseudo_nown_t p m hp
    subst e
    rw [hk.1, own_king] at this; cases this
  refine ⟨⟨hft, pseudo_own_f p m hp, hto.1, ?_, ?_⟩, ?_, ?_⟩
  · rw [hb m.f, if_neg hft, if_pos rfl]
  · intro q h1 h2; rw [hb q, if_neg h2, if_neg h1]
  · rw [hb k, if_neg (Ne.symm htk), if_neg (Ne.symm hfk)]; exact hk.1
  · intro s hs
    rw [hb s] at hs
    by_cases e1 : s = m.t
    · have hto' := hto.2
      rw [hb m.t, if_pos rfl] at hto'
      rw [if_pos e1] at hs; exact absurd hs hto'
    · rw [if_neg e1] at hs
      by_cases e2 : s = m.f
      · rw [if_pos e2] at hs
        cases hw : p.wtm <;> rw [hw] at hs <;> cases hs
      · rw [if_neg e2] at hs; exact hk.2 s hs

/-- a pseudo-legal move of a piece other than the king that does not go to the e.p. square: only the from- and
    to-squares change, and the king stays where it is -/
theorem simple_of_pseudo (p : Pos) (m : Mv) (hp : pseudo p m = true) (k : Sq) (hk : KingAt p.b p.wtm k)
    (hfk : m.f ≠ k) (hep : p.ep ≠ some m.t) :
    SimpleMove p.b (apply p m).b p.wtm m.f m.t ∧ KingAt (apply p m).b p.wtm k := by
  apply simple_of_pseudo' p m hp k hk hfk
  unfold isEp
  have : (p.ep == some m.t) = false := by simpa using hep
  rw [this]; simp

theorem inCheck_of_kingAt (b : Board) (hv : ValidB b) (w : Bool) (k : Sq) (hk : KingAt b w k) :
    Chess.inCheck b w = sqAttacked b w k (occBB b) := by
  unfold Chess.inCheck
  rw [kingSq_of_kingAt b w k hk, sqAttacked_spec b hv]

/-- **`MoveGen::removeIllegal` keeps exactly the moves after which the mover's king is not attacked** (order kept) -/
theorem removeIllegal_eq (p : Pos) (k : Sq) (hv : ValidB p.b) (hk : KingAt p.b p.wtm k) (l : List Mv)
    (hl : ∀ m ∈ l, pseudo p m = true) :
    removeIllegal p k l = l.filter fun m => !Chess.inCheck (apply p m).b p.wtm := by
  unfold removeIllegal
  simp only
  split
  · rename_i hchk
    apply List.filter_congr
    intro m hm
    have hp := hl m hm
    split
    · rename_i hc
      simp only [Bool.and_eq_true, bne_iff_ne, ne_eq, and_sqBit_eq_zero, Bool.not_eq_true', tst_or, Bool.or_eq_false_iff, tst_pcBB,
        beq_eq_false_iff_ne] at hc
      obtain ⟨⟨hfk, ⟨hr, hb⟩, hkn⟩, hep⟩ := hc
      obtain ⟨hs, hk'⟩ := simple_of_pseudo p m hp k hk hfk hep
      have hv' := validB_apply p hv m hp
      rw [inCheck_of_kingAt _ hv' _ k hk']
      have := hs.still_attacked hv hv' k hchk (by rintro (h | h) <;> simp_all) (fun h => hkn h.2)
      rw [this]; rfl
    · rw [inCheckAfter_eq p hv m hp]
  · rename_i hchk
    apply List.filter_congr
    intro m hm
    have hp := hl m hm
    split
    · rename_i hc
      simp only [Bool.and_eq_true, bne_iff_ne, ne_eq, and_sqBit_eq_zero, Bool.not_eq_true', tst_or, Bool.or_eq_false_iff] at hc
      obtain ⟨⟨hfk, hr, hb⟩, hep⟩ := hc
      obtain ⟨hs, hk'⟩ := simple_of_pseudo p m hp k hk hfk hep
      have hv' := validB_apply p hv m hp
      rw [inCheck_of_kingAt _ hv' _ k hk']
      have := hs.not_attacked_after hv hv' k (by simpa [inCheckK] using hchk) (by rintro (h | h) <;> simp_all)
      rw [this]; rfl
    · rw [inCheckAfter_eq p hv m hp]

/-- what `isLegal` has to return for a pseudo-legal move -/
def safeAfter (p : Pos) (m : Mv) : Bool := !Chess.inCheck (apply p m).b p.wtm

/-- in check (moveGen.cpp:625-638) -/
theorem isLegal_inCheck (p : Pos) (k : Sq) (hv : ValidB p.b) (hk : KingAt p.b p.wtm k) (m : Mv) (hp : pseudo p m = true)
    (hchk : Chess.inCheck p.b p.wtm = true) : isLegal p k m true = safeAfter p m := by
  unfold isLegal safeAfter
  simp only [if_true]
  split
  · rename_i hc
    simp only [Bool.and_eq_true, bne_iff_ne, ne_eq, and_sqBit_eq_zero, Bool.not_eq_true', tst_and, tst_pcBB,
      Bool.and_eq_false_iff, knightAttacks, tst_bbSq, beq_eq_false_iff_ne] at hc
    obtain ⟨⟨hfk, hep⟩, ⟨hr, hb⟩, hkn⟩ := hc
    obtain ⟨hs, hk'⟩ := simple_of_pseudo p m hp k hk hfk hep
    have hv' := validB_apply p hv m hp
    rw [inCheck_of_kingAt _ hv' _ k hk']
    rw [inCheck_of_kingAt _ hv _ k hk] at hchk
    have := hs.still_attacked hv hv' k hchk (by rintro (h | h) <;> simp_all)
      (fun h => by rcases hkn with h' | h' <;> simp_all)
    rw [this]; rfl
  · rw [inCheckAfter_eq p hv m hp]

/-- not in check, a piece the king does not see along a ray moves (moveGen.cpp:644-650) -/
theorem isLegal_notVisible (p : Pos) (k : Sq) (hv : ValidB p.b) (hk : KingAt p.b p.wtm k) (m : Mv) (hp : pseudo p m = true)
    (hchk : Chess.inCheck p.b p.wtm = false) (hfk : m.f ≠ k) (hep : p.ep ≠ some m.t) (hnv : ¬ Visible (occBB p.b) k m.f) :
    safeAfter p m = true := by
  unfold safeAfter
  obtain ⟨hs, hk'⟩ := simple_of_pseudo p m hp k hk hfk hep
  have hv' := validB_apply p hv m hp
  rw [inCheck_of_kingAt _ hv' _ k hk']
  rw [inCheck_of_kingAt _ hv _ k hk] at hchk
  rw [hs.not_attacked_after hv hv' k hchk hnv]; rfl

/-- not in check, an ordinary king move (moveGen.cpp:640-642): the destination is tested with the king lifted off -/
theorem isLegal_kingStep (p : Pos) (k : Sq) (hv : ValidB p.b) (hk : KingAt p.b p.wtm k) (m : Mv) (hp : pseudo p m = true)
    (hfk : m.f = k) (hnc : m.t.val ≠ m.f.val + 2 ∧ m.t.val + 2 ≠ m.f.val) :
    (!sqAttacked p.b p.wtm m.t (occBB p.b &&& ~~~sqBit m.f)) = safeAfter p m := by
  unfold safeAfter
  subst hfk
  have hkind := (congrArg kind hk.1).trans (kind_king p.wtm)
  have hnep : isEp p m = false := by
    unfold isEp; rw [Pos.at, hkind]; rfl
  have hb := apply_b_simple p m hnep (fun h => by omega)
  have hft := pseudo_ne p m hp
  have hpr : m.promo = 0 := pseudo_nonpawn_promo p m hp (by rw [Pos.at, hkind]; decide)
  have hk' : KingAt (apply p m).b p.wtm m.t := by
    constructor
    · rw [hb m.t, if_pos rfl, hpr]; simpa using hk.1
    · intro s hs
      rw [hb s] at hs
      by_cases e1 : s = m.t
      · exact e1
      · rw [if_neg e1] at hs
        by_cases e2 : s = m.f
        · rw [if_pos e2] at hs
          cases hw : p.wtm <;> rw [hw] at hs <;> cases hs
        · rw [if_neg e2] at hs
          exact absurd (hk.2 s hs) e2
  have hv' := validB_apply p hv m hp
  rw [inCheck_of_kingAt _ hv' _ m.t hk', sqAttacked_spec _ hv']
  congr 1
  apply sqAttacked_eq
  · intro q hq
    rw [tst_and, tst_not, tst_sqBit, tst_occBB _ hv, hb q, if_neg hq]
    by_cases e2 : q = m.f
    · simp [e2]
    · simp [e2]
  · intro s hs ho
    rw [hb s, if_neg hs]
    by_cases e2 : s = m.f
    · exfalso
      rw [hb s, if_neg hs, if_pos e2, own_zero, e2, own_excl _ _ (pseudo_own_f p m hp)] at ho
      rcases ho with h | h <;> cases h
    · rw [if_neg e2]

end Chess.Texel
