import TexelVerif.Chess.SANRoundtrip
/-! UCI move text round trip (property C17). -/
namespace Chess

theorem fileCh_toNat (x : Nat) (h : x < 8) : (fileCh x).toNat = 97 + x := by
  rcases lt8_cases x h with rfl | rfl | rfl | rfl | rfl | rfl | rfl | rfl <;> rfl

theorem rankCh_toNat (y : Nat) (h : y < 8) : (rankCh y).toNat = 49 + y := by
  rcases lt8_cases y h with rfl | rfl | rfl | rfl | rfl | rfl | rfl | rfl <;> rfl

theorem getSquare_sqChars (s : Sq) : getSquare (fileCh s.x) (rankCh s.y) = some s := by
  unfold getSquare
  rw [fileCh_toNat _ (Sq.x_lt s), rankCh_toNat _ (Sq.y_lt s)]
  have := mkSq?_xy s
  rw [← this]; congr 1 <;> omega

/-- the promotion piece of a move is consistent with the rank it arrives on (true of every legal move) -/
def PromoConsistent (m : Mv) : Prop :=
  m.promo = 0 ∨ (m.t.y = 7 ∧ (m.promo = WQUEEN ∨ m.promo = WROOK ∨ m.promo = WBISHOP ∨ m.promo = WKNIGHT)) ∨
  (m.t.y = 0 ∧ (m.promo = BQUEEN ∨ m.promo = BROOK ∨ m.promo = BBISHOP ∨ m.promo = BKNIGHT))

theorem uciStringToMove_four (f t : Sq) :
    uciStringToMove (sqChars f ++ sqChars t) = (some { f := f, t := t, promo := 0 }).filter fun m => !m.isEmpty := by
  simp only [uciStringToMove, sqChars, List.cons_append, List.nil_append, getSquare_sqChars]

theorem uciStringToMove_five (f t : Sq) (pc : Char) :
    uciStringToMove (sqChars f ++ sqChars t ++ [pc]) =
      (if t.y == 7 || t.y == 0 then
         if pc == ' ' then some { f := f, t := t, promo := 0 }
         else if pc == 'q' then some { f := f, t := t, promo := if t.y == 7 then WQUEEN else BQUEEN }
         else if pc == 'r' then some { f := f, t := t, promo := if t.y == 7 then WROOK else BROOK }
         else if pc == 'b' then some { f := f, t := t, promo := if t.y == 7 then WBISHOP else BBISHOP }
         else if pc == 'n' then some { f := f, t := t, promo := if t.y == 7 then WKNIGHT else BKNIGHT }
         else none
       else none).filter fun m => !m.isEmpty := by
  simp only [uciStringToMove, sqChars, List.cons_append, List.nil_append, getSquare_sqChars]

theorem uci_roundtrip_of (m : Mv) (hne : m.isEmpty = false) (hp : PromoConsistent m) :
    uciStringToMove (moveToUCI m) = some m := by
  obtain ⟨f, t, pr⟩ := m
  have hf : ∀ m : Mv, m.isEmpty = false → (some m).filter (fun m => !m.isEmpty) = some m := by
    intro m h; simp [Option.filter, h]
  rcases hp with rfl | ⟨hy, rfl | rfl | rfl | rfl⟩ | ⟨hy, rfl | rfl | rfl | rfl⟩
  · exact (uciStringToMove_four f t).trans (hf _ hne)
  -- the written letter selects its own branch; the target rank then selects the colour
  all_goals
    simp only at hy
    refine (uciStringToMove_five f t _).trans ?_
    rw [hy]
    exact hf _ hne

theorem isPromoPiece_zero (w : Bool) : isPromoPiece w 0 = false := by cases w <;> decide

theorem legal_promoConsistent (p : Pos) (m : Mv) (hm : legalB p m = true) : PromoConsistent m := by
  unfold PromoConsistent
  rcases legal_promo_cases p m hm with h | ⟨hy, hp⟩
  · exact Or.inl h
  · have hmem := promo_mem p.wtm m.promo hp
    have hne : m.promo ≠ 0 := by intro h0; rw [h0, isPromoPiece_zero] at hp; cases hp
    cases hw : p.wtm
    · rw [hw] at hmem hy
      simp only [promos, Bool.false_eq_true, if_false, List.mem_cons, List.not_mem_nil, or_false] at hmem hy
      rcases hmem with h | h | h | h | h
      · exact absurd h hne
      all_goals exact Or.inr (Or.inr ⟨hy, by simp [h, BQUEEN, BROOK, BBISHOP, BKNIGHT]⟩)
    · rw [hw] at hmem hy
      simp only [promos, if_true, List.mem_cons, List.not_mem_nil, or_false] at hmem hy
      rcases hmem with h | h | h | h | h
      · exact absurd h hne
      all_goals exact Or.inr (Or.inl ⟨hy, by simp [h, WQUEEN, WROOK, WBISHOP, WKNIGHT]⟩)

theorem legal_not_empty (p : Pos) (m : Mv) (hm : legalB p m = true) : m.isEmpty = false := by
  have hps := legalB_pseudo p m hm
  unfold pseudo at hps
  simp only [Bool.and_eq_true, bne_iff_ne, ne_eq] at hps
  have hft : m.f ≠ m.t := hps.1.2
  unfold Mv.isEmpty
  cases h : (m.f.val == 0 && m.t.val == 0)
  · rfl
  · simp only [Bool.and_eq_true, beq_iff_eq] at h
    exact absurd (Fin.ext (by omega)) hft

end Chess
