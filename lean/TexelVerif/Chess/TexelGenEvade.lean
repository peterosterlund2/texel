import TexelVerif.Chess.TexelGenCaps
/-!
`MoveGen::checkEvasions` omits no legal move when the side to move is in check (`evasions_complete`).

The argument: a legal reply that is neither a king move nor an en-passant capture changes two squares only, so every
piece that gives check must be captured or — a slider — blocked on its ray by the destination square; two different
checking pieces cannot both be neutralised by one destination, hence there is exactly one (`kingThreats` has one
bit) and the destination lies in `kingThreats | squaresBetween(king, checker)`.
-/
namespace Chess.Texel
open PosImpl (BB getP getP_eq)

/-! ## single-bit facts (finite) -/

theorem single_bit_test : ∀ a : Sq, (sqBit a != 0 && (sqBit a &&& (sqBit a - 1)) == 0) = true := by decide +kernel
theorem head_single : ∀ a : Sq, (squaresOf (sqBit a)).head? = some a := by decide +kernel

theorem foldl_mono (step : Nat → Nat → Nat) (hm : ∀ acc k i, acc.testBit i = true → (step acc k).testBit i = true)
    (l : List Nat) (init i : Nat) (h : init.testBit i = true) : (l.foldl step init).testBit i = true := by
  induction l generalizing init with
  | nil => exact h
  | cons a l ih => exact ih _ (hm _ _ _ h)

theorem foldl_hit (step : Nat → Nat → Nat) (hm : ∀ acc k i, acc.testBit i = true → (step acc k).testBit i = true)
    (l : List Nat) (init j q : Nat) (hj : j ∈ l) (hh : ∀ acc, (step acc j).testBit q = true) :
    (l.foldl step init).testBit q = true := by
  induction l generalizing init with
  | nil => cases hj
  | cons a l ih =>
    rcases List.mem_cons.1 hj with rfl | h
    · exact foldl_mono step hm l _ q (hh _)
    · exact ih _ h

theorem sgn_of_mul (n : Nat) (hn : 1 ≤ n) (dx : Int) (h1 : -1 ≤ dx) (h2 : dx ≤ 1) : sgn ((n : Int) * dx) = dx := by
  unfold sgn
  rcases dir_cases h1 h2 with rfl | rfl | rfl <;> simp <;> omega

/-- the squares strictly inside the segment from `k` to `a` are in `squaresBetween(k, a)` -/
theorem tst_between (k a t : Sq) (dx dy : Int) (hd : IsDir dx dy) (n j : Nat) (hj1 : 1 ≤ j) (hjn : j < n)
    (ha : stepSq k.x k.y dx dy n = some a) (ht : stepSq k.x k.y dx dy j = some t) : tst (betweenBB k a) t = true := by
  rw [stepSq_eq_some] at ha ht
  obtain ⟨a1, a2, a3, a4, a5⟩ := hd
  have hd1 : (dxy k a).1 = n * dx := by unfold dxy; simp only; omega
  have hd2 : (dxy k a).2 = n * dy := by unfold dxy; simp only; omega
  unfold tst betweenBB
  rw [BitVec.getLsbD_ofNat]
  simp only [t.isLt, decide_true, Bool.true_and]
  unfold between
  simp only [hd1, hd2, sgn_of_mul n (by omega) dx a1 a2, sgn_of_mul n (by omega) dy a3 a4]
  have hcond : (((n : Int) * dx == 0 && (n : Int) * dy == 0) ||
      !((n : Int) * dx == 0 || (n : Int) * dy == 0 || ((n : Int) * dx).natAbs == ((n : Int) * dy).natAbs)) = false := by
    rcases dir_cases a1 a2 with rfl | rfl | rfl <;> rcases dir_cases a3 a4 with rfl | rfl | rfl <;> simp <;> omega
  have hmax : max ((n : Int) * dx).natAbs ((n : Int) * dy).natAbs = n := by
    rcases dir_cases a1 a2 with rfl | rfl | rfl <;> rcases dir_cases a3 a4 with rfl | rfl | rfl <;> simp <;> omega
  rw [hcond, hmax]
  simp only [Bool.false_eq_true, if_false]
  apply foldl_hit _ _ _ _ j t.val (List.mem_range.2 hjn)
  · intro acc
    have hj0 : (j == 0) = false := by simp; omega
    rw [hj0]
    simp only [Bool.false_eq_true, if_false]
    have : mkSq? ((k.x : Int) + dx * (j : Int)) ((k.y : Int) + dy * (j : Int)) = some t := by
      rw [mkSq?_eq_some, Int.mul_comm dx, Int.mul_comm dy]; exact ht
    rw [this]
    simp only
    rw [Nat.testBit_or, Nat.one_shiftLeft, Nat.testBit_two_pow_self, Bool.or_true]
  · intro acc k' i h
    split
    · exact h
    · split
      · rw [Nat.testBit_or, h]; rfl
      · exact h

/-- `s` holds an enemy piece that attacks `k` -/
def Attacker (b : Board) (w : Bool) (k s : Sq) : Prop :=
  own (!w) b[s] = true ∧ atkFrom b[s] (occBB b) s k = true

theorem sqAttacked_iff_attacker (b : Board) (w : Bool) (k : Sq) :
    sqAttacked b w k (occBB b) = true ↔ ∃ s, Attacker b w k s := sqAttacked_iff b w k (occBB b)

/-- two occupied squares seen along one ray coincide (a ray ends at the first occupied square) -/
theorem ray_occ_unique (occ : BB) (k x y : Sq) (dx dy : Int) (hd : IsDir dx dy)
    (hx : tst (ray occ k dx dy) x = true) (hxo : tst occ x = true)
    (hy : tst (ray occ k dx dy) y = true) (hyo : tst occ y = true) : x = y := by
  rw [tst_ray_iff _ _ _ _ _ hd] at hx hy
  obtain ⟨n, hn⟩ := hx
  obtain ⟨m, hm⟩ := hy
  rcases Nat.lt_trichotomy n m with h | h | h
  · obtain ⟨q, hq, he⟩ := hm.2.2 n hn.1 h
    rw [hn.2.1] at hq; cases hq
    have he' : (!tst occ x) = true := he
    rw [hxo] at he'; cases he'
  · subst h
    have := hn.2.1; rw [hm.2.1] at this; exact (Option.some.inj this).symm
  · obtain ⟨q, hq, he⟩ := hn.2.2 m hm.1 h
    rw [hm.2.1] at hq; cases hq
    have he' : (!tst occ y) = true := he
    rw [hyo] at he'; cases he'

/-- a square seen along two rays from `k` lies on one ray: the rays are the same -/
theorem ray_dir_unique (occ : BB) (k t : Sq) (dx dy ex ey : Int) (hd : IsDir dx dy) (he : IsDir ex ey)
    (h1 : tst (ray occ k dx dy) t = true) (h2 : tst (ray occ k ex ey) t = true) : dx = ex ∧ dy = ey := by
  rw [tst_ray_iff _ _ _ _ _ hd] at h1
  rw [tst_ray_iff _ _ _ _ _ he] at h2
  obtain ⟨n, hn⟩ := h1
  obtain ⟨m, hm⟩ := h2
  obtain ⟨a, b, _⟩ := dir_unique _ _ _ _ _ _ hd he m n hm.1 hn.1 t hn.2.1 hm.2.1
  exact ⟨a, b⟩

namespace SimpleMove
variable {b b' : Board} {w : Bool} {f t : Sq}

/-- if the king is safe after the move, every checking piece was captured or its ray was blocked by the destination -/
theorem neutralised (h : SimpleMove b b' w f t) (hv : ValidB b) (hv' : ValidB b') (k s : Sq)
    (ha : Attacker b w k s) (hsafe : sqAttacked b' w k (occBB b') = false) :
    t = s ∨ ∃ dx dy, IsDir dx dy ∧ tst (ray (occBB b) k dx dy) s = true ∧ tst (ray (occBB b) k dx dy) t = true := by
  apply Classical.byContradiction
  intro hneg
  have hts : t ≠ s := fun e => hneg (Or.inl e)
  have hrays : ∀ dx dy, IsDir dx dy → tst (ray (occBB b) k dx dy) s = true → tst (ray (occBB b) k dx dy) t = false := by
    intro dx dy hd hs
    apply Bool.eq_false_iff.2
    intro ht
    exact hneg (Or.inr ⟨dx, dy, hd, hs, ht⟩)
  obtain ⟨hso, hatk⟩ := ha
  have h1 : s ≠ f := by intro e; subst e; rw [own_excl w _ h.own_f] at hso; cases hso
  have e := h.other s h1 (Ne.symm hts)
  have : sqAttacked b' w k (occBB b') = true := by
    rw [sqAttacked_iff]
    refine ⟨s, by rw [e]; exact hso, ?_⟩
    rw [e]
    apply atkFrom_transfer _ _ _ _ _ _ hatk
    intro dx dy hd hr
    exact h.ray_after_of_before hv hv' k s dx dy hd (hrays dx dy hd hr) hr
  rw [this] at hsafe; cases hsafe

end SimpleMove

theorem attacker_occ (b : Board) (hv : ValidB b) (w : Bool) (k s : Sq) (ha : Attacker b w k s) : tst (occBB b) s = true := by
  rw [tst_occBB b hv]; exact bne_iff_ne.2 (own_ne_zero _ _ ha.1)

/-- one destination square cannot neutralise two different checking pieces -/
theorem one_checker (b b' : Board) (w : Bool) (f t : Sq) (h : SimpleMove b b' w f t) (hv : ValidB b) (hv' : ValidB b')
    (k s1 s2 : Sq) (h1 : Attacker b w k s1) (h2 : Attacker b w k s2)
    (hsafe : sqAttacked b' w k (occBB b') = false) : s1 = s2 := by
  have o1 := attacker_occ b hv w k s1 h1
  have o2 := attacker_occ b hv w k s2 h2
  rcases h.neutralised hv hv' k s1 h1 hsafe with e1 | ⟨dx, dy, hd, r1, t1⟩
  · rcases h.neutralised hv hv' k s2 h2 hsafe with e2 | ⟨ex, ey, he, r2, t2⟩
    · exact e1.symm.trans e2
    · subst e1
      exact ray_occ_unique _ k t s2 ex ey he t2 o1 r2 o2
  · rcases h.neutralised hv hv' k s2 h2 hsafe with e2 | ⟨ex, ey, he, r2, t2⟩
    · subst e2
      exact ray_occ_unique _ k s1 t dx dy hd r1 o1 t1 o2
    · obtain ⟨a, c⟩ := ray_dir_unique _ k t dx dy ex ey hd he t1 t2
      subst a; subst c
      exact ray_occ_unique _ k s1 s2 dx dy hd r1 o1 r2 o2

theorem ite_or_and (x a y : BB) : (if (x != 0) = true then a ||| (x &&& y) else a) = a ||| (x &&& y) := by
  by_cases h : x = 0
  · subst h; simp
  · have : (x != 0) = true := bne_iff_ne.2 h
    rw [if_pos this]

/-- `kingThreats` is the set of checking pieces (given that the enemy king is not adjacent to `k`) -/
theorem tst_kingThreats (b : Board) (w : Bool) (k s : Sq) (hkk : ∀ q, b[q] = pc (!w) 1 → kingGeom k q = false) :
    tst (kingThreats b w k) s = true ↔ Attacker b w k s := by
  unfold kingThreats Attacker
  simp only [ite_or_and, pawnAtk_eq, tst_or, tst_and, tst_pcBB, knightAttacks, tst_bbSq, Bool.or_eq_true, Bool.and_eq_true,
    beq_pc2, beq_pc3, beq_pc4, beq_pc5, beq_pc6, beq_iff_eq]
  constructor
  -- the masks in the order of `kingThreats`: knight, rook | queen, bishop | queen, pawn; `h1` mask, `h2` side, `h3` kind
  · rintro (((⟨⟨h2, h3⟩, h1⟩ | ⟨(⟨h2, h3⟩ | ⟨h2, h3⟩), h1⟩) | ⟨(⟨h2, h3⟩ | ⟨h2, h3⟩), h1⟩) | ⟨⟨h2, h3⟩, h1⟩) <;>
      refine ⟨h2, ?_⟩ <;> unfold atkFrom <;> rw [h3]
    · exact h1
    · exact h1
    · simp only; rw [h1]; rfl
    · exact h1
    · simp only; rw [h1]; simp
    · simp only; rw [isWhite_of_own _ _ h2, Bool.not_not]; exact h1
  · rintro ⟨h2, h⟩
    unfold atkFrom at h
    split at h
    · rename_i hk
      have := hkk s ((pc_iff (!w) _ ⟨1, by decide⟩ (by decide)).2 ⟨h2, hk⟩)
      rw [this] at h; cases h
    · rename_i hk; exact Or.inl (Or.inl (Or.inl ⟨⟨h2, hk⟩, h⟩))
    · rename_i hk
      rw [isWhite_of_own _ _ h2, Bool.not_not] at h
      exact Or.inr ⟨⟨h2, hk⟩, h⟩
    · rename_i hk; exact Or.inl (Or.inl (Or.inr ⟨Or.inl ⟨h2, hk⟩, h⟩))
    · rename_i hk; exact Or.inl (Or.inr ⟨Or.inl ⟨h2, hk⟩, h⟩)
    · rename_i hk
      rcases Bool.or_eq_true _ _ ▸ h with h | h
      · exact Or.inl (Or.inl (Or.inr ⟨Or.inr ⟨h2, hk⟩, h⟩))
      · exact Or.inl (Or.inr ⟨Or.inr ⟨h2, hk⟩, h⟩)
    · cases h

/-- with exactly one checking piece `a`, `validTargets` is `a` and the squares between `a` and the king -/
theorem validTargets_single (b : Board) (w : Bool) (k a : Sq) (hkk : ∀ q, b[q] = pc (!w) 1 → kingGeom k q = false)
    (ha : Attacker b w k a) (huniq : ∀ s, Attacker b w k s → s = a) :
    validTargets b w k = sqBit a ||| betweenBB k a := by
  have hkt : kingThreats b w k = sqBit a := by
    apply bb_ext_sq
    intro s
    rw [tst_sqBit, Bool.eq_iff_iff, tst_kingThreats b w k s hkk, decide_eq_true_eq]
    exact ⟨huniq s, fun e => e ▸ ha⟩
  unfold validTargets
  simp only [hkt]
  rw [if_pos (single_bit_test a), head_single a]

/-- the destination that neutralises the only checking piece lies in `validTargets` -/
theorem neutraliser_valid (occ : BB) (k a t : Sq) (hao : tst occ a = true)
    (h : t = a ∨ ∃ dx dy, IsDir dx dy ∧ tst (ray occ k dx dy) a = true ∧ tst (ray occ k dx dy) t = true) :
    tst (sqBit a ||| betweenBB k a) t = true := by
  rw [tst_or, Bool.or_eq_true]
  rcases h with e | ⟨dx, dy, hd, ra, rt⟩
  · left; rw [e, tst_sqBit]; simp
  · rw [tst_ray_iff _ _ _ _ _ hd] at ra rt
    obtain ⟨n, hn⟩ := ra
    obtain ⟨j, hj⟩ := rt
    rcases Nat.lt_trichotomy j n with h | h | h
    · right; exact tst_between k a t dx dy hd n j hj.1 h hn.2.1 hj.2.1
    · subst h
      left
      have := hj.2.1; rw [hn.2.1] at this
      rw [← Option.some.inj this, tst_sqBit]; simp
    · exfalso
      obtain ⟨q, hq, he⟩ := hj.2.2 n hn.1 h
      rw [hn.2.1] at hq; cases hq
      have he' : (!tst occ a) = true := he
      rw [hao] at he'; cases he'

theorem isEp_facts (p : Pos) (m : Mv) (h : isEp p m = true) :
    kind p.b[m.f] = 6 ∧ p.ep = some m.t ∧ m.f.x ≠ m.t.x := by
  unfold isEp at h
  simp only [Bool.and_eq_true, beq_iff_eq, bne_iff_ne, ne_eq] at h
  exact ⟨h.1.1.1, h.1.1.2, h.2⟩

/-- **`MoveGen::checkEvasions` omits no legal move when the side to move is in check.**  Extra hypothesis: the enemy
    king does not stand next to the mover's king (true in every position where the side not to move is not in check;
    without it the specification lets a piece capture the "checking" king, which the code does not generate). -/
theorem evasions_complete (p : Pos) (k : Sq) (h : GenWF p k)
    (hkk : ∀ q, p.b[q] = pc (!p.wtm) 1 → kingGeom k q = false)
    (hchk : Chess.inCheck p.b p.wtm = true) (m : Mv) (hl : legalB p m = true) : m ∈ checkEvasions p k := by
  obtain ⟨hv, hk, hep⟩ := h
  have hl' := hl
  unfold legalB at hl'
  simp only [Bool.and_eq_true, Bool.not_eq_true'] at hl'
  obtain ⟨hp, hsafe⟩ := hl'
  have hv' := validB_apply p hv m hp
  have hchk0 := hchk
  rw [inCheck_of_kingAt _ hv _ k hk] at hchk
  unfold checkEvasions
  simp only [List.mem_append]
  by_cases hfk : m.f = k
  · -- king moves are not restricted
    have h1 := (congrArg kind (hfk ▸ hk.1)).trans (kind_king p.wtm)
    have hp' := hp
    rw [pseudo_king_iff p m h1] at hp'
    obtain ⟨_, ht, hne, hpr, hmv⟩ := hp'
    have hstep : (dxy m.f m.t).1.natAbs ≤ 1 ∧ (dxy m.f m.t).2.natAbs ≤ 1 := by
      rcases hmv with h | ⟨_, _, _, d⟩ | ⟨_, _, _, d⟩
      · exact h
      · have := castleOk_notInCheck p true d; rw [hchk0] at this; cases this
      · have := castleOk_notInCheck p false d; rw [hchk0] at this; cases this
    refine Or.inl (Or.inl (Or.inr ?_))
    rw [mem_kingStep]
    exact ⟨hfk, hpr, by rw [← hfk]; exact (kingGeom_iff' m.f m.t).2 ⟨hstep, hne⟩, ht⟩
  · have key : isEp p m = true ∨ tst (validTargets p.b p.wtm k) m.t = true := by
      cases hE : isEp p m
      · right
        obtain ⟨hs, hk'⟩ := simple_of_pseudo' p m hp k hk hfk hE
        rw [inCheck_of_kingAt _ hv' _ k hk'] at hsafe
        obtain ⟨a, ha⟩ := (sqAttacked_iff_attacker _ _ _).1 hchk
        have huniq : ∀ s, Attacker p.b p.wtm k s → s = a :=
          fun s hs' => one_checker _ _ _ _ _ hs hv hv' k s a hs' ha hsafe
        rw [validTargets_single p.b p.wtm k a hkk ha huniq]
        exact neutraliser_valid (occBB p.b) k a m.t (attacker_occ _ hv _ _ _ ha) (hs.neutralised hv hv' k a ha hsafe)
      · left; rfl
    have hnown := pseudo_nown_t p m hp
    have hV : kind p.b[m.f] ≠ 6 → tst ((fun _ : Sq => ~~~colorBB p.b p.wtm &&& validTargets p.b p.wtm k) m.f) m.t = true := by
      intro h6
      rcases key with hE | hVt
      · exact absurd (isEp_facts p m hE).1 h6
      · simp only [tst_and, tst_not, tst_colorBB, hnown, hVt]; rfl
    rcases kind_of_own _ _ (pseudo_own_f p m hp) with h1 | h2 | h3 | h4 | h5 | h6
    · exact absurd (hk.2 _ (king_of_kind _ _ (pseudo_own_f p m hp) h1)) hfk
    · exact Or.inl (Or.inl (Or.inl (Or.inl (Or.inl
        (section_mem p ⟨2, by decide⟩ (by decide) (by decide) _ _ (fun f t hk => attacks_queen p.b hv f t hk) m hp h2
          (hV (by rw [h2]; decide)))))))
    · exact Or.inl (Or.inl (Or.inl (Or.inl (Or.inr
        (section_mem p ⟨3, by decide⟩ (by decide) (by decide) _ _ (fun f t hk => attacks_rook p.b hv f t hk) m hp h3
          (hV (by rw [h3]; decide)))))))
    · exact Or.inl (Or.inl (Or.inl (Or.inr
        (section_mem p ⟨4, by decide⟩ (by decide) (by decide) _ _ (fun f t hk => attacks_bishop p.b hv f t hk) m hp h4
          (hV (by rw [h4]; decide))))))
    · exact Or.inl (Or.inr
        (section_mem p ⟨5, by decide⟩ (by decide) (by decide) _ _ (fun f t hk => attacks_knight p.b f t hk) m hp h5
          (hV (by rw [h5]; decide))))
    · refine Or.inr ?_
      have hb := (pc_iff _ _ ⟨6, by decide⟩ (by decide)).2 ⟨pseudo_own_f p m hp, h6⟩
      have hp' := hp
      rw [pseudo_pawn_iff p m hb] at hp'
      obtain ⟨_, hprom, hmv⟩ := hp'
      have hcb := capture_bridge p hv hep p.wtm m.t
      -- a push stays on its file, so it is not an en-passant capture
      have hsame : ∀ n : Int, (m.t.val : Int) = m.f.val + n * fwd p.wtm → n = 8 ∨ n = 16 →
          tst (validTargets p.b p.wtm k) m.t = true := by
        intro n h1 h2
        rcases key with hE | hVt
        · exfalso
          apply (isEp_facts p m hE).2.2
          have := fwd_cases p.wtm
          unfold Sq.x
          rcases h2 with rfl | rfl <;> omega
        · exact hVt
      apply mem_evasionPawn p hv _ m hb ((promo_bridge _ m hmv.rank).2 hprom)
      rcases hmv with ⟨a, c⟩ | ⟨a, b, c, d⟩ | ⟨hd, hcp⟩
      · exact Or.inl ⟨a, c, hsame 8 a (Or.inl rfl)⟩
      · exact Or.inr (Or.inl ⟨a, b, ⟨c, hsame 16 a (Or.inr rfl)⟩, d⟩)
      · refine Or.inr (Or.inr ⟨hd, ?_⟩)
        rcases key with hE | hVt
        · exact Or.inr (isEp_facts p m hE).2.1
        · rcases hcb.2 ⟨hnown, hcp⟩ with h | h
          · exact Or.inl ⟨h, hVt⟩
          · exact Or.inr h

theorem kingsApart_of_b (p : Pos) (k : Sq) (h : kingsApartB p k = true) :
    ∀ q, p.b[q] = pc (!p.wtm) 1 → kingGeom k q = false := by
  unfold kingsApartB at h
  simp only [List.all_eq_true, allSq, List.mem_finRange, true_imp_iff, Bool.or_eq_true, Bool.not_eq_true', beq_eq_false_iff_ne] at h
  intro q hq
  rcases h q with h | h
  · exact absurd hq h
  · exact h

end Chess.Texel
