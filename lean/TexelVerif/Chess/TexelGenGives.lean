import TexelVerif.Chess.TexelGenGcChange
/-!
# `MoveGen::givesCheck` against the specification

`givesCheck_eq`: for a position whose side *not* to move has exactly one king (on `ok`) that is not attacked, and whose
en-passant square is sane, and for every pseudo-legal move `m` that does not put the mover's king next to the enemy king
(every legal move: `givesCheck_legal`), the model of `MoveGen::givesCheck` returns `inCheck` of the opponent on the
board after the move.  Three kinds of moves: ordinary (`gives_simple`, here, with the hypotheses `GcWF` and `EpSane`),
en passant (`gives_ep`, `TexelGenGivesEp`), castling (`gives_castle`, `TexelGenGivesCastle`, where `givesCheck_eq` and
`givesCheck_legal` are assembled).
-/
namespace Chess.Texel
open PosImpl (BB getP getP_eq)

/-- the en-passant square, if any, is empty, lies on the sixth rank of the mover and the pawn that made the double step
    stands behind it (what `readFEN` enforces and `makeMove` establishes: C02 `EpOk`).  The rank is the part `givesCheck`
    relies on: without it an e.p. capture could also be a promotion, which the e.p. block of the C++ does not handle -/
def EpSane (p : Pos) : Prop :=
  PosImpl.EpOk p ∧ ∀ e, p.ep = some e → e.y = (if p.wtm then 5 else 2)

/-- what `givesCheck` assumes: piece codes 0..12, the opponent's king on `ok` and nowhere else, the opponent is not in
    check, the en-passant square is sane -/
structure GcWF (p : Pos) (ok : Sq) : Prop where
  valid : ValidB p.b
  oking : KingAt p.b (!p.wtm) ok
  safe : Chess.inCheck p.b (!p.wtm) = false
  ep : EpSane p

theorem GcWF.notAttacked {p : Pos} {ok : Sq} (h : GcWF p ok) : sqAttacked p.b (!p.wtm) ok (occBB p.b) = false := by
  rw [← inCheck_of_kingAt _ h.valid _ ok h.oking]; exact h.safe

/-! ## a pseudo-legal capture attacks the captured piece -/

theorem king_move_cases (p : Pos) (m : Mv) (hp : pseudo p m = true) (hk : kind p.b[m.f] = 1) :
    ((dxy m.f m.t).1.natAbs ≤ 1 ∧ (dxy m.f m.t).2.natAbs ≤ 1) ∨
      ∃ short, castleOk p short = true ∧ m.f.val = (if p.wtm then 4 else 60) ∧
        (m.t.val : Int) = m.f.val + (if short then 2 else -2) := by
  obtain ⟨_, _, _, _, hmv⟩ := (pseudo_king_iff p m hk).1 hp
  have hf4 : ∀ (c : m.f.val = (if p.wtm then 4 else 60)), m.f.val = 4 ∨ m.f.val = 60 := by
    intro c; cases hw : p.wtm <;> rw [hw] at c <;> simp at c <;> omega
  rcases hmv with h | ⟨a, b, c, d⟩ | ⟨a, b, c, d⟩
  · exact Or.inl h
  · exact Or.inr ⟨true, d, c, by simpa using (castle_target m.f m.t (hf4 c) 2 (Or.inl rfl)).1 ⟨a, b⟩⟩
  · exact Or.inr ⟨false, d, c, by simpa using (castle_target m.f m.t (hf4 c) (-2) (Or.inr rfl)).1 ⟨a, b⟩⟩

theorem pseudo_capture_attacks (p : Pos) (m : Mv) (hp : pseudo p m = true) (hne : p.b[m.t] ≠ 0) :
    attacks p.b m.f m.t = true := by
  have hown := pseudo_own_f p m hp
  have hft := pseudo_ne p m hp
  rcases kind_of_own _ _ hown with h1 | h2 | h3 | h4 | h5 | h6
  · rcases king_move_cases p m hp h1 with h | ⟨short, hco, hf, ht⟩
    · unfold attacks; simp only [h1]
      have hne0 : ¬ ((dxy m.f m.t).1 = 0 ∧ (dxy m.f m.t).2 = 0) := by
        rintro ⟨a, b⟩
        apply hft
        unfold dxy at a b; simp only at a b
        exact Sq.ext_xy _ _ (by omega) (by omega)
      simp only [Bool.and_eq_true, decide_eq_true_eq, Bool.not_eq_true', Bool.and_eq_false_iff, beq_eq_false_iff_ne, ne_eq]
      exact ⟨h, by omega⟩
    · exact absurd (castleOk_dest_empty p m short hco hf ht) hne
  · exact ((pseudo_other_iff p m (by rw [h2]; decide) (by rw [h2]; decide)).1 hp).2.2.2
  · exact ((pseudo_other_iff p m (by rw [h3]; decide) (by rw [h3]; decide)).1 hp).2.2.2
  · exact ((pseudo_other_iff p m (by rw [h4]; decide) (by rw [h4]; decide)).1 hp).2.2.2
  · exact ((pseudo_other_iff p m (by rw [h5]; decide) (by rw [h5]; decide)).1 hp).2.2.2
  · have hiw := isWhite_of_own _ _ hown
    unfold pseudo at hp
    simp only [Pos.at, h6, Bool.and_eq_true, Bool.or_eq_true, beq_iff_eq, bne_iff_ne, ne_eq] at hp
    obtain ⟨_, _, hmv⟩ := hp
    unfold attacks
    simp only [h6, hiw, Bool.and_eq_true, beq_iff_eq]
    rcases hmv with (⟨_, h0⟩ | ⟨⟨_, h0⟩, _⟩) | ⟨⟨a, b⟩, _⟩
    · exact absurd h0 hne
    · exact absurd h0 hne
    · exact ⟨a, b⟩

theorem not_capture_king (p : Pos) (ok : Sq) (h : GcWF p ok) (m : Mv) (hp : pseudo p m = true) : m.t ≠ ok := by
  intro e
  subst e
  have hne : p.b[m.t] ≠ 0 := by
    rw [h.oking.1]; cases p.wtm <;> decide
  have ha := pseudo_capture_attacks p m hp hne
  rw [attacks_eq_atkFrom p.b (occBB p.b) m.f m.t (fun q _ => tst_occBB p.b h.valid q)] at ha
  have : sqAttacked p.b (!p.wtm) m.t (occBB p.b) = true := by
    rw [sqAttacked_iff]; simp only [Bool.not_not]
    exact ⟨m.f, pseudo_own_f p m hp, ha⟩
  rw [h.notAttacked] at this; cases this

/-- the piece standing on the to-square after the move -/
def newPc (p : Pos) (m : Mv) : Pc := if m.promo != 0 then m.promo else p.b[m.f]

theorem kind_newPc (p : Pos) (m : Mv) : kind (newPc p m) = movedKind p m := by
  unfold newPc movedKind
  by_cases h : m.promo = 0 <;> simp [h]

theorem own_newPc (p : Pos) (m : Mv) (hp : pseudo p m = true) : own p.wtm (newPc p m) = true := by
  unfold newPc
  by_cases h : m.promo = 0
  · rw [h]; simp only [bne_self_eq_false, Bool.false_eq_true, if_false]; exact pseudo_own_f p m hp
  · rw [if_pos (bne_iff_ne.2 h)]; exact (promo_own _ _ (pseudo_promo p m hp) h).1

theorem promo_kind (p : Pos) (m : Mv) (hp : pseudo p m = true) (h0 : m.promo ≠ 0) :
    kind m.promo ≠ 1 ∧ kind m.promo ≠ 6 ∧ kind p.b[m.f] = 6 := by
  have hk : kind p.b[m.f] = 6 := by
    apply Classical.byContradiction
    intro h6
    exact h0 (pseudo_nonpawn_promo p m hp h6)
  have := pseudo_promo p m hp
  cases hw : p.wtm <;> rw [hw] at this <;> simp [promos] at this <;>
    rcases this with h | h | h | h | h <;> first | exact absurd h h0 | (rw [h]; exact ⟨by decide, by decide, hk⟩)

theorem newPc_of_promo0 (p : Pos) (m : Mv) (h : m.promo = 0) : newPc p m = p.b[m.f] := by
  unfold newPc; simp [h]

theorem movedKind_king_pawn (p : Pos) (m : Mv) (hp : pseudo p m = true) (k : UInt8) (hk : k = 1 ∨ k = 6)
    (e : movedKind p m = k) : kind p.b[m.f] = k := by
  by_cases h0 : m.promo = 0
  · unfold movedKind at e; simpa [h0] using e
  · exfalso
    obtain ⟨a, b, _⟩ := promo_kind p m hp h0
    unfold movedKind at e
    simp [h0] at e
    rcases hk with rfl | rfl
    · exact a e
    · exact b e

/-- an unchanged slider sees the king after the move along a ray whose first occupied square before the move was the
    from-square, and the rest of the ray passes no other vacated square: the second block of `givesCheck` fires -/
theorem disc_of_xray (p : Pos) (m : Mv) (K : Sq) (hK : KingAt p.b (!p.wtm) K) (hp : pseudo p m = true)
    (hstep : kind p.b[m.f] = 1 → (dxy m.f m.t).1.natAbs ≤ 1 ∧ (dxy m.f m.t).2.natAbs ≤ 1)
    (b' : Board) (V F : Sq → Prop) (hch : Change p.b b' p.wtm V F) (hFt : F m.t)
    (s : Sq) (dx dy : Int) (n j : Nat) (hFs : ¬ F s) (hso : own p.wtm p.b[s] = true) (hsl : sliderOn p.b[s] dx dy)
    (hseg : Seg b' K dx dy n s) (hj1 : 1 ≤ j) (hjn : j < n) (hsf : Seg p.b K dx dy j m.f)
    (hrest : ∀ l q, 1 ≤ l → l < n - j → stepSq m.f.x m.f.y dx dy l = some q → ¬ V q) :
    gcDisc p.b p.wtm K m.f m.t = true := by
  rw [gcDisc_iff _ _ _ hK]
  have hd := hsl.isDir
  have hrestSeg : Seg p.b m.f dx dy (n - j) s := hch.seg_before (hseg.suf j m.f hjn hsf.step) hrest
  refine ⟨-dx, -dy, j, n - j, s, isDir_neg hd, hsf.rev, ?_, by rw [Int.neg_neg, Int.neg_neg]; exact hrestSeg,
    behindOk_neg (behindOk_of_slider _ _ _ _ _ hso hsl)⟩
  exact disc_dir_ne p m hp hstep b' (own_ne_zero _ _ (hch.fill _ hFt)) K s dx dy hd n j hj1 hjn hsf.step hseg
    (fun e => hFs (e ▸ hFt)) (own_ne_zero _ _ hso)

/-- conversely, when the second block fires the slider behind the from-square sees the king after the move -/
theorem xray_of_disc (p : Pos) (m : Mv) (K : Sq) (hK : KingAt p.b (!p.wtm) K) (hp : pseudo p m = true)
    (b' : Board) (V F : Sq → Prop) (hch : Change p.b b' p.wtm V F) (hF : ∀ q, F q ↔ q = m.t) (hVf : V m.f)
    (hVo : ∀ q, V q → q = m.f ∨ own p.wtm p.b[q] = false)
    (h : gcDisc p.b p.wtm K m.f m.t = true) :
    XRay p.b b' p.wtm V F K := by
  obtain ⟨ex, ey, n, i, s, he, hsK, hne, hss, hbeh⟩ := (gcDisc_iff _ _ _ hK _ _).1 h
  obtain ⟨hso, hsl⟩ := slider_of_behindOk _ _ _ _ _ (behindOk_neg hbeh)
  have hst : s ≠ m.t := by
    intro e; rw [e, pseudo_nown_t p m hp] at hso; cases hso
  have hsf : s ≠ m.f := (hss.ne (isDir_neg he)).symm
  have hVs : ¬ V s := by
    intro hV
    rcases hVo s hV with e | e
    · exact hsf e
    · rw [e] at hso; cases hso
  have tnot : ∀ l, 1 ≤ l → stepSq K.x K.y (-ex) (-ey) l = some m.t → False := by
    intro l hl hq
    have := on_ray_dir K m.t (-ex) (-ey) (isDir_neg he) l hl hq
    rw [Int.neg_neg, Int.neg_neg] at this
    exact hne this
  have s1 : Seg b' K (-ex) (-ey) n m.f :=
    hch.seg_after hsK.rev (fun l q h1 _ hq hFq => tnot l h1 ((hF q).1 hFq ▸ hq))
  have s2 : Seg b' m.f (-ex) (-ey) i s :=
    hch.seg_after hss (fun l q h1 _ hq hFq => by
      have e : q = m.t := (hF q).1 hFq
      subst e
      exact tnot (n + l) (by omega) (by rw [← stepSq_from K m.f (-ex) (-ey) n l hsK.rev.step]; exact hq))
  exact ⟨s, -ex, -ey, n + i, n, m.f, fun hFs => hst ((hF s).1 hFs), hVs, hso, hsl, s1.join (hch.vac _ hVf) s2, hsK.pos,
    by have := hss.pos; omega, hVf, hsK.rev⟩

/-- The arriving piece attacks the king iff the first or third block fires.  A slider's ray that avoids the vacated `f` was
    open before (first block); one through `f` belongs to a promoted piece — the old one would have attacked already —
    (third block).  Conversely the third block's line from `f` to `K` contains `t`, before `f` (`t … f` empty by `no_jump`)
    or between `f` and `K`. -/
theorem direct_simple (p : Pos) (K : Sq) (H : GcWF p K) (m : Mv) (hp : pseudo p m = true)
    (hkk : kind p.b[m.f] = 1 → kingGeom K m.t = false)
    (b' : Board) (hv' : ValidB b') (hch : Change p.b b' p.wtm (fun q => q = m.f) (fun q => q = m.t))
    (ht : b'[m.t] = newPc p m) :
    atkFrom b'[m.t] (occBB b') m.t K = true ↔
      (gcDirect p.b p.wtm K (movedKind p m) m.t = true ∨ gcPromo p.b p.wtm K (movedKind p m) m.promo m.f m.t = true) := by
  have hv := H.valid
  have hK := H.oking
  have hkind := kind_newPc p m
  have hown := own_newPc p m hp
  have hiw := isWhite_of_own _ _ hown
  have hft := pseudo_ne p m hp
  rw [ht]
  constructor
  · intro ha
    rcases atkFrom_cases _ _ _ _ ha with ⟨hk, hg⟩ | ⟨hk, hg⟩ | ⟨hk, hg⟩ | ⟨dx, dy, hsl, hr⟩
    · rw [hkk (movedKind_king_pawn p m hp 1 (Or.inl rfl) (hkind ▸ hk))] at hg; cases hg
    · left
      rw [gcDirect_iff _ _ _ hK]
      exact Or.inr (Or.inr (Or.inr ⟨by rw [← hkind]; exact hk, by rw [knightGeom_swap]; exact hg⟩))
    · left
      rw [gcDirect_iff _ _ _ hK]
      refine Or.inr (Or.inr (Or.inl ⟨by rw [← hkind]; exact hk, ?_⟩))
      rw [hiw, pawnGeom_swap] at hg; exact hg
    · have hd := hsl.isDir
      obtain ⟨n, hseg⟩ := (tst_ray_seg b' hv' K m.t dx dy hd).1 hr
      by_cases hin : ∃ j, 1 ≤ j ∧ j < n ∧ stepSq K.x K.y dx dy j = some m.f
      · obtain ⟨j, hj1, hjn, hjf⟩ := hin
        have s1 : Seg p.b K dx dy j m.f := hch.seg_before (hseg.pre j m.f hj1 hjn hjf) (fun l q _ h2 hq hV => by
          have hV' : q = m.f := hV
          rw [hV'] at hq
          have := step_inj _ _ _ _ hd l j _ hq hjf
          omega)
        by_cases h0 : m.promo = 0
        · exfalso
          rw [newPc_of_promo0 p m h0] at hsl
          have : sqAttacked p.b (!p.wtm) K (occBB p.b) = true := by
            rw [sqAttacked_iff]; simp only [Bool.not_not]
            exact ⟨m.f, pseudo_own_f p m hp,
              atkFrom_of_slider _ _ _ _ dx dy hsl ((tst_ray_seg p.b hv K m.f dx dy hd).2 ⟨j, s1⟩)⟩
          rw [H.notAttacked] at this; cases this
        · right
          rw [gcPromo_iff _ _ _ hK]
          refine ⟨h0, -dx, -dy, j, on_ray_dir K m.t dx dy hd n hseg.pos hseg.step, s1.rev, ?_⟩
          rw [← hkind]; exact kindOn_neg hsl
      · left
        have s1 : Seg p.b K dx dy n m.t := hch.seg_before hseg (fun l q h1 h2 hq hV => by
          have hV' : q = m.f := hV
          exact hin ⟨l, h1, h2, hV' ▸ hq⟩)
        rw [gcDirect_iff _ _ _ hK, ← hkind]
        rcases hsl with ⟨hd', hk'⟩ | ⟨hd', hk'⟩
        · exact Or.inl ⟨hk'.symm, -dx, -dy, n, rookD_neg hd', s1.rev⟩
        · exact Or.inr (Or.inl ⟨hk'.symm, -dx, -dy, n, bishD_neg hd', s1.rev⟩)
  · have tstart : ∀ (dx dy : Int), IsDir dx dy → ∀ l q, 1 ≤ l → stepSq m.t.x m.t.y dx dy l = some q → ¬ (q = m.t) := by
      intro dx dy hd l q h1 hq e
      subst e
      have := step_inj _ _ _ _ hd l 0 _ hq (stepSq_zero m.t dx dy)
      omega
    have hslide : ∀ (dx dy : Int) (n : Nat), kindOn (movedKind p m) dx dy → Seg b' m.t dx dy n K →
        atkFrom (newPc p m) (occBB b') m.t K = true := by
      intro dx dy n hk s1
      have hsl : sliderOn (newPc p m) (-dx) (-dy) := by
        show kindOn (kind (newPc p m)) (-dx) (-dy)
        rw [hkind]; exact kindOn_neg hk
      exact atkFrom_of_slider _ _ _ _ (-dx) (-dy) hsl ((tst_ray_seg b' hv' K m.t _ _ hsl.isDir).2 ⟨n, s1.rev⟩)
    rintro (h | h)
    · rcases (gcDirect_iff _ _ _ hK _ _).1 h with ⟨hk, dx, dy, n, hd, hs⟩ | ⟨hk, dx, dy, n, hd, hs⟩ | ⟨h6, hg⟩ | ⟨h5, hg⟩
      · exact hslide dx dy n (Or.inl ⟨hd, hk.symm⟩) (hch.seg_after hs (fun l q h1 _ hq => tstart dx dy hd.isDir l q h1 hq))
      · exact hslide dx dy n (Or.inr ⟨hd, hk.symm⟩) (hch.seg_after hs (fun l q h1 _ hq => tstart dx dy hd.isDir l q h1 hq))
      · rw [atkFrom_pawn _ _ _ _ (by rw [hkind]; exact h6), hiw, pawnGeom_swap]; exact hg
      · rw [atkFrom_knight _ _ _ _ (by rw [hkind]; exact h5), knightGeom_swap]; exact hg
    · obtain ⟨h0, dx, dy, n, hdir, hs, hk⟩ := (gcPromo_iff _ _ _ hK _ _ _ _).1 h
      have hd := hk.isDir
      obtain ⟨j, hj1, hjt⟩ := (direction_iff m.t K dx dy hd).1 hdir
      apply hslide dx dy j hk
      rcases Nat.lt_trichotomy j n with hlt | heq | hgt
      · have hftq : stepSq m.f.x m.f.y dx dy (n - j) = some m.t := stepSq_diff m.f m.t K dx dy n j hs.step hjt (by omega)
        have s1 := hs.suf (n - j) m.t (by omega) hftq
        have e : n - (n - j) = j := by omega
        rw [e] at s1
        exact hch.seg_after s1 (fun l q h1 _ hq => tstart dx dy hd l q h1 hq)
      · exfalso
        subst heq
        have := stepSq_diff m.f m.t K dx dy j j hs.step hjt (Nat.le_refl _)
        rw [Nat.sub_self, stepSq_zero] at this
        exact hft (Option.some.inj this)
      · have htf : stepSq m.t.x m.t.y dx dy (j - n) = some m.f := stepSq_diff m.t m.f K dx dy j n hjt hs.step (by omega)
        have hback : stepSq m.f.x m.f.y (-dx) (-dy) (j - n) = some m.t := by
          rw [stepSq_rev m.t m.f dx dy (j - n) (j - n) (Nat.le_refl _) htf, Nat.sub_self, stepSq_zero]
        have s0 : Seg b' m.t dx dy (j - n) m.f := by
          refine ⟨by omega, htf, ?_⟩
          intro l hl1 hl2
          obtain ⟨q, hq⟩ := step_between m.t m.f dx dy hd (j - n) l htf (by omega)
          refine ⟨q, hq, ?_⟩
          have hq' : stepSq m.f.x m.f.y (-dx) (-dy) (j - n - l) = some q := by
            rw [stepSq_rev m.t m.f dx dy (j - n) (j - n - l) (by omega) htf, ← hq]; congr 1; omega
          have hb0 := no_jump p m hp (by rw [(promo_kind p m hp h0).2.2]; decide) (-dx) (-dy) (isDir_neg hd) (j - n) (j - n - l) (by omega) (by omega) hback q hq'
          have hqf : ¬ (q = m.f) := by
            intro e; subst e
            have := step_inj _ _ _ _ hd l (j - n) _ hq htf
            omega
          have hqt : ¬ (q = m.t) := tstart dx dy hd l q hl1 hq
          unfold emp
          rw [hch.other q hqf hqt, hb0]; rfl
        have s2 : Seg b' m.f dx dy n K := hch.seg_after hs (fun l q h1 _ hq hF => by
          have hF' : q = m.t := hF
          rw [hF'] at hq
          have h3 : stepSq m.t.x m.t.y dx dy (j - n + l) = some m.t := by
            rw [← stepSq_from m.t m.f dx dy (j - n) l htf]; exact hq
          have := step_inj _ _ _ _ hd (j - n + l) 0 _ h3 (stepSq_zero m.t dx dy)
          omega)
        have s3 := s0.join (hch.vac m.f rfl) s2
        have e : j - n + n = j := by omega
        rw [e] at s3; exact s3

theorem change_simple (p : Pos) (m : Mv) (hp : pseudo p m = true) (hE : isEp p m = false)
    (hC : ¬ (kind p.b[m.f] = 1 ∧ (m.t.val = m.f.val + 2 ∨ m.t.val + 2 = m.f.val))) :
    Change p.b (apply p m).b p.wtm (fun q => q = m.f) (fun q => q = m.t) ∧ (apply p m).b[m.t] = newPc p m := by
  have hb := apply_b_simple p m hE hC
  have hft := pseudo_ne p m hp
  have ht : (apply p m).b[m.t] = newPc p m := by rw [hb m.t, if_pos rfl]; rfl
  refine ⟨⟨?_, ?_, ?_⟩, ht⟩
  · intro q h1 h2; rw [hb q, if_neg h2, if_neg h1]
  · intro q h1
    have h1' : q = m.f := h1
    subst h1'; rw [hb m.f, if_neg hft, if_pos rfl]
  · intro q h1
    have h1' : q = m.t := h1
    subst h1'; rw [ht]; exact own_newPc p m hp

theorem pawn_diag_ep (p : Pos) (m : Mv) (hp : pseudo p m = true) (h6 : kind p.b[m.f] = 6) (h0 : p.b[m.t] = 0)
    (hx : m.t.x ≠ m.f.x) : isEp p m = true := by
  unfold isEp
  rw [Pos.at, Pos.at, h6, h0]
  have hown := pseudo_own_f p m hp
  unfold pseudo at hp
  simp only [Pos.at, h6, h0, Bool.and_eq_true, Bool.or_eq_true, beq_iff_eq, bne_iff_ne, ne_eq, dxy] at hp
  obtain ⟨_, _, hmv⟩ := hp
  have hxx : ¬ ((m.t.x : Int) - m.f.x = 0) := by omega
  rcases hmv with (⟨⟨a, _⟩, _⟩ | ⟨⟨⟨⟨a, _⟩, _⟩, _⟩, _⟩) | ⟨_, h⟩
  · exact absurd a hxx
  · exact absurd a hxx
  · rcases h with h | h
    · exact absurd trivial h
    · rw [h]
      have : (m.f.x != m.t.x) = true := by simp only [bne_iff_ne, ne_eq]; exact fun e => hx e.symm
      simp [this]

theorem special_simple (p : Pos) (K : Sq) (m : Mv) (hp : pseudo p m = true) (hE : isEp p m = false)
    (hC : ¬ (kind p.b[m.f] = 1 ∧ (m.t.val = m.f.val + 2 ∨ m.t.val + 2 = m.f.val))) :
    (if movedKind p m == 1 then gcCastle p.b p.wtm m.f m.t
     else if movedKind p m == 6 then gcEp p.b p.wtm K m.f m.t else false) = false := by
  have hmk := movedKind_king_pawn p m hp
  by_cases h1 : movedKind p m = 1
  · have hk := hmk 1 (Or.inl rfl) h1
    rw [if_pos (by rw [h1]; rfl)]
    exact gcCastle_none _ _ _ _ (fun e => hC ⟨hk, Or.inl e⟩) (fun e => hC ⟨hk, Or.inr e⟩)
  · rw [if_neg (by simpa using h1)]
    by_cases h6 : movedKind p m = 6
    · have hk := hmk 6 (Or.inr rfl) h6
      rw [if_pos (by rw [h6]; rfl)]
      apply gcEp_off
      by_cases h0 : p.b[m.t] = 0
      · right
        apply Classical.byContradiction
        intro hx
        rw [pawn_diag_ep p m hp hk h0 hx] at hE; cases hE
      · exact Or.inl h0
    · rw [if_neg (by simpa using h6)]

theorem gives_simple (p : Pos) (K : Sq) (H : GcWF p K) (m : Mv) (hp : pseudo p m = true)
    (hkk : kind p.b[m.f] = 1 → kingGeom K m.t = false) (hE : isEp p m = false)
    (hC : ¬ (kind p.b[m.f] = 1 ∧ (m.t.val = m.f.val + 2 ∨ m.t.val + 2 = m.f.val))) :
    sqAttacked (apply p m).b (!p.wtm) K (occBB (apply p m).b) = true ↔ givesCheck p K m = true := by
  obtain ⟨hch, ht⟩ := change_simple p m hp hE hC
  have hv' := validB_apply p H.valid m hp
  have hstep : kind p.b[m.f] = 1 → (dxy m.f m.t).1.natAbs ≤ 1 ∧ (dxy m.f m.t).2.natAbs ≤ 1 := by
    intro hk
    rcases king_move_cases p m hp hk with h | ⟨short, _, _, ht⟩
    · exact h
    · exfalso
      cases short
      · exact hC ⟨hk, Or.inr (by simp at ht; omega)⟩
      · exact hC ⟨hk, Or.inl (by simp at ht; omega)⟩
  rw [hch.attacked_iff H.valid hv' K H.notAttacked, givesCheck_split, special_simple p K m hp hE hC]
  simp only [Bool.or_false, Bool.or_eq_true]
  have hdir := direct_simple p K H m hp hkk _ hv' hch ht
  constructor
  · rintro (⟨t, hF, hatk⟩ | ⟨s, dx, dy, n, j, v, hFs, hVs, hso, hsl, hseg, hj1, hjn, hVv, hsv⟩)
    · have hF' : t = m.t := hF
      subst hF'
      rcases hdir.1 hatk with h | h
      · exact Or.inl (Or.inl h)
      · exact Or.inr h
    · have hVv' : v = m.f := hVv
      subst hVv'
      refine Or.inl (Or.inr (disc_of_xray p m K H.oking hp hstep _ _ _ hch rfl s dx dy n j hFs hso hsl hseg hj1 hjn hsv ?_))
      intro l q h1 _ hq hV
      have hV' : q = m.f := hV
      rw [hV'] at hq
      have := step_inj _ _ _ _ hsl.isDir l 0 _ hq (stepSq_zero m.f dx dy)
      omega
  · rintro ((h | h) | h)
    · exact Or.inl ⟨m.t, rfl, hdir.2 (Or.inl h)⟩
    · exact Or.inr (xray_of_disc p m K H.oking hp _ _ _ hch (fun q => Iff.rfl) rfl (fun q hq => Or.inl hq) h)
    · exact Or.inl ⟨m.t, rfl, hdir.2 (Or.inr h)⟩

end Chess.Texel
