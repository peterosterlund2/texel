import TexelVerif.Chess.SANLemmas
import TexelVerif.Chess.SpecEquations
/-!
# The move-text round trip (property C17): legality facts, the shape of the emitted text, the matching argument
-/
namespace Chess

theorem pawn_from_unique (p : Pos) (m m' : Mv) (h : pseudo p m = true) (h' : pseudo p m' = true)
    (hk : kind (p.at m.f) = 6) (hk' : kind (p.at m'.f) = 6) (ht : m.t = m'.t) (hx : m.f.x = m'.f.x) : m.f = m'.f := by
  have a := (pseudo_pawn p m h hk).2
  have a' := (pseudo_pawn p m' h' hk').2
  have ho := own_ne_zero_um _ _ (pseudo_own p m h)
  have ho' := own_ne_zero_um _ _ (pseudo_own p m' h')
  unfold PawnAlt dxy at a a'
  simp only at a a'
  rw [← ht] at a'
  apply Sq.ext_xy _ _ hx
  have hfx : (m.f.x : Int) = m'.f.x := by rw [hx]
  rcases a with ⟨a1, a2, _⟩ | ⟨a1, a2, _, _, a4⟩ | ⟨a1, a2, _⟩ <;>
  rcases a' with ⟨b1, b2, _⟩ | ⟨b1, b2, _, _, b4⟩ | ⟨b1, b2, _⟩
  · omega
  · -- m single push, m' double push: the square m' jumps over is m.f, which holds a pawn
    exfalso
    have : mkSq? (m'.f.x : Int) ((m'.f.y : Int) + if p.wtm then 1 else -1) = some m.f := by
      have := mkSq?_xy m.f
      rw [← this]; congr 1 <;> omega
    rw [this] at b4
    simp only [beq_iff_eq] at b4
    exact ho b4
  · omega
  · exfalso
    have : mkSq? (m.f.x : Int) ((m.f.y : Int) + if p.wtm then 1 else -1) = some m'.f := by
      have := mkSq?_xy m'.f
      rw [← this]; congr 1 <;> omega
    rw [this] at a4
    simp only [beq_iff_eq] at a4
    exact ho' a4
  · omega
  · omega
  · omega
  · omega
  · omega

theorem pawn_noncapture_file (p : Pos) (m : Mv) (h : pseudo p m = true) (hpc : p.at m.f = ownPawn p.wtm)
    (hc : sanIsCapture p m = false) : m.f.x = m.t.x := by
  have hk : kind (p.at m.f) = 6 := by rw [hpc]; cases p.wtm <;> decide
  have a := (pseudo_pawn p m h hk).2
  unfold PawnAlt dxy at a
  simp only at a
  unfold sanIsCapture at hc
  simp only [Bool.or_eq_false_iff, Bool.and_eq_false_iff, bne_eq_false_iff_eq, beq_eq_false_iff_ne, ne_eq] at hc
  rcases a with ⟨a1, _⟩ | ⟨a1, _⟩ | ⟨_, _, a3⟩
  · omega
  · omega
  · exfalso
    rcases a3 with a3 | a3
    · exact a3 hc.1
    · rcases hc.2 with h1 | h1
      · exact h1 hpc
      · exact h1 a3


def letterOpt (pc : Pc) : Option Char := (pieceLetter pc).head?

theorem ite_pred {α} (P : α → Prop) {c : Prop} [Decidable c] {a b : α} (ha : P a) (hb : P b) : P (if c then a else b) := by
  split <;> assumption

theorem pieceLetter_cases (pc : Pc) : pieceLetter pc = [] ∨ ∃ c, IsLetter c ∧ pieceLetter pc = [c] := by
  let P : List Char → Prop := fun l => l = [] ∨ ∃ c, IsLetter c ∧ l = [c]
  have one : ∀ c, IsLetter c → P [c] := fun c h => Or.inr ⟨c, h, rfl⟩
  unfold pieceLetter
  exact ite_pred P (one 'Q' (by simp [IsLetter])) <| ite_pred P (one 'R' (by simp [IsLetter])) <|
    ite_pred P (one 'B' (by simp [IsLetter])) <| ite_pred P (one 'N' (by simp [IsLetter])) <|
    ite_pred P (one 'K' (by simp [IsLetter])) (Or.inl rfl)

theorem pieceLetter_eq (pc : Pc) : pieceLetter pc = (letterOpt pc).toList := by
  unfold letterOpt
  rcases pieceLetter_cases pc with h | ⟨c, _, h⟩ <;> rw [h] <;> rfl

theorem letterOpt_isLetter (pc : Pc) (c : Char) (h : letterOpt pc = some c) : IsLetter c := by
  unfold letterOpt at h
  rcases pieceLetter_cases pc with h' | ⟨c', hc', h'⟩ <;> rw [h'] at h <;> cases h
  exact hc'

def disambShape (legal : List Mv) (p : Pos) (m : Mv) : Option Nat × Option Nat :=
  let st := sameTarget legal p m
  if st.length < 2 then (none, none)
  else if (st.filter fun m' => m'.f.x == m.f.x).length < 2 then (some m.f.x, none)
  else if (st.filter fun m' => m'.f.y == m.f.y).length < 2 then (none, some m.f.y)
  else (some m.f.x, some m.f.y)

def shapeOf (legal : List Mv) (p : Pos) (m : Mv) (long : Bool) : Shape :=
  let pc := p.at m.f
  let cap := sanIsCapture p m
  { letter := letterOpt pc
    fx := if long then some m.f.x else if pc == ownPawn p.wtm then (if cap then some m.f.x else none) else (disambShape legal p m).1
    fy := if long then some m.f.y else if pc == ownPawn p.wtm then none else (disambShape legal p m).2
    sep := if long then some cap else if cap then some true else none
    tx := m.t.x
    ty := m.t.y
    promo := letterOpt m.promo }

theorem disambig_eq (L : List Mv) (p : Pos) (m : Mv) :
    disambig L p m = ((disambShape L p m).1.map fileCh).toList ++ ((disambShape L p m).2.map rankCh).toList := by
  unfold disambig disambShape
  dsimp only
  repeat' split
  all_goals rfl

theorem sanBody_eq_render (legal : List Mv) (p : Pos) (m : Mv) (long : Bool) :
    sanBody legal p m long = (shapeOf legal p m long).render := by
  unfold sanBody shapeOf Shape.render
  simp only [pieceLetter_eq, disambig_eq]
  cases long <;> cases sanIsCapture p m <;> by_cases h : p.at m.f = ownPawn p.wtm <;> simp [sepChars, h]

theorem disambShape_cases (L : List Mv) (p : Pos) (m : Mv) :
    ((disambShape L p m).1 = none ∨ (disambShape L p m).1 = some m.f.x) ∧
    ((disambShape L p m).2 = none ∨ (disambShape L p m).2 = some m.f.y) := by
  unfold disambShape
  dsimp only
  repeat' split
  all_goals simp

theorem shapeOf_long (L : List Mv) (p : Pos) (m : Mv) :
    (shapeOf L p m true).fx = some m.f.x ∧ (shapeOf L p m true).fy = some m.f.y := ⟨rfl, rfl⟩

theorem shapeOf_pawn (L : List Mv) (p : Pos) (m : Mv) (h : p.at m.f = ownPawn p.wtm) :
    (shapeOf L p m false).fx = (if sanIsCapture p m then some m.f.x else none) ∧ (shapeOf L p m false).fy = none := by
  unfold shapeOf; simp [h]

theorem shapeOf_piece (L : List Mv) (p : Pos) (m : Mv) (h : p.at m.f ≠ ownPawn p.wtm) :
    (shapeOf L p m false).fx = (disambShape L p m).1 ∧ (shapeOf L p m false).fy = (disambShape L p m).2 := by
  unfold shapeOf; simp [h]

theorem shapeOf_from (L : List Mv) (p : Pos) (m : Mv) (long : Bool) :
    ((shapeOf L p m long).fx = none ∨ (shapeOf L p m long).fx = some m.f.x) ∧
    ((shapeOf L p m long).fy = none ∨ (shapeOf L p m long).fy = some m.f.y) := by
  cases long
  · by_cases hpw : p.at m.f = ownPawn p.wtm
    · rw [(shapeOf_pawn L p m hpw).1, (shapeOf_pawn L p m hpw).2]
      exact ⟨by split <;> simp, Or.inl rfl⟩
    · rw [(shapeOf_piece L p m hpw).1, (shapeOf_piece L p m hpw).2]
      exact disambShape_cases L p m
  · exact ⟨Or.inr rfl, Or.inr rfl⟩

theorem shapeOf_valid (legal : List Mv) (p : Pos) (m : Mv) (long : Bool) : (shapeOf legal p m long).Valid := by
  obtain ⟨hx, hy⟩ := shapeOf_from legal p m long
  refine ⟨fun c h => letterOpt_isLetter _ c h, fun x h => ?_, fun y h => ?_, Sq.x_lt _, Sq.y_lt _,
    fun c h => letterOpt_isLetter _ c h⟩
  · rcases hx with hx | hx <;> rw [hx] at h <;> cases h
    exact Sq.x_lt _
  · rcases hy with hy | hy <;> rw [hy] at h <;> cases h
    exact Sq.y_lt _


theorem matchField (a b : Int) : (!(decide (a ≥ 0) && (a != b))) = true ↔ (a < 0 ∨ a = b) := by
  by_cases h1 : a ≥ 0 <;> by_cases h2 : a = b <;> simp [h1, h2] <;> omega

theorem infoMatches_iff (p : Pos) (info : MoveInfo) (m : Mv) : infoMatches p info m = true ↔
    (info.piece < 0 ∨ info.piece = ((p.at m.f).toNat : Int)) ∧ (info.fromX < 0 ∨ info.fromX = (m.f.x : Int)) ∧
    (info.fromY < 0 ∨ info.fromY = (m.f.y : Int)) ∧ (info.toX < 0 ∨ info.toX = (m.t.x : Int)) ∧
    (info.toY < 0 ∨ info.toY = (m.t.y : Int)) ∧ (info.promPiece < 0 ∨ info.promPiece = (m.promo.toNat : Int)) := by
  unfold infoMatches
  simp only [Bool.and_eq_true, matchField, and_assoc]

structure LegalList (p : Pos) (L : List Mv) : Prop where
  mem : ∀ m, m ∈ L ↔ legalB p m = true
  nodup : L.Nodup

theorem genLegal_legalList (p : Pos) : LegalList p (genLegal p) := ⟨mem_genLegal p, genLegal_nodup p⟩

theorem letterOpt_zero : letterOpt 0 = none := by decide

theorem legal_promo_cases (p : Pos) (m : Mv) (hm : legalB p m = true) :
    m.promo = 0 ∨ (m.t.y = (if p.wtm then 7 else 0) ∧ isPromoPiece p.wtm m.promo = true) := by
  have hps := legalB_pseudo p m hm
  by_cases hk : kind (p.at m.f) = 6
  · have hp := (pseudo_pawn p m hps hk).1
    unfold promoOk at hp
    by_cases hy : (m.t.y == (if p.wtm then 7 else 0)) = true
    · rw [if_pos hy] at hp; exact Or.inr ⟨beq_iff_eq.1 hy, hp⟩
    · rw [if_neg hy] at hp; exact Or.inl (beq_iff_eq.1 hp)
  · exact Or.inl (pseudo_nonpawn_promo p m hps hk)

/-- the promotion field derived from the emitted promotion letter is the move's promotion piece -/
theorem promo_field (p : Pos) (m : Mv) (hm : legalB p m = true) :
    (match letterOpt m.promo with | some c => charToPiece p.wtm c | none => 0) = (m.promo.toNat : Int) := by
  rcases legal_promo_cases p m hm with h | ⟨_, hp⟩
  · rw [h, letterOpt_zero]; rfl
  · obtain ⟨c, hc1, _, hc3⟩ := promo_letter p.wtm m.promo hp
    have : letterOpt m.promo = some c := by unfold letterOpt; rw [hc1]; rfl
    rw [this]; exact hc3

theorem toNat_inj_int (a b : Pc) (h : (a.toNat : Int) = (b.toNat : Int)) : a = b := by
  have : a.toNat = b.toNat := by omega
  exact UInt8.toNat_inj.1 this

private theorem field_eq {a : Int} {b c : Nat} (h : 0 ≤ a) (hb : a < 0 ∨ a = b) (hc : a < 0 ∨ a = c) : c = b := by omega

theorem infoMatches_full_unique (p : Pos) (info : MoveInfo) (m m' : Mv)
    (h1 : 0 ≤ info.fromX) (h2 : 0 ≤ info.fromY) (h3 : 0 ≤ info.toX) (h4 : 0 ≤ info.toY) (h5 : 0 ≤ info.promPiece)
    (hm : infoMatches p info m = true) (hm' : infoMatches p info m' = true) : m' = m := by
  rw [infoMatches_iff] at hm hm'
  obtain ⟨_, a2, a3, a4, a5, a6⟩ := hm
  obtain ⟨_, b2, b3, b4, b5, b6⟩ := hm'
  exact (mv_eq_iff m' _ _ _).2 ⟨Sq.ext_xy _ _ (field_eq h1 a2 b2) (field_eq h2 a3 b3), Sq.ext_xy _ _ (field_eq h3 a4 b4) (field_eq h4 a5 b5),
    UInt8.toNat_inj.1 (field_eq h5 a6 b6)⟩

theorem info_piece (w : Bool) (s : Shape) : (s.info w).piece = (match s.letter with
    | some c => charToPiece w c
    | none => if s.fx.isSome && s.fy.isSome then -1 else ((ownPawn w).toNat : Int)) := rfl
theorem info_fromX (w : Bool) (s : Shape) : (s.info w).fromX = (match s.fx with | some x => (x : Int) | none => -1) := rfl
theorem info_fromY (w : Bool) (s : Shape) : (s.info w).fromY = (match s.fy with | some y => (y : Int) | none => -1) := rfl
theorem info_toX (w : Bool) (s : Shape) : (s.info w).toX = (s.tx : Int) := rfl
theorem info_toY (w : Bool) (s : Shape) : (s.info w).toY = (s.ty : Int) := rfl
theorem info_prom (w : Bool) (s : Shape) : (s.info w).promPiece = (match s.promo with | some c => charToPiece w c | none => 0) := rfl
theorem shapeOf_letter (L : List Mv) (p : Pos) (m : Mv) (long : Bool) : (shapeOf L p m long).letter = letterOpt (p.at m.f) := rfl
theorem shapeOf_promo (L : List Mv) (p : Pos) (m : Mv) (long : Bool) : (shapeOf L p m long).promo = letterOpt m.promo := rfl
theorem shapeOf_tx (L : List Mv) (p : Pos) (m : Mv) (long : Bool) : (shapeOf L p m long).tx = m.t.x := rfl
theorem shapeOf_ty (L : List Mv) (p : Pos) (m : Mv) (long : Bool) : (shapeOf L p m long).ty = m.t.y := rfl

theorem sameTarget_mem (L : List Mv) (p : Pos) (m x : Mv) :
    x ∈ sameTarget L p m ↔ x ∈ L ∧ p.at x.f = p.at m.f ∧ x.t = m.t := by
  unfold sameTarget
  simp [List.mem_filter]

theorem letterOpt_own (w : Bool) (pc : Pc) (h : own w pc = true) :
    (pc = ownPawn w ∧ letterOpt pc = none) ∨
    (pc ≠ ownPawn w ∧ ∃ c, letterOpt pc = some c ∧ charToPiece w c = (pc.toNat : Int)) := by
  by_cases hpw : pc = ownPawn w
  · exact Or.inl ⟨hpw, by rw [hpw]; unfold letterOpt; rw [pieceLetter_pawn]; rfl⟩
  · obtain ⟨c, h1, _, h3⟩ := own_letter w pc h hpw
    exact Or.inr ⟨hpw, c, by unfold letterOpt; rw [h1]; rfl, h3⟩

/-- **the disambiguation (file, else rank, else both) is sufficient** -/
theorem disamb_separates (L : List Mv) (p : Pos) (m m' : Mv) (hm : m ∈ sameTarget L p m) (hm' : m' ∈ sameTarget L p m)
    (hx : ∀ x, (disambShape L p m).1 = some x → m'.f.x = x) (hy : ∀ y, (disambShape L p m).2 = some y → m'.f.y = y) :
    m'.f = m.f := by
  apply Classical.byContradiction
  intro hne
  have hne' : m' ≠ m := fun h => hne (by rw [h])
  have two := fun (P : Mv → Bool) (h' : P m' = true) (h : P m = true) =>
    two_le_length_of_mem _ m' m (List.mem_filter.2 ⟨hm', h'⟩) (List.mem_filter.2 ⟨hm, h⟩) hne'
  unfold disambShape at hx hy
  dsimp only at hx hy
  by_cases c1 : (sameTarget L p m).length < 2
  · have := two_le_length_of_mem _ m' m hm' hm hne'
    omega
  · rw [if_neg c1] at hx hy
    by_cases c2 : ((sameTarget L p m).filter fun x => x.f.x == m.f.x).length < 2
    · have := two (fun x => x.f.x == m.f.x) (by simp [hx _ (by rw [if_pos c2])]) (by simp)
      omega
    · rw [if_neg c2] at hx hy
      by_cases c3 : ((sameTarget L p m).filter fun x => x.f.y == m.f.y).length < 2
      · have := two (fun x => x.f.y == m.f.y) (by simp [hy _ (by rw [if_pos c3])]) (by simp)
        omega
      · rw [if_neg c3] at hx hy
        exact hne (Sq.ext_xy _ _ (hx _ rfl) (hy _ rfl))

/-- **the matching core**: among the legal moves, exactly `m` satisfies the constraints parsed from `m`'s own text -/
theorem filter_matches (p : Pos) (L : List Mv) (m : Mv) (long : Bool) (hL : LegalList p L) (hm : legalB p m = true) :
    L.filter (infoMatches p ((shapeOf L p m long).info p.wtm)) = [m] := by
  have hmL : m ∈ L := (hL.mem m).2 hm
  have hps := legalB_pseudo p m hm
  have hown := pseudo_own p m hps
  have hprom := promo_field p m hm
  apply filter_eq_singleton _ _ _ hL.nodup hmL
  · rw [infoMatches_iff, info_piece, info_fromX, info_fromY, info_toX, info_toY, info_prom, shapeOf_letter, shapeOf_promo,
      shapeOf_tx, shapeOf_ty]
    refine ⟨?_, ?_, ?_, Or.inr rfl, Or.inr rfl, Or.inr hprom⟩
    · rcases letterOpt_own p.wtm _ hown with ⟨hpw, hl⟩ | ⟨_, c, hl, hc⟩ <;> rw [hl]
      · dsimp only
        split
        · exact Or.inl (by decide)
        · exact Or.inr (by rw [hpw])
      · exact Or.inr hc
    · rcases (shapeOf_from L p m long).1 with h | h <;> rw [h]
      · exact Or.inl (by decide)
      · exact Or.inr rfl
    · rcases (shapeOf_from L p m long).2 with h | h <;> rw [h]
      · exact Or.inl (by decide)
      · exact Or.inr rfl
  · intro m' hm'L hmatch
    have hps' := legalB_pseudo p m' ((hL.mem m').1 hm'L)
    rw [infoMatches_iff, info_piece, info_fromX, info_fromY, info_toX, info_toY, info_prom, shapeOf_letter, shapeOf_promo,
      shapeOf_tx, shapeOf_ty, hprom] at hmatch
    obtain ⟨h1, h2, h3, h4, h5, h6⟩ := hmatch
    have ht : m'.t = m.t := Sq.ext_xy _ _ (by omega) (by omega)
    have hpr : m'.promo = m.promo := by apply toNat_inj_int; omega
    suffices hf : m'.f = m.f from (mv_eq_iff m' _ _ _).2 ⟨hf, ht, hpr⟩
    cases long
    · rcases letterOpt_own p.wtm _ hown with ⟨hpw, hl⟩ | ⟨hpw, c, hl, hc⟩
      · -- the file is written (capture) or is the target's file
        obtain ⟨ex, ey⟩ := shapeOf_pawn L p m hpw
        rw [hl, ey] at h1
        rw [ex] at h2
        simp only [Option.isSome_none, Bool.and_false, Bool.false_eq_true, if_false] at h1
        have hpc' : p.at m'.f = ownPawn p.wtm := toNat_inj_int _ _ (by omega)
        have hk : ∀ q : Mv, p.at q.f = ownPawn p.wtm → kind (p.at q.f) = 6 := fun q hq => by rw [hq]; cases p.wtm <;> decide
        have hfx : m.f.x = m'.f.x := by
          cases hcap : sanIsCapture p m
          · have hcap' : sanIsCapture p m' = false := by
              unfold sanIsCapture at hcap ⊢; rw [ht, hpc']; rw [hpw] at hcap; exact hcap
            rw [pawn_noncapture_file p m hps hpw hcap, pawn_noncapture_file p m' hps' hpc' hcap', ht]
          · rw [hcap] at h2; simp only [if_true] at h2; omega
        exact (pawn_from_unique p m m' hps hps' (hk m hpw) (hk m' hpc') ht.symm hfx).symm
      · obtain ⟨ex, ey⟩ := shapeOf_piece L p m hpw
        rw [hl] at h1
        rw [ex] at h2
        rw [ey] at h3
        have hpc' : p.at m'.f = p.at m.f := toNat_inj_int _ _ (by simp only at h1; omega)
        exact disamb_separates L p m m' ((sameTarget_mem L p m m).2 ⟨hmL, rfl, rfl⟩)
          ((sameTarget_mem L p m m').2 ⟨hm'L, hpc', ht⟩)
          (fun x hx => by rw [hx] at h2; simp only at h2; omega) (fun y hy => by rw [hy] at h3; simp only at h3; omega)
    · rw [(shapeOf_long L p m).1] at h2
      rw [(shapeOf_long L p m).2] at h3
      simp only at h2 h3
      exact Sq.ext_xy _ _ (by omega) (by omega)


def keepCh (c : Char) : Bool := !(c == '=' || c == '+' || c == '#')

theorem keep_file (x : Nat) (h : x < 8) : keepCh (fileCh x) = true := by
  rcases lt8_cases x h with rfl | rfl | rfl | rfl | rfl | rfl | rfl | rfl <;> decide
theorem keep_rank (y : Nat) (h : y < 8) : keepCh (rankCh y) = true := by
  rcases lt8_cases y h with rfl | rfl | rfl | rfl | rfl | rfl | rfl | rfl <;> decide
theorem keep_letter (c : Char) (h : IsLetter c) : keepCh c = true := by
  rcases h with rfl | rfl | rfl | rfl | rfl <;> decide

theorem strip_render (s : Shape) (h : s.Valid) : stripMoveText s.render = s.render := by
  obtain ⟨hl, hfx, hfy, htx, hty, hpr⟩ := h
  unfold stripMoveText
  apply List.filter_eq_self.2
  intro c hc
  show keepCh c = true
  unfold Shape.render at hc
  simp only [List.mem_append, Option.mem_toList, Option.map_eq_some_iff, List.mem_cons, List.not_mem_nil, or_false] at hc
  rcases hc with ((((hc | ⟨x, hx, rfl⟩) | ⟨y, hy, rfl⟩) | hc) | (rfl | rfl)) | hc
  · exact keep_letter c (hl c hc)
  · exact keep_file x (hfx x hx)
  · exact keep_rank y (hfy y hy)
  · unfold sepChars at hc
    split at hc <;> simp at hc <;> subst hc <;> decide
  · exact keep_file _ htx
  · exact keep_rank _ hty
  · exact keep_letter c (hpr c hc)

/-- the file character of the target square occurs in every emitted body, and in no castling spelling or "--" -/
theorem file_mem_render (s : Shape) : fileCh s.tx ∈ s.render := by
  unfold Shape.render; simp

theorem file_not_special (x : Nat) (h : x < 8) :
    fileCh x ≠ '-' ∧ fileCh x ≠ 'O' ∧ fileCh x ≠ '0' ∧ fileCh x ≠ 'o' := by
  rcases lt8_cases x h with rfl | rfl | rfl | rfl | rfl | rfl | rfl | rfl <;> decide

theorem render_not_special (s : Shape) (h : s.Valid) :
    (s.render == ['-', '-']) = false ∧ isShortCastleText s.render = false ∧ isLongCastleText s.render = false := by
  have hm := file_mem_render s
  obtain ⟨h1, h2, h3, h4⟩ := file_not_special s.tx h.2.2.2.1
  refine ⟨?_, ?_, ?_⟩
  · cases hb : (s.render == ['-', '-'])
    · rfl
    · rw [beq_iff_eq.1 hb] at hm; simp at hm; exact absurd hm h1
  · cases hb : isShortCastleText s.render
    · rfl
    · unfold isShortCastleText at hb
      simp only [Bool.or_eq_true, beq_iff_eq] at hb
      rcases hb with (hb | hb) | hb <;> rw [hb] at hm <;> simp [h1, h2, h3, h4] at hm
  · cases hb : isLongCastleText s.render
    · rfl
    · unfold isLongCastleText at hb
      simp only [Bool.or_eq_true, beq_iff_eq] at hb
      rcases hb with (hb | hb) | hb <;> rw [hb] at hm <;> simp [h1, h2, h3, h4] at hm

/-- the castling record names king, both squares and "no promotion": it is matched by the castling move alone -/
theorem castle_match (p : Pos) (L : List Mv) (m : Mv) (hL : LegalList p L) (hm : legalB p m = true) (short : Bool)
    (hf : m.f.val = if p.wtm then 4 else 60) (hking : p.at m.f = if p.wtm then WKING else BKING)
    (ht : m.t.val = (if p.wtm then 0 else 56) + (if short then 6 else 2)) :
    L.filter (infoMatches p (castleInfo p.wtm short)) = [m] := by
  have hpromo : m.promo = 0 :=
    pseudo_nonpawn_promo p m (legalB_pseudo p m hm) (by rw [hking]; cases p.wtm <;> decide)
  have hmatch : infoMatches p (castleInfo p.wtm short) m = true := by
    rw [infoMatches_iff, hking, hpromo]
    unfold castleInfo Sq.x Sq.y
    rw [hf, ht]
    cases p.wtm <;> cases short <;> decide
  refine filter_eq_singleton _ _ _ hL.nodup ((hL.mem m).2 hm) hmatch fun m' _ hm' => ?_
  refine infoMatches_full_unique p _ m m' ?_ ?_ ?_ ?_ ?_ hmatch hm' <;>
    cases p.wtm <;> cases short <;> decide

theorem checkSuffix_strip (p : Pos) (m : Mv) : stripMoveText (checkSuffix p m) = [] := by
  unfold checkSuffix
  simp only
  split
  · split <;> decide
  · decide

theorem parseInfo_OO (w : Bool) : parseInfo w ['O', '-', 'O'] = (castleInfo w true, false) := rfl
theorem parseInfo_OOO (w : Bool) : parseInfo w ['O', '-', 'O', '-', 'O'] = (castleInfo w false, false) := rfl
theorem selectMatch_single (p : Pos) (m : Mv) (c : Bool) : selectMatch p [m] c = some m := rfl

def castleStr (short : Bool) : List Char := if short then ['O', '-', 'O'] else ['O', '-', 'O', '-', 'O']

theorem castleStr_parse (w short : Bool) :
    (castleStr short).isEmpty = false ∧ stripMoveText (castleStr short) = castleStr short ∧
    (castleStr short == ['-', '-']) = false ∧ parseInfo w (castleStr short) = (castleInfo w short, false) := by
  cases short <;> exact ⟨rfl, by decide, by decide, rfl⟩

theorem castleText_cases (p : Pos) (m : Mv) (hown : own p.wtm (p.at m.f) = true) :
    castleText p m = [] ∨ ∃ short, castleText p m = castleStr short ∧ m.f.val = (if p.wtm then 4 else 60) ∧
      p.at m.f = (if p.wtm then WKING else BKING) ∧ m.t.val = (if p.wtm then 0 else 56) + (if short then 6 else 2) := by
  have side : ∀ w : Bool, p.at m.f = (if w then WKING else BKING) → p.wtm = w := by
    intro w hk
    rw [hk] at hown
    revert hown
    cases p.wtm <;> cases w <;> decide
  unfold castleText
  split
  · rename_i hW
    obtain ⟨hf, hk⟩ : m.f.val = 4 ∧ p.at m.f = WKING := by simpa using hW
    rw [side true hk]
    split
    · exact Or.inr ⟨true, rfl, hf, hk, beq_iff_eq.1 ‹_›⟩
    · split
      · exact Or.inr ⟨false, rfl, hf, hk, beq_iff_eq.1 ‹_›⟩
      · exact Or.inl rfl
  · split
    · rename_i hB
      obtain ⟨hf, hk⟩ : m.f.val = 60 ∧ p.at m.f = BKING := by simpa using hB
      rw [side false hk]
      split
      · exact Or.inr ⟨true, rfl, hf, hk, beq_iff_eq.1 ‹_›⟩
      · split
        · exact Or.inr ⟨false, rfl, hf, hk, beq_iff_eq.1 ‹_›⟩
        · exact Or.inl rfl
    · exact Or.inl rfl

theorem stripMoveText_append (a b : List Char) : stripMoveText (a ++ b) = stripMoveText a ++ stripMoveText b :=
  List.filter_append ..

/-- Without the check suffix the text is a rendered shape (`parse_render`, then `filter_matches`) or a castling
    text (`castle_match`). -/
theorem roundtrip_L (p : Pos) (L : List Mv) (m : Mv) (long : Bool) (hL : LegalList p L) (hm : legalB p m = true) :
    stringToMoveL L p (moveToStringL L p m long) = some m := by
  unfold moveToStringL stringToMoveL
  simp only [stripMoveText_append, checkSuffix_strip, List.append_nil]
  rcases castleText_cases p m (pseudo_own p m (legalB_pseudo p m hm)) with hc | ⟨short, hc, hf, hk, ht⟩ <;> rw [hc]
  · have hv := shapeOf_valid L p m long
    obtain ⟨n1, n2, n3⟩ := render_not_special _ hv
    obtain ⟨p1, _⟩ := parse_render p.wtm _ hv
    rw [if_pos (by rfl : ([] : List Char).isEmpty = true), sanBody_eq_render, strip_render _ hv]
    simp only [n1, Bool.false_eq_true, if_false, parseInfo, n2, n3, p1, filter_matches p L m long hL hm, selectMatch_single]
  · obtain ⟨e0, e1, e2, e3⟩ := castleStr_parse p.wtm short
    simp only [e0, e1, e2, Bool.false_eq_true, if_false, e3, castle_match p L m hL hm short hf hk ht, selectMatch_single]

end Chess
