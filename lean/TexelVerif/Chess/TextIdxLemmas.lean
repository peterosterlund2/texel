import TexelVerif.Chess.TextIdx
/-! No checked access of the index-level parser models ever fails (`.oob` is unreachable). -/
namespace Chess.Idx

def NoOob {α} (x : M α) : Prop := x ≠ .error .oob

theorem rd_of_lt {α} (s : Array Char) (i : Nat) (k : Char → M α) (h : i < s.size) : rd s i k = k s[i] := by
  unfold rd
  rw [Array.getElem?_eq_getElem h]

theorem noOob_ok {α} (a : α) : NoOob (.ok a : M α) := by intro h; cases h
theorem noOob_fen {α} (e : FenErr) : NoOob (.error (.fen e) : M α) := by intro h; cases h

theorem noOob_ite {α} {c : Prop} [Decidable c] {a b : M α} (ha : NoOob a) (hb : NoOob b) :
    NoOob (if c then a else b) := by
  split <;> assumption

theorem placeLoop_noOob (s : Array Char) (i : Nat) (row : Int) (col : Nat) (b : Board) :
    NoOob (placeLoop s i row col b) := by
  fun_induction placeLoop s i row col b
  · rename_i h ih3 ih2 ih1
    rw [rd_of_lt _ _ _ h]
    refine noOob_ite (noOob_ok _) (noOob_ite (ih3 _) (noOob_ite (noOob_ite (noOob_fen _) ih2) ?_))
    split
    · exact noOob_fen _
    · exact noOob_ite (noOob_fen _) (noOob_ite (noOob_fen _) (ih1 _))
  · exact noOob_ok _

theorem skipWhile_noOob (s : Array Char) (sp : Bool) (i : Nat) : NoOob (skipWhile s sp i) := by
  fun_induction skipWhile s sp i
  · rename_i h ih
    rw [rd_of_lt _ _ _ h]
    exact noOob_ite ih (noOob_ok _)
  · exact noOob_ok _

theorem castleLoop_noOob (s : Array Char) (i : Nat) (m : UInt8) : NoOob (castleLoop s i m) := by
  fun_induction castleLoop s i m
  · rename_i h ih5 ih4 ih3 ih2 ih1
    rw [rd_of_lt _ _ _ h]
    exact noOob_ite (noOob_ok _) (noOob_ite ih5 (noOob_ite ih4 (noOob_ite ih3 (noOob_ite ih2
      (noOob_ite ih1 (noOob_fen _))))))
  · exact noOob_ok _

theorem substr_ok (s : Array Char) (pos n : Nat) (h : pos ≤ s.size) : substr s pos n = .ok (s.extract pos (pos + n)) := by
  unfold substr; rw [if_pos h]

theorem getSquareIdx_ok (s : Array Char) (h : 2 ≤ s.size) : ∃ r, getSquareIdx s = .ok r := by
  unfold getSquareIdx
  rw [rd_of_lt _ _ _ (by omega), rd_of_lt _ _ _ (by omega)]
  exact ⟨_, rfl⟩

theorem epField_noOob (s : Array Char) (i : Nat) (b : Board) (wtm : Bool) (h : i < s.size) : NoOob (epField s i b wtm) := by
  unfold epField
  rw [rd_of_lt _ _ _ h]
  refine noOob_ite ?_ (noOob_ok _)
  split
  · exact noOob_fen _
  · rw [substr_ok _ _ _ (by omega)]
    obtain ⟨r, hr⟩ := getSquareIdx_ok (s.extract i (i + 2)) (by simp only [Array.size_extract]; omega)
    simp only [hr]
    cases r
    · exact noOob_ok _
    · exact noOob_ite (noOob_ite (noOob_ok _) (noOob_ok _)) (noOob_ite (noOob_ok _) (noOob_ok _))

theorem counterField_noOob (s : Array Char) (i : Nat) (d : Int) (h : i < s.size) : NoOob (counterField s i d) := by
  unfold counterField
  split
  · rename_i e he
    intro hc; cases hc; exact skipWhile_noOob _ _ _ he
  · rw [substr_ok _ _ _ (by omega)]
    exact noOob_ok _

theorem epPart_noOob (s : Array Char) (i : Nat) (b : Board) (wtm : Bool) : NoOob (epPart s i b wtm) := by
  unfold epPart
  split
  · rename_i h
    split
    · rename_i e he; intro hc; cases hc; exact epField_noOob _ _ _ _ h he
    · split
      · rename_i e he; intro hc; cases hc; exact skipWhile_noOob _ _ _ he
      · exact noOob_ok _
  · exact noOob_ok _

theorem counterPart_noOob (s : Array Char) (i : Nat) (d : Int) : NoOob (counterPart s i d) := by
  unfold counterPart
  split
  · exact counterField_noOob _ _ _ ‹_›
  · exact noOob_ok _

theorem readTail_noOob (s : Array Char) (i : Nat) (b : Board) (wtm : Bool) (cm : UInt8) : NoOob (readTail s i b wtm cm) := by
  unfold readTail
  repeat' split
  all_goals first
    | exact noOob_ok _
    | exact noOob_fen _
    | (intro hc; cases hc; first
        | exact skipWhile_noOob _ _ _ ‹_›
        | exact epPart_noOob _ _ _ _ ‹_›
        | exact counterPart_noOob _ _ _ ‹_›)

/-- **readFEN never indexes outside its input** -/
theorem readFENIdx_noOob (s : Array Char) : NoOob (readFENIdx s) := by
  unfold readFENIdx
  split
  · intro hc; cases hc; exact placeLoop_noOob _ _ _ _ _ ‹_›
  split
  · intro hc; cases hc; exact skipWhile_noOob _ _ _ ‹_›
  split
  · exact noOob_fen _
  rw [rd_of_lt _ _ _ (by omega)]
  split
  · intro hc; cases hc; exact skipWhile_noOob _ _ _ ‹_›
  split
  · intro hc; cases hc; exact castleLoop_noOob _ _ _ ‹_›
  exact readTail_noOob _ _ _ _ _

/-- list-level meaning of `forIdx` -/
def foldIdx {σ} (f : σ → Nat → Char → σ) : Nat → List Char → σ → σ
  | _, [], st => st
  | i, c :: cs, st => foldIdx f (i + 1) cs (f st i c)

theorem forIdx_eq {σ} (s : Array Char) (f : σ → Nat → Char → σ) (i : Nat) (st : σ) :
    forIdx s f i st = .ok (foldIdx f i (s.toList.drop i) st) := by
  fun_induction forIdx s f i st
  · rename_i i st h ih
    rw [rd_of_lt _ _ _ h, ih]
    have : s.toList.drop i = s[i] :: s.toList.drop (i + 1) := by
      rw [List.drop_eq_getElem_cons (by simpa using h)]; simp
    rw [this, foldIdx]
  · rename_i i st h
    have : s.toList.drop i = [] := by
      apply List.drop_eq_nil_of_le; simp; omega
    rw [this, foldIdx]

theorem parseGo_eq_foldIdx (w : Bool) (n : Nat) (i : Nat) (l : List Char) (st : PSt) :
    parseGo w n i l st = foldIdx (fun st i c => parseStep w n st i c) i l st := by
  induction l generalizing i st with
  | nil => rfl
  | cons c cs ih => simp only [parseGo, foldIdx, ih]

theorem strip_fold (i : Nat) (l : List Char) (acc : Array Char) :
    (foldIdx (fun (acc : Array Char) _ c => if c == '=' || c == '+' || c == '#' then acc else acc.push c) i l acc).toList
      = acc.toList ++ stripMoveText l := by
  induction l generalizing i acc with
  | nil => simp [foldIdx, stripMoveText]
  | cons c cs ih =>
    simp only [foldIdx, ih, stripMoveText, List.filter_cons]
    by_cases h : (c == '=' || c == '+' || c == '#') = true
    · simp [h]
    · simp [h]

/-- the index-level `stringToMove` never fails an access and computes exactly the list-level function -/
theorem stringToMoveIdx_eq (legal : List Mv) (p : Pos) (s : Array Char) :
    stringToMoveIdx legal p s = .ok (stringToMoveL legal p s.toList) := by
  unfold stringToMoveIdx stringToMoveL
  rw [forIdx_eq]
  simp only [List.drop_zero]
  have hs := strip_fold 0 s.toList #[]
  simp only [List.nil_append] at hs
  rw [hs]
  by_cases h1 : (stripMoveText s.toList == ['-', '-']) = true
  · simp [h1]
  · simp only [h1]
    unfold parseInfo
    by_cases h2 : isShortCastleText (stripMoveText s.toList) = true
    · simp [h2]
    · by_cases h3 : isLongCastleText (stripMoveText s.toList) = true
      · simp [h2, h3]
      · simp only [h2, h3, Bool.false_eq_true, if_false]
        rw [forIdx_eq, parseGo_eq_foldIdx]
        simp only [List.drop_zero, hs, Array.size_eq_length_toList]

theorem getSquareIdx_pair (c0 c1 : Char) : getSquareIdx #[c0, c1] = .ok (getSquare c0 c1) := rfl

theorem emptyToNone_eq (m : Mv) : (if m.isEmpty then none else some m) = (some m).filter fun m => !m.isEmpty := by
  cases h : m.isEmpty <;> simp [Option.filter, h]

/-- both sides are the same tree of tests; only the leaves differ in form -/
theorem uciStringToMoveIdx_eq (s : Array Char) : uciStringToMoveIdx s = .ok (uciStringToMove s.toList) := by
  obtain ⟨l⟩ := s
  match l with
  | [] => rfl
  | [_] => rfl
  | [_, _] => rfl
  | [_, _, _] => rfl
  | [c0, c1, c2, c3] =>
    have e1 : substr #[c0, c1, c2, c3] 0 2 = .ok #[c0, c1] := rfl
    have e2 : substr #[c0, c1, c2, c3] 2 2 = .ok #[c2, c3] := rfl
    simp only [uciStringToMoveIdx, uciStringToMove, e1, e2, getSquareIdx_pair]
    generalize getSquare c0 c1 = fo
    generalize getSquare c2 c3 = to
    cases fo <;> cases to <;> simp only [emptyToNone_eq] <;> rfl
  | [c0, c1, c2, c3, c4] =>
    have e1 : substr #[c0, c1, c2, c3, c4] 0 2 = .ok #[c0, c1] := rfl
    have e2 : substr #[c0, c1, c2, c3, c4] 2 2 = .ok #[c2, c3] := rfl
    have e3 : ∀ k : Char → M (Option Mv), rd #[c0, c1, c2, c3, c4] 4 k = k c4 := fun _ => rfl
    simp only [uciStringToMoveIdx, uciStringToMove, e1, e2, e3, getSquareIdx_pair]
    generalize getSquare c0 c1 = fo
    generalize getSquare c2 c3 = to
    cases fo <;> cases to <;>
      simp only [emptyToNone_eq, apply_ite (Option.filter _), apply_ite (Except.ok (ε := PErr)), Option.filter_none] <;> rfl
  | _ :: _ :: _ :: _ :: _ :: _ :: _ =>
    simp [uciStringToMoveIdx, uciStringToMove]

theorem trimBack_noOob (s : Array Char) (i k : Nat) (hi : i ≤ s.size) (hk : k ≤ s.size) : NoOob (trimBack s i k) := by
  induction k with
  | zero => exact noOob_ok _
  | succ k ih =>
    unfold trimBack
    split
    · exact noOob_ok _
    · rw [rd_of_lt _ _ _ (by omega)]
      split
      · rw [substr_ok _ _ _ hi]; exact noOob_ok _
      · exact ih (by omega)

theorem trimFrom_noOob (s : Array Char) (i : Nat) : NoOob (trimFrom s i) := by
  fun_induction trimFrom s i
  · rename_i i h ih
    rw [rd_of_lt _ _ _ h]
    split
    · exact trimBack_noOob _ _ _ (by omega) (by omega)
    · exact ih
  · exact noOob_ok _

theorem trim_noOob (s : Array Char) : NoOob (trim s) := trimFrom_noOob s 0

theorem tokLoop_spec (t : Array Char) (i : Nat) (st : TokSt) (hs : st.start ≤ i) (hi : i ≤ t.size) :
    NoOob (tokLoop t i st) ∧ ∀ st', tokLoop t i st = .ok st' → st'.start ≤ t.size := by
  fun_induction tokLoop t i st
  · rename_i i st h ih3 ih2 ih1
    rw [rd_of_lt _ _ _ h]
    split
    · split
      · rw [substr_ok _ _ _ (by omega)]
        exact ih3 _ (by show st.start ≤ i + 1; omega) (by omega)
      · exact ih2 (by omega) (by omega)
    · split
      · exact ih1 (by show i ≤ i + 1; omega) (by omega)
      · exact ih2 (by omega) (by omega)
  · rename_i i st h
    refine ⟨noOob_ok _, ?_⟩
    intro st' he
    cases he
    omega

/-- **the UCI tokenizer (with `trim`) never indexes outside its input** -/
theorem tokenize_noOob (line : Array Char) : NoOob (tokenize line) := by
  unfold tokenize
  split
  · rename_i e he; intro hc; cases hc; exact trim_noOob _ he
  · rename_i t ht
    have hspec := tokLoop_spec t 0 {} (by show 0 ≤ 0; omega) (by omega)
    split
    · rename_i e he; intro hc; cases hc; exact hspec.1 he
    · rename_i st hst
      split
      · rw [substr_ok _ _ _ (hspec.2 _ hst)]; exact noOob_ok _
      · exact noOob_ok _

end Chess.Idx
