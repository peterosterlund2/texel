import TexelVerif.Chess.UnMoveLemmas
import TexelVerif.Chess.SpecLemmas
/-! Completeness of the un-move oracle (property C15): every `(m, undoInfo P m)` of the relational specification is
    among the candidates and passes the direct evaluation. -/
namespace Chess
open PosImpl (getP getP_eq getP_oob getP_setSq_bound)

theorem ofCore_congr {P P' : Pos} (h : P.core = P'.core) : Pos.ofCore P.core = Pos.ofCore P'.core := by rw [h]

theorem core_congr {P P' : Pos} (h : P.core = P'.core) (m : Mv) :
    pseudo P m = pseudo P' m ∧ legalB P m = legalB P' m ∧ wfB P = wfB P' ∧
    (fixupEP (apply P m)).core = (fixupEP (apply P' m)).core ∧ undoInfo P m = undoInfo P' m := by
  refine ⟨pseudo_congr h m, legalB_core_congr h m, wfB_core_congr h, fixupEP_core_congr (apply_core_congr h m), ?_⟩
  unfold undoInfo Pos.at
  rw [show P.b = P'.b from congrArg Core.b h, show P.castle = P'.castle from congrArg Core.castle h,
    show P.ep = P'.ep from congrArg Core.ep h]

/-- un-making the move from any position with the successor's core gives back the predecessor's core -/
theorem unmake_core (P Q : Pos) (m : Mv) (hp : pseudo P m = true) (hs : epShape P = true)
    (hq : (fixupEP (apply P m)).core = Q.core) : (unmake Q m (undoInfo P m)).core = P.core := by
  have hb : (fixupEP (apply P m)).b = Q.b := congrArg Core.b hq
  have hw : (fixupEP (apply P m)).wtm = Q.wtm := congrArg Core.wtm hq
  rw [fixupEP_b] at hb
  rw [fixupEP_wtm] at hw
  have hw' : (!Q.wtm) = P.wtm := by rw [← hw]; show (!(!P.wtm)) = P.wtm; simp
  unfold unmake Pos.core undoInfo
  simp only
  rw [← hb, hw', unmake_apply_board P m hp hs]

theorem mem_mvCands (Q : Pos) (m : Mv) (h1 : own (!Q.wtm) (Q.at m.t) = true) (h2 : m.promo = 0 ∨ m.promo = Q.at m.t)
    (h3 : geomB (movedPc (!Q.wtm) (Q.at m.t) m.promo) m = true) : m ∈ mvCands Q := by
  unfold mvCands
  simp only [List.mem_flatMap, List.mem_filter, List.mem_map, allSq, List.mem_finRange, true_and, List.mem_cons,
    List.not_mem_nil, or_false]
  exact ⟨m.t, h1, m.promo, h2, m.f, h3, rfl⟩

theorem mem_cands (all : Bool) (Q : Pos) (x : UnMv) (h1 : x.m ∈ mvCands Q) (h2 : x.ui.cap ∈ capCands (!Q.wtm))
    (h3 : x.ui.castle ∈ castleCands Q x.m) (h4 : x.ui.ep ∈ epCands all Q x.m) : x ∈ cands all Q := by
  unfold cands
  simp only [List.mem_flatMap, List.mem_map]
  exact ⟨x.m, h1, x.ui.cap, h2, x.ui.castle, h3, x.ui.ep, h4, rfl⟩

set_option maxRecDepth 100000 in
theorem cap_facts : ∀ (n : Fin 256) (w : Bool), let p := UInt8.ofNat n.val
    p ≤ 12 → own w p = false → p ∈ capCands w := by
  decide +kernel

theorem mem_capCands (w : Bool) (p : Pc) (h1 : p ≤ 12) (h2 : own w p = false) : p ∈ capCands w := by
  have := cap_facts ⟨p.toNat, p.toNat_lt⟩ w
  simp only [UInt8.ofNat_toNat] at this
  exact this h1 h2

theorem validCodes_at (b : Board) (h : validCodes b = true) (s : Sq) : b[s] ≤ 12 := by
  unfold validCodes at h
  rw [List.all_eq_true] at h
  have := h s (by simp [allSq])
  simpa using this

theorem and_not_trans (c mx k : UInt8) (h1 : c &&& ~~~mx = 0) (h2 : mx &&& ~~~k = 0) : c &&& ~~~k = 0 := by
  apply UInt8.eq_of_toBitVec_eq
  apply BitVec.eq_of_getLsbD_eq
  intro i hi
  have a := congrArg (fun x : UInt8 => x.toBitVec.getLsbD i) h1
  have b := congrArg (fun x : UInt8 => x.toBitVec.getLsbD i) h2
  simp only [UInt8.toBitVec_and, UInt8.toBitVec_not, BitVec.getLsbD_and, BitVec.getLsbD_not, hi, decide_true, Bool.true_and,
    UInt8.toBitVec_zero, BitVec.getLsbD_zero] at a b ⊢
  revert a b
  cases c.toBitVec.getLsbD i <;> cases mx.toBitVec.getLsbD i <;> cases k.toBitVec.getLsbD i <;> decide

set_option maxRecDepth 100000 in
theorem low_nibble_facts : ∀ c : Fin 256, (UInt8.ofNat c.val) &&& ~~~15 = 0 → c.val < 16 := by
  decide +kernel

theorem castleMax_low (b : Board) : castleMax b &&& ~~~15 = 0 := by
  unfold castleMax
  repeat' split
  all_goals decide

theorem castle_lt (p : Pos) (h : castleConsistent p = true) : p.castle.toNat < 16 := by
  unfold castleConsistent at h
  have h' : p.castle &&& ~~~(castleMax p.b) = 0 := by simpa using h
  have := low_nibble_facts ⟨p.castle.toNat, p.castle.toNat_lt⟩
  simp only [UInt8.ofNat_toNat] at this
  exact this (and_not_trans _ _ _ h' (castleMax_low p.b))

theorem mem_castleCands (Q : Pos) (m : Mv) (c : UInt8) (h1 : c.toNat < 16) (h2 : c &&& castleKeep m.f &&& castleKeep m.t = Q.castle) :
    c ∈ castleCands Q m := by
  unfold castleCands
  rw [List.mem_filter]
  refine ⟨?_, by simpa using h2⟩
  rw [List.mem_map]
  exact ⟨c.toNat, List.mem_range.mpr h1, UInt8.ofNat_toNat⟩

theorem pseudo_hl (p : Pos) (m : Mv) (h : pseudo p m = true) (k1 : kind (p.at m.f) = 1) (e : m.t.val + 2 = m.f.val) : 4 ≤ m.f.val := by
  rw [pseudo_king_eq p m k1, Bool.and_eq_true] at h
  have := ((kingRule_facts p m h.2).2.2 e).1
  rw [this]; split <;> decide

/-- what stands on the destination square after the move -/
theorem apply_at_t (P : Pos) (m : Mv) (h : pseudo P m = true) :
    (apply P m).b[m.t] = if m.promo != 0 then m.promo else P.at m.f := by
  rw [apply_b]
  exact applyBoard_t P m (pseudo_basic P m h).2.2 (pseudo_hl P m h)

theorem mem_epCands_all (P Q : Pos) (m : Mv) (hp : pseudo P m = true) (hs : epShape P = true) (hw : Q.wtm = !P.wtm)
    (hb : (apply P m).b = Q.b) : P.ep ∈ epCands true Q m := by
  unfold epCands
  simp only [if_true]
  cases he : P.ep with
  | none => exact List.mem_cons_self
  | some e =>
    apply List.mem_cons_of_mem
    rw [List.mem_map]
    refine ⟨e, ?_, rfl⟩
    rw [List.mem_filter]
    refine ⟨by simp [allSq], ?_⟩
    rw [Bool.and_eq_true]
    constructor
    · have hs' := hs
      unfold epShape at hs'
      rw [he] at hs'
      rw [hw]
      cases hpw : P.wtm
      · simp only [hpw, Bool.false_eq_true, if_false, Bool.and_eq_true] at hs'
        simpa using hs'.1.1.1.1
      · simp only [hpw, if_true, Bool.and_eq_true] at hs'
        simpa using hs'.1.1.1.1
    · obtain ⟨a1, a2, a3⟩ := ep_traces P m e hp hs he
      rw [apply_b] at hb
      rw [hb] at a1 a2 a3
      unfold getP at a1 a2 a3
      unfold epTracePlausible
      simp only [Bool.or_eq_true, Bool.and_eq_true, beq_iff_eq]
      rw [hw]
      cases hpw : P.wtm
      · simp only [hpw, Bool.false_eq_true, if_false] at a1 a2 a3
        simpa using ⟨⟨or_assoc.mpr a1, a2⟩, a3⟩
      · simp only [hpw, if_true] at a1 a2 a3
        simpa using ⟨⟨or_assoc.mpr a1, a2⟩, a3⟩

theorem wfB_facts (p : Pos) (h : wfB p = true) :
    epShape p = true ∧ castleConsistent p = true ∧ validCodes p.b = true := by
  unfold wfB at h
  simp only [Bool.and_eq_true] at h
  exact ⟨h.1.1.1.1.1.1.1.1, h.1.1.1.1.1.1.1.2, h.1.1.1.1.1.1.2⟩

theorem epCapLegal_iff (p : Pos) (e : Sq) (hs : epShape p = true) (he : p.ep = some e) :
    ((genLegal p).any fun m => m.t == e && kind (p.at m.f) == 6) = epCapLegal p e := by
  rw [Bool.eq_iff_iff]
  constructor
  · intro h
    rw [List.any_eq_true] at h
    obtain ⟨m, hm, hc⟩ := h
    simp only [Bool.and_eq_true, beq_iff_eq] at hc
    obtain ⟨hte, k6⟩ := hc
    have hleg := (mem_genLegal p m).mp hm
    have hp := legalB_pseudo p m hleg
    have hp' := hp
    rw [pseudo_pawn_eq p m k6, Bool.and_eq_true] at hp'
    obtain ⟨hown, _, _⟩ := (preRule_iff p m).1 hp'.1
    have he' : p.ep = some m.t := by rw [hte]; exact he
    obtain ⟨hpr, _, _, _, d1, d2⟩ := pawn_ep_facts p m hown hp'.2 hs he'
    have hm' : m = { f := m.f, t := e, promo := 0 } := by
      cases m; simp only at hte hpr; simp [hte, hpr]
    -- the capturer stands on one of the two candidate squares
    obtain ⟨dx, hdx, hfx⟩ : ∃ dx ∈ [(-1 : Int), 1], (m.f.x : Int) = (m.t.x : Int) + dx := by
      by_cases hx : (m.f.x : Int) = (m.t.x : Int) + (-1)
      · exact ⟨-1, by simp, hx⟩
      · exact ⟨1, by simp, by omega⟩
    unfold epCapLegal
    rw [List.any_eq_true, ← hte]
    refine ⟨dx, hdx, ?_⟩
    rw [show mkSq? ((m.t.x : Int) + dx) ((m.t.y : Int) - (if p.wtm then 1 else -1)) = some m.f by
      rw [← mkSq?_xy m.f]; congr 1 <;> omega]
    simp only [Bool.and_eq_true, beq_iff_eq]
    refine ⟨k6, ?_⟩
    rw [hte, ← hm']; exact hleg
  · intro h
    unfold epCapLegal at h
    rw [List.any_eq_true] at h
    obtain ⟨dx, _, hc⟩ := h
    split at hc
    · next f hf =>
      simp only [Bool.and_eq_true, beq_iff_eq] at hc
      rw [List.any_eq_true]
      exact ⟨{ f := f, t := e, promo := 0 }, (mem_genLegal p _).mpr hc.2, by simp [hc.1]⟩
    · cases hc

/-- on a position of e.p. shape the normalisation needs only the (at most two) candidate captures, not the move list -/
theorem fixupEP_of_epShape (p : Pos) (hs : epShape p = true) :
    fixupEP p = if epValid p then p else { p with ep := none } := by
  unfold fixupEP epValid
  cases he : p.ep with
  | none => simp
  | some e => simp only; rw [epCapLegal_iff p e hs he]

theorem epValid_eq (p : Pos) (hs : epShape p = true) : ((fixupEP p).ep == p.ep) = epValid p := by
  rw [fixupEP_of_epShape p hs]
  cases hv : epValid p
  · unfold epValid at hv
    cases he : p.ep with
    | none => rw [he] at hv; cases hv
    | some e => simp
  · simp

theorem wfFast_eq (p : Pos) : wfFast p = wfB p := by
  unfold wfFast wfB
  cases hs : epShape p
  · simp
  · rw [epValid_eq p hs]

/-- **completeness of the oracle** -/
theorem unMoves_complete (all : Bool) (Q : Pos) (x : UnMv) (h : Pred Q x)
    (hm : all = true ∨ x.ui.ep = none ∨ isEpUn Q x = true) : x ∈ unMoves all Q := by
  obtain ⟨P, hwf, hleg, hq, hui⟩ := h
  have hp := legalB_pseudo P x.m hleg
  obtain ⟨hs, hcc, hv⟩ := wfB_facts P hwf
  obtain ⟨hown, hnown, hne⟩ := pseudo_basic P x.m hp
  have hb : (apply P x.m).b = Q.b := by rw [← fixupEP_b]; exact congrArg Core.b hq
  have hw : Q.wtm = !P.wtm := by
    have : (fixupEP (apply P x.m)).wtm = Q.wtm := congrArg Core.wtm hq
    rw [fixupEP_wtm] at this; rw [← this]; rfl
  have hw' : (!Q.wtm) = P.wtm := by rw [hw]; simp
  have hc : P.castle &&& castleKeep x.m.f &&& castleKeep x.m.t = Q.castle := by
    have : (fixupEP (apply P x.m)).castle = Q.castle := congrArg Core.castle hq
    rw [fixupEP_castle] at this; rw [← this]; rfl
  have hcore : (unmake Q x.m x.ui).core = P.core := by rw [hui]; exact unmake_core P Q x.m hp hs hq
  obtain ⟨c1, c2, c3, c4, c5⟩ := core_congr hcore x.m
  have hat : Q.at x.m.t = if x.m.promo != 0 then x.m.promo else P.at x.m.f := by
    unfold Pos.at; rw [← hb]; exact apply_at_t P x.m hp
  have hmoved : movedPc (!Q.wtm) (Q.at x.m.t) x.m.promo = P.at x.m.f := by
    rw [hat, hw']
    unfold movedPc
    by_cases h0 : x.m.promo = 0
    · simp [h0]
    · simp [h0, show P.at x.m.f = pawnOf P.wtm from pseudo_promo_pawn P x.m hp h0]
  unfold unMoves
  rw [List.mem_filter]
  constructor
  · apply mem_cands
    · apply mem_mvCands
      · rw [hat, hw']
        by_cases h0 : x.m.promo = 0
        · simpa [h0] using hown
        · simpa [h0] using mem_promos_own _ _ (pseudo_promo P x.m hp) h0
      · rw [hat]
        by_cases h0 : x.m.promo = 0
        · exact Or.inl h0
        · right; simp [h0]
      · rw [hmoved]; exact pseudo_geom P x.m hp
    · rw [hui, hw']
      exact mem_capCands _ _ (validCodes_at P.b hv x.m.t) hnown
    · rw [hui]
      exact mem_castleCands Q x.m P.castle (castle_lt P hcc) hc
    · rcases hm with rfl | he | he
      · rw [hui]; exact mem_epCands_all P Q x.m hp hs hw hb
      · unfold epCands
        rw [he]
        cases all
        · simp only [Bool.false_eq_true, if_false]; split <;> simp
        · simp
      · unfold isEpUn at he
        simp only [Bool.and_eq_true, beq_iff_eq] at he
        unfold epCands
        cases all
        · simp only [Bool.false_eq_true, if_false]
          rw [if_pos (by simpa using he.1), he.2]
          simp
        · rw [hui]; exact mem_epCands_all P Q x.m hp hs hw hb
  · unfold predB
    simp only [Bool.and_eq_true, beq_iff_eq]
    refine ⟨⟨⟨⟨?_, ?_⟩, ?_⟩, ?_⟩, ?_⟩
    · rw [c1]; exact hp
    · rw [wfFast_eq, c3]; exact hwf
    · rw [c2]; exact hleg
    · rw [c4]; exact hq
    · rw [c5]; exact hui.symm

/-! ## the mode without unused e.p. squares loses no predecessor -/

def noEp (P : Pos) : Pos := { P with ep := none }

theorem pseudo_noEp (P : Pos) (m : Mv) (h : ¬ (kind (P.at m.f) = 6 ∧ P.ep = some m.t)) : pseudo (noEp P) m = pseudo P m := by
  by_cases k6 : kind (P.at m.f) = 6
  · have k6' : kind ((noEp P).at m.f) = 6 := k6
    have he : ¬ P.ep = some m.t := fun e => h ⟨k6, e⟩
    rw [pseudo_pawn_eq P m k6, pseudo_pawn_eq (noEp P) m k6']
    have : pawnRule (noEp P) m = pawnRule P m := by
      have he' : (P.ep == some m.t) = false := by simpa using he
      unfold pawnRule noEp
      simp [he', Pos.at]
    rw [this]; rfl
  · by_cases k1 : kind (P.at m.f) = 1
    · have k1' : kind ((noEp P).at m.f) = 1 := k1
      rw [pseudo_king_eq P m k1, pseudo_king_eq (noEp P) m k1']; rfl
    · have k6' : kind ((noEp P).at m.f) ≠ 6 := k6
      have k1' : kind ((noEp P).at m.f) ≠ 1 := k1
      rw [pseudo_other_eq P m k6 k1, pseudo_other_eq (noEp P) m k6' k1']; rfl

theorem apply_noEp (P : Pos) (m : Mv) (h : ¬ (kind (P.at m.f) = 6 ∧ P.ep = some m.t)) : apply (noEp P) m = apply P m := by
  have h' := h
  simp only [Pos.at, Fin.getElem_fin] at h'
  unfold apply noEp
  simp [Pos.at, h']

theorem wfB_noEp (P : Pos) (h : wfB P = true) : wfB (noEp P) = true := by
  unfold wfB at h ⊢
  simp only [Bool.and_eq_true] at h ⊢
  obtain ⟨⟨⟨⟨⟨⟨⟨⟨_, h2⟩, h3⟩, h4⟩, h5⟩, h6⟩, h7⟩, h8⟩, _⟩ := h
  exact ⟨⟨⟨⟨⟨⟨⟨⟨rfl, h2⟩, h3⟩, h4⟩, h5⟩, h6⟩, h7⟩, h8⟩, by simp [fixupEP, noEp]⟩

theorem legalB_noEp (P : Pos) (m : Mv) (h : ¬ (kind (P.at m.f) = 6 ∧ P.ep = some m.t)) : legalB (noEp P) m = legalB P m := by
  unfold legalB
  rw [pseudo_noEp P m h, apply_noEp P m h]; rfl

/-- a predecessor with an unused e.p. square is also a predecessor without it -/
theorem pred_noEp (Q : Pos) (x : UnMv) (h : Pred Q x) (hn : isEpUn Q x = false) :
    Pred Q x.noEp := by
  obtain ⟨P, hwf, hleg, hq, hui⟩ := h
  have hp := legalB_pseudo P x.m hleg
  obtain ⟨hs, _, _⟩ := wfB_facts P hwf
  have hcond : ¬ (kind (P.at x.m.f) = 6 ∧ P.ep = some x.m.t) := by
    rintro ⟨k6, he⟩
    rw [pseudo_pawn_eq P x.m k6, Bool.and_eq_true] at hp
    obtain ⟨hown, _, _⟩ := (preRule_iff P x.m).1 hp.1
    obtain ⟨hpr, _⟩ := pawn_ep_facts P x.m hown hp.2 hs he
    have hb : (apply P x.m).b = Q.b := by rw [← fixupEP_b]; exact congrArg Core.b hq
    have hat : Q.at x.m.t = P.at x.m.f := by
      unfold Pos.at; rw [← hb, apply_at_t P x.m (legalB_pseudo P x.m hleg)]; simp [hpr, Pos.at]
    have : isEpUn Q x = true := by
      unfold isEpUn
      rw [hat, k6, hui]
      simp [undoInfo, he]
    rw [this] at hn; cases hn
  refine ⟨noEp P, wfB_noEp P hwf, ?_, ?_, ?_⟩
  · show legalB (noEp P) x.m = true
    rw [legalB_noEp P x.m hcond]; exact hleg
  · show (fixupEP (apply (noEp P) x.m)).core = Q.core
    rw [apply_noEp P x.m hcond]; exact hq
  · show x.noEp.ui = undoInfo (noEp P) x.m
    unfold UnMv.noEp; rw [hui]; rfl

/-! ## positions with an e.p. square: the double push came from an empty square -/

theorem fixupEP_ep_some (p : Pos) (e : Sq) (h : (fixupEP p).ep = some e) : p.ep = some e := by
  rcases fixupEP_cases p with hc | hc
  · rw [hc] at h; exact h
  · rw [hc] at h; cases h

/-- **the repaired behaviour is all the specification asks for**: a position with an e.p. square has predecessors
    only if the origin square of the double push (and the e.p. square itself) is empty -/
theorem pred_ep_origin_empty (Q : Pos) (x : UnMv) (e : Sq) (h : Pred Q x) (he : Q.ep = some e) :
    Q.b.getD (if Q.wtm then e.val + 8 else e.val - 8) 0 = 0 ∧ Q.b.getD e.val 0 = 0 := by
  obtain ⟨P, hwf, hleg, hq, hui⟩ := h
  have hp := legalB_pseudo P x.m hleg
  have hb : (apply P x.m).b = Q.b := by rw [← fixupEP_b]; exact congrArg Core.b hq
  have hw : Q.wtm = !P.wtm := by
    have : (fixupEP (apply P x.m)).wtm = Q.wtm := congrArg Core.wtm hq
    rw [fixupEP_wtm] at this; rw [← this]; rfl
  have hep : (fixupEP (apply P x.m)).ep = some e := by
    have : (fixupEP (apply P x.m)).ep = Q.ep := congrArg Core.ep hq
    rw [this, he]
  obtain ⟨k6, hd, hev⟩ := apply_ep_some P x.m e (fixupEP_ep_some _ _ hep)
  have hp' := hp
  rw [pseudo_pawn_eq P x.m k6, Bool.and_eq_true] at hp'
  obtain ⟨hown, _, hne⟩ := (preRule_iff P x.m).1 hp'.1
  have hf := x.m.f.isLt
  have ht := x.m.t.isLt
  obtain ⟨hs, _, _⟩ := wfB_facts P hwf
  have hel := e.isLt
  -- a double push stays on its file, an e.p. capture does not: the move is not a capture onto the predecessor's e.p. square
  have hnep : P.ep ≠ some x.m.t := by
    intro hpe
    have := (pawn_ep_facts P x.m hown hp'.2 hs hpe).2.1
    unfold Sq.x at this
    omega
  obtain ⟨hmid, hdir⟩ := pawn_double_push P x.m hp'.2 hd
  rw [apply_b] at hb
  have hF := applyBoard_f P x.m hne
  have hE : getP (applyB P x.m) e.val = 0 := by
    rw [square_stays P x.m e.val hp (by omega) (by omega) (by omega) (fun h => absurd h hnep)]
    rw [show e.val = (x.m.f.val + x.m.t.val) / 2 by omega]
    exact hmid
  rw [hb] at hF hE
  unfold getP at hF hE
  rw [hw]
  cases hw' : P.wtm
  · rw [hw'] at hdir
    simp only [Bool.false_eq_true, if_false] at hdir
    rw [show (if (!false) = true then e.val + 8 else e.val - 8) = x.m.f.val by simp only [Bool.not_false, if_true]; omega]
    exact ⟨hF, hE⟩
  · rw [hw'] at hdir
    simp only [if_true] at hdir
    rw [show (if (!true) = true then e.val + 8 else e.val - 8) = x.m.f.val by
      simp only [Bool.not_true, Bool.false_eq_true, if_false]; omega]
    exact ⟨hF, hE⟩

end Chess
