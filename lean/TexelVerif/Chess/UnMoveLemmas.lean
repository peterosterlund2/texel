import TexelVerif.Chess.UnMove
import TexelVerif.Chess.SpecEquations
/-!
Lemmas for property C15: (1) everything the specification says about a position depends on its `core` only;
(2) un-making a pseudo-legal move restores the board (`unmake_apply_board`), by cases plain / castle short / castle
long / e.p. capture; (3) geometry of pseudo-legal moves (`pseudo_geom`), used to prune the oracle's candidates.
-/
namespace Chess
open PosImpl (getP getP_eq getP_oob getP_setSq_bound board_ext setSq_setSq setSq_comm setSq_getP)

def Pos.ofCore (c : Core) : Pos := { b := c.b, wtm := c.wtm, castle := c.castle, ep := c.ep, hmc := 0, fmc := 0 }

/-- to prove a relation between two positions with the same core, take them equal up to the two counters -/
theorem core_cases {motive : Pos → Pos → Prop}
    (h : ∀ b w c e hm fm hm' fm', motive ⟨b, w, c, e, hm, fm⟩ ⟨b, w, c, e, hm', fm'⟩)
    {P P' : Pos} (hc : P.core = P'.core) : motive P P' := by
  obtain ⟨b, w, c, e, hm, fm⟩ := P
  obtain ⟨b', w', c', e', hm', fm'⟩ := P'
  simp only [Pos.core, Core.mk.injEq] at hc
  obtain ⟨rfl, rfl, rfl, rfl⟩ := hc
  exact h _ _ _ _ _ _ _ _

theorem pseudo_congr {P P' : Pos} (h : P.core = P'.core) (m : Mv) : pseudo P m = pseudo P' m :=
  core_cases (motive := fun P P' => pseudo P m = pseudo P' m) (fun _ _ _ _ _ _ _ _ => rfl) h

theorem apply_core_congr {P P' : Pos} (h : P.core = P'.core) (m : Mv) : (apply P m).core = (apply P' m).core :=
  core_cases (motive := fun P P' => (apply P m).core = (apply P' m).core) (fun _ _ _ _ _ _ _ _ => rfl) h

theorem legalB_core_congr {P P' : Pos} (h : P.core = P'.core) (m : Mv) : legalB P m = legalB P' m := by
  unfold legalB
  rw [pseudo_congr h m, show (apply P m).b = (apply P' m).b from congrArg Core.b (apply_core_congr h m),
    show P.wtm = P'.wtm from congrArg Core.wtm h]

theorem genLegal_core_congr {P P' : Pos} (h : P.core = P'.core) : genLegal P = genLegal P' := by
  have hc : candidates P = candidates P' :=
    core_cases (motive := fun P P' => candidates P = candidates P') (fun _ _ _ _ _ _ _ _ => rfl) h
  unfold genLegal
  rw [hc, funext (legalB_core_congr h)]

theorem fixupEP_core_congr {P P' : Pos} (h : P.core = P'.core) : (fixupEP P).core = (fixupEP P').core := by
  have hat : ∀ s, P.at s = P'.at s := fun s => congrArg (fun c : Core => c.b[s]) h
  have hn : ({ P with ep := none } : Pos).core = ({ P' with ep := none } : Pos).core := by
    simp only [Pos.core, Core.mk.injEq] at h ⊢
    exact ⟨h.1, h.2.1, h.2.2.1, trivial⟩
  unfold fixupEP
  rw [show P.ep = P'.ep from congrArg Core.ep h, genLegal_core_congr h]
  cases P'.ep with
  | none => exact h
  | some e =>
    simp only [hat]
    split
    · exact h
    · exact hn

theorem wfB_core_congr {P P' : Pos} (h : P.core = P'.core) : wfB P = wfB P' := by
  have he : (fixupEP P).ep = (fixupEP P').ep := congrArg Core.ep (fixupEP_core_congr h)
  revert he
  exact core_cases (motive := fun P P' => (fixupEP P).ep = (fixupEP P').ep → wfB P = wfB P')
    (fun _ _ _ _ _ _ _ _ he => by unfold wfB; rw [he]; rfl) h

theorem setSq_restore (b : Board) (i j : Nat) (x y u v : Pc) (hij : i ≠ j) (hu : getP b j = u) (hv : getP b i = v) :
    setSq (setSq (setSq (setSq b i x) j y) j u) i v = b := by
  rw [setSq_setSq, setSq_comm _ i j x u hij, setSq_setSq, setSq_getP _ _ _ hu, setSq_getP _ _ _ hv]

theorem pc_fact (p : Pc) :
    (kind p = 6 → isWhite p = true → p = WPAWN) ∧ (kind p = 6 → isBlack p = true → p = BPAWN) ∧
    (isWhite p = true → isBlack p = false) ∧ (isWhite p = true → p ≠ 0) ∧ (isBlack p = true → p ≠ 0) ∧
    (p ≤ 12 → isWhite p = false → isBlack p = false → p = 0) := by
  have hw : ∀ x ∈ ownCodes true, (kind x = 6 → x = WPAWN) ∧ isBlack x = false ∧ x ≠ 0 := by decide
  have hb : ∀ x ∈ ownCodes false, (kind x = 6 → x = BPAWN) ∧ x ≠ 0 := by decide
  refine ⟨fun hk h => (hw p (own_mem true p h)).1 hk, fun hk h => (hb p (own_mem false p h)).1 hk,
    fun h => (hw p (own_mem true p h)).2.1, fun h => (hw p (own_mem true p h)).2.2,
    fun h => (hb p (own_mem false p h)).2, fun h12 => ?_⟩
  exact forall_code (fun x => isWhite x = false → isBlack x = false → x = 0) (by decide) (UInt8.le_iff_toNat_le.1 h12)

theorem own_ne_zero_um (w : Bool) (p : Pc) (ho : own w p = true) : p ≠ 0 := own_ne_zero w p ho

theorem applyBoard_t (P : Pos) (m : Mv) (hne : m.f ≠ m.t)
    (hl : kind (P.at m.f) = 1 → m.t.val + 2 = m.f.val → 4 ≤ m.f.val) :
    (applyB P m)[m.t] = if m.promo != 0 then m.promo else P.at m.f := by
  have hne' : m.f.val ≠ m.t.val := fun h => hne (Fin.ext h)
  have ht := m.t.isLt
  have : (applyB P m)[m.t] = getP (applyB P m) m.t.val := (getP_eq _ _ ht).symm
  rw [this]
  unfold applyB movedB isEp
  split
  · next h =>
    simp only [Bool.and_eq_true, beq_iff_eq] at h
    have h1 : ¬ (m.f.val + 1 = m.t.val) := by omega
    have h2 : ¬ (m.f.val + 3 = m.t.val) := by omega
    simp [getP_setSq_bound, h1, h2, ht]
  · split
    · next h =>
      simp only [Bool.and_eq_true, beq_iff_eq] at h
      have := hl h.1 h.2
      have h1 : ¬ (m.f.val - 1 = m.t.val) := by omega
      have h2 : ¬ (m.f.val - 4 = m.t.val) := by omega
      simp [getP_setSq_bound, h1, h2, ht]
    · simp [getP_setSq_bound, ht]

theorem moved_eq (P : Pos) (m : Mv) (hne : m.f ≠ m.t) (hpr : m.promo ≠ 0 → P.at m.f = pawnOf P.wtm)
    (hl : kind (P.at m.f) = 1 → m.t.val + 2 = m.f.val → 4 ≤ m.f.val) :
    movedPc P.wtm (applyB P m)[m.t] m.promo = P.at m.f := by
  rw [applyBoard_t P m hne hl]
  unfold movedPc
  by_cases h : m.promo = 0
  · simp [h]
  · simp [h, hpr h]

theorem applyBoard_f (P : Pos) (m : Mv) (hne : m.f ≠ m.t) : getP (applyB P m) m.f.val = 0 := by
  have hne' : m.f.val ≠ m.t.val := fun h => hne (Fin.ext h)
  have hf := m.f.isLt
  unfold applyB movedB isEp
  split
  · simp only [getP_setSq_bound]
    rw [if_neg (by omega), if_neg (by omega), if_neg (by omega), if_pos ⟨trivial, hf⟩]
  · split
    · next h =>
      simp only [Bool.and_eq_true, beq_iff_eq] at h
      simp only [getP_setSq_bound]
      rw [if_neg (by omega), if_neg (by omega), if_neg (by omega), if_pos ⟨trivial, hf⟩]
    · simp only [getP_setSq_bound]
      rw [if_neg (by omega), if_pos ⟨trivial, hf⟩]

/-- `b'` differs from `b` only on squares that are now empty or hold a piece of side `w` -/
def OnlyOwn (w : Bool) (b b' : Board) : Prop := ∀ i, getP b' i = getP b i ∨ getP b' i = 0 ∨ own w (getP b' i) = true

theorem OnlyOwn.refl (w : Bool) (b : Board) : OnlyOwn w b b := fun _ => Or.inl rfl

theorem OnlyOwn.setSq {w : Bool} {b b' : Board} (h : OnlyOwn w b b') (n : Nat) {v : Pc} (hv : v = 0 ∨ own w v = true) :
    OnlyOwn w b (setSq b' n v) := by
  intro i
  rw [getP_setSq_bound]
  split
  · exact Or.inr hv
  · exact h i

theorem mem_promos_own (w : Bool) (x : Pc) (h : x ∈ promos w) (hx : x ≠ 0) : own w x = true := by
  cases w <;> simp [promos] at h <;> rcases h with rfl | rfl | rfl | rfl | rfl <;> first | exact absurd rfl hx | decide

/-- a pseudo-legal move writes only empty squares, the piece it places, and (castling) the mover's rook -/
theorem applyBoard_onlyOwn (P : Pos) (m : Mv) (hp : pseudo P m = true) : OnlyOwn P.wtm P.b (applyB P m) := by
  have hplaced : own P.wtm (if m.promo != 0 then m.promo else P.at m.f) = true := by
    split
    · next h => exact mem_promos_own _ _ (pseudo_promo P m hp) (by simpa using h)
    · exact pseudo_own P m hp
  have hrook : own P.wtm (if P.wtm then WROOK else BROOK) = true := by cases P.wtm <;> rfl
  have h0 : OnlyOwn P.wtm P.b
      (if (kind (P.at m.f) == 6 && P.ep == some m.t && !(P.at m.t != 0) && m.f.x != m.t.x) = true
        then setSq P.b (if P.wtm = true then m.t.val - 8 else m.t.val + 8) 0 else P.b) := by
    split
    · exact (OnlyOwn.refl _ _).setSq _ (Or.inl rfl)
    · exact OnlyOwn.refl _ _
  have h1 := (h0.setSq m.f.val (Or.inl rfl)).setSq m.t.val (Or.inr hplaced)
  unfold applyB movedB isEp
  split
  · exact (h1.setSq _ (Or.inl rfl)).setSq _ (Or.inr hrook)
  · split
    · exact (h1.setSq _ (Or.inl rfl)).setSq _ (Or.inr hrook)
    · exact h1

theorem kind_ne_of_eq {p : Pc} {a b : UInt8} (h : kind p = a) (hab : a ≠ b) : (kind p == b) = false := by
  rw [h]; simpa using hab

theorem unmake_plain (P : Pos) (m : Mv) (hne : m.f ≠ m.t)
    (hc1 : (kind (P.at m.f) == 1 && m.t.val == m.f.val + 2) = false)
    (hc2 : (kind (P.at m.f) == 1 && m.t.val + 2 == m.f.val) = false)
    (hep : (kind (P.at m.f) == 6 && P.ep == some m.t) = false)
    (hpr : m.promo ≠ 0 → P.at m.f = pawnOf P.wtm) :
    unmakeBoard (applyB P m) P.wtm m (P.at m.t) P.ep = P.b := by
  have hne' : m.f.val ≠ m.t.val := fun h => hne (Fin.ext h)
  unfold unmakeBoard
  rw [moved_eq P m hne hpr (by intro h1 h2; simp [h1, h2] at hc2)]
  unfold unmakeBoardP applyB movedB isEp
  simp only [hc1, hc2, hep, Bool.false_and, if_false, Bool.false_eq_true]
  exact setSq_restore _ _ _ _ _ _ _ hne' (at_eq P m.t).symm (at_eq P m.f).symm

theorem unmake_short (P : Pos) (m : Mv) (hk : kind (P.at m.f) = 1) (ht2 : m.t.val = m.f.val + 2) (hpr : m.promo = 0)
    (h1 : getP P.b (m.f.val + 1) = 0) (h3 : getP P.b (m.f.val + 3) = (if P.wtm then WROOK else BROOK)) :
    unmakeBoard (applyB P m) P.wtm m (P.at m.t) P.ep = P.b := by
  have hne : m.f ≠ m.t := fun h => by rw [h] at ht2; omega
  unfold unmakeBoard
  rw [moved_eq P m hne (fun h => absurd hpr h) (by intro _ h; omega)]
  unfold unmakeBoardP applyB movedB isEp
  have e1 : (kind (P.at m.f) == 1 && m.t.val == m.f.val + 2) = true := by simp [hk, ht2]
  have e6 : (kind (P.at m.f) == 6) = false := kind_ne_of_eq hk (by decide)
  simp only [e1, e6, Bool.false_and, if_false, if_true, Bool.false_eq_true]
  -- the king's two writes commute with the rook's; then each pair is written back
  rw [setSq_comm _ (m.f.val + 1) m.t.val _ _ (by omega), setSq_comm _ (m.f.val + 3) m.t.val _ _ (by omega),
    setSq_comm _ (m.f.val + 1) m.f.val _ _ (by omega), setSq_comm _ (m.f.val + 3) m.f.val _ _ (by omega)]
  rw [setSq_restore _ _ _ _ _ _ _ (fun h => hne (Fin.ext h)) (at_eq P m.t).symm (at_eq P m.f).symm]
  exact setSq_restore _ _ _ _ _ _ _ (by omega) h1 h3

theorem unmake_long (P : Pos) (m : Mv) (hk : kind (P.at m.f) = 1) (ht2 : m.t.val + 2 = m.f.val) (hf4 : 4 ≤ m.f.val) (hpr : m.promo = 0)
    (h1 : getP P.b (m.f.val - 1) = 0) (h3 : getP P.b (m.f.val - 4) = (if P.wtm then WROOK else BROOK)) :
    unmakeBoard (applyB P m) P.wtm m (P.at m.t) P.ep = P.b := by
  have hne : m.f ≠ m.t := fun h => by rw [h] at ht2; omega
  unfold unmakeBoard
  rw [moved_eq P m hne (fun h => absurd hpr h) (by intro _ _; exact hf4)]
  unfold unmakeBoardP applyB movedB isEp
  have e0 : (kind (P.at m.f) == 1 && m.t.val == m.f.val + 2) = false := by
    have : ¬ (m.t.val = m.f.val + 2) := by omega
    simp [this]
  have e1 : (kind (P.at m.f) == 1 && m.t.val + 2 == m.f.val) = true := by simp [hk, ht2]
  have e6 : (kind (P.at m.f) == 6) = false := kind_ne_of_eq hk (by decide)
  simp only [e0, e1, e6, Bool.false_and, if_false, if_true, Bool.false_eq_true]
  rw [setSq_comm _ (m.f.val - 1) m.t.val _ _ (by omega), setSq_comm _ (m.f.val - 4) m.t.val _ _ (by omega),
    setSq_comm _ (m.f.val - 1) m.f.val _ _ (by omega), setSq_comm _ (m.f.val - 4) m.f.val _ _ (by omega),
    setSq_restore _ _ _ _ _ _ _ (fun h => hne (Fin.ext h)) (at_eq P m.t).symm (at_eq P m.f).symm]
  exact setSq_restore _ _ _ _ _ _ _ (by omega) h1 h3

theorem unmake_ep (P : Pos) (m : Mv) (hk : kind (P.at m.f) = 6) (hep : P.ep = some m.t) (hpr : m.promo = 0)
    (hx : m.f.x ≠ m.t.x) (h2 : P.at m.t = 0)
    (hc : (if P.wtm then m.t.val - 8 else m.t.val + 8) ≠ m.f.val ∧ (if P.wtm then m.t.val - 8 else m.t.val + 8) ≠ m.t.val ∧
      getP P.b (if P.wtm then m.t.val - 8 else m.t.val + 8) = (if P.wtm then BPAWN else WPAWN)) :
    unmakeBoard (applyB P m) P.wtm m (P.at m.t) P.ep = P.b := by
  have hne : m.f ≠ m.t := fun h => by rw [h] at hx; exact hx rfl
  have hne' : m.f.val ≠ m.t.val := fun h => hne (Fin.ext h)
  have e1 : (kind (P.at m.f) == 1) = false := kind_ne_of_eq hk (by decide)
  unfold unmakeBoard
  rw [moved_eq P m hne (fun h => absurd hpr h) (by intro h; rw [hk] at h; cases h)]
  unfold unmakeBoardP applyB movedB isEp
  have e6 : (kind (P.at m.f) == 6 && P.ep == some m.t) = true := by simp [hk, hep]
  have e7 : (!(P.at m.t != 0) && m.f.x != m.t.x) = true := by simp [h2, hx]
  simp only [e1, e6, Bool.true_and, e7, Bool.false_and, if_false, if_true, Bool.false_eq_true]
  -- the capturer's two squares are written back first, then the captured pawn
  have key : ∀ c : Nat, c ≠ m.f.val → c ≠ m.t.val → ∀ v, getP P.b c = v →
      setSq (setSq (setSq (setSq (setSq (setSq P.b c 0) m.f.val 0) m.t.val (if (m.promo != 0) = true then m.promo else P.at m.f))
        m.t.val (P.at m.t)) m.f.val (P.at m.f)) c v = P.b := by
    intro c hcf hct v hv
    rw [setSq_restore _ _ _ _ _ _ _ hne' (by rw [getP_setSq_bound, if_neg (fun e => hct e.1), at_eq])
      (by rw [getP_setSq_bound, if_neg (fun e => hcf e.1), at_eq]), setSq_setSq, setSq_getP _ _ _ hv]
  exact key _ hc.1 hc.2.1 _ hc.2.2

theorem kingRule_facts (p : Pos) (m : Mv) (h : kingRule p m = true) :
    m.promo = 0 ∧
    (m.t.val = m.f.val + 2 → m.f.val = (if p.wtm then 4 else 60) ∧ castleOk p true = true) ∧
    (m.t.val + 2 = m.f.val → m.f.val = (if p.wtm then 4 else 60) ∧ castleOk p false = true) := by
  unfold kingRule dxy at h
  simp only [Bool.and_eq_true, Bool.or_eq_true, beq_iff_eq, Sq.x, Sq.y] at h
  obtain ⟨hpr, hc⟩ := h
  have hf := m.f.isLt
  have ht := m.t.isLt
  refine ⟨hpr, ?_, ?_⟩
  · intro e
    rcases hc with (⟨a, b⟩ | ⟨⟨⟨a, b⟩, c⟩, d⟩) | ⟨⟨⟨a, b⟩, c⟩, d⟩
    · have a := of_decide_eq_true a; have b := of_decide_eq_true b; exfalso; omega
    · exact ⟨c, d⟩
    · exfalso; split at c <;> omega
  · intro e
    rcases hc with (⟨a, b⟩ | ⟨⟨⟨a, b⟩, c⟩, d⟩) | ⟨⟨⟨a, b⟩, c⟩, d⟩
    · have a := of_decide_eq_true a; have b := of_decide_eq_true b; exfalso; omega
    · exfalso; split at c <;> omega
    · exact ⟨c, d⟩

theorem pawn_ep_facts (p : Pos) (m : Mv) (ho : own p.wtm (p.at m.f) = true)
    (hr : pawnRule p m = true) (hs : epShape p = true) (he : p.ep = some m.t) :
    m.promo = 0 ∧ m.f.x ≠ m.t.x ∧ p.at m.t = 0 ∧
    ((if p.wtm then m.t.val - 8 else m.t.val + 8) ≠ m.f.val ∧ (if p.wtm then m.t.val - 8 else m.t.val + 8) ≠ m.t.val ∧
      getP p.b (if p.wtm then m.t.val - 8 else m.t.val + 8) = (if p.wtm then BPAWN else WPAWN)) ∧
    ((m.t.x : Int) - m.f.x).natAbs = 1 ∧ (m.t.y : Int) - m.f.y = (if p.wtm then 1 else -1) := by
  have hf := m.f.isLt
  have ht := m.t.isLt
  unfold epShape at hs
  rw [he] at hs
  unfold pawnRule promoOk dxy at hr
  rw [at_eq] at ho
  cases hw : p.wtm
  · simp only [hw, Bool.false_eq_true, if_false, Bool.and_eq_true, Bool.or_eq_true, beq_iff_eq, Sq.x, Sq.y] at hs hr ho ⊢
    obtain ⟨⟨⟨⟨s1, s2⟩, s3⟩, s4⟩, s5⟩ := hs
    obtain ⟨r1, r2⟩ := hr
    have hpr : m.promo = 0 := by
      rw [if_neg (by omega)] at r1; exact eq_of_beq r1
    have hfne : m.f.val ≠ m.t.val + 8 := by
      intro e
      change getP p.b (m.t.val + 8) = WPAWN at s3
      rw [e, s3] at ho
      revert ho; decide
    -- a push to the e.p. square is excluded: the square in front of it holds the double-pushed pawn
    rcases r2 with (⟨⟨a, b⟩, c⟩ | ⟨⟨⟨⟨a, b⟩, c⟩, d⟩, e⟩) | ⟨⟨a, b⟩, c⟩
    · exfalso; omega
    · exfalso; omega
    · exact ⟨hpr, by omega, s2, ⟨fun e => hfne e.symm, by omega, s3⟩, a, b⟩
  · simp only [hw, if_true, Bool.and_eq_true, Bool.or_eq_true, beq_iff_eq, Sq.x, Sq.y] at hs hr ho ⊢
    obtain ⟨⟨⟨⟨s1, s2⟩, s3⟩, s4⟩, s5⟩ := hs
    obtain ⟨r1, r2⟩ := hr
    have hpr : m.promo = 0 := by
      rw [if_neg (by omega)] at r1; exact eq_of_beq r1
    have hfne : m.f.val ≠ m.t.val - 8 := by
      intro e
      change getP p.b (m.t.val - 8) = BPAWN at s3
      rw [e, s3] at ho
      revert ho; decide
    rcases r2 with (⟨⟨a, b⟩, c⟩ | ⟨⟨⟨⟨a, b⟩, c⟩, d⟩, e⟩) | ⟨⟨a, b⟩, c⟩
    · exfalso; omega
    · exfalso; omega
    · exact ⟨hpr, by omega, s2, ⟨fun e => hfne e.symm, by omega, s3⟩, a, b⟩

/-- **un-making the move restores the board** -/
theorem unmake_apply_board (P : Pos) (m : Mv) (hp : pseudo P m = true) (hs : epShape P = true) :
    unmakeBoard (apply P m).b P.wtm m (P.at m.t) P.ep = P.b := by
  rw [apply_b]
  by_cases k1 : kind (P.at m.f) = 1
  · rw [pseudo_king_eq P m k1, Bool.and_eq_true] at hp
    obtain ⟨hpre, hk⟩ := hp
    obtain ⟨_, _, hne⟩ := (preRule_iff P m).1 hpre
    obtain ⟨hpr, hS, hL⟩ := kingRule_facts P m hk
    have e6 : (kind (P.at m.f) == 6) = false := kind_ne_of_eq k1 (by decide)
    by_cases a : m.t.val = m.f.val + 2
    · obtain ⟨hh, hc⟩ := hS a
      obtain ⟨_, c1, _, c3⟩ := castleOk_short P hc
      rw [← hh] at c1 c3
      exact unmake_short P m k1 a hpr c1 c3
    · by_cases b : m.t.val + 2 = m.f.val
      · obtain ⟨hh, hc⟩ := hL b
        obtain ⟨_, c1, _, _, c3⟩ := castleOk_long P hc
        rw [← hh] at c1 c3
        have : 4 ≤ m.f.val := by rw [hh]; split <;> decide
        exact unmake_long P m k1 b this hpr c1 c3
      · exact unmake_plain P m hne (by simp [a]) (by simp [b]) (by simp [e6]) (fun h => absurd hpr h)
  · have e1 : (kind (P.at m.f) == 1) = false := by simpa using k1
    by_cases k6 : kind (P.at m.f) = 6
    · rw [pseudo_pawn_eq P m k6, Bool.and_eq_true] at hp
      obtain ⟨hpre, hk⟩ := hp
      obtain ⟨ho, _, hne⟩ := (preRule_iff P m).1 hpre
      by_cases e : P.ep = some m.t
      · obtain ⟨a1, a2, a3, a4, _⟩ := pawn_ep_facts P m ho hk hs e
        exact unmake_ep P m k6 e a1 a2 a3 a4
      · exact unmake_plain P m hne (by simp [e1]) (by simp [e1]) (by simp [e]) (fun _ => own_kind6 _ _ ho k6)
    · rw [pseudo_other_eq P m k6 k1, Bool.and_eq_true, Bool.and_eq_true] at hp
      obtain ⟨hpre, hpr, _⟩ := hp
      obtain ⟨_, _, hne⟩ := (preRule_iff P m).1 hpre
      have e6 : (kind (P.at m.f) == 6) = false := by simpa using k6
      exact unmake_plain P m hne (by simp [e1]) (by simp [e1]) (by simp [e6]) (fun h => absurd (eq_of_beq hpr) h)

theorem rayGo_spec (b : Board) (t : Sq) (dx dy : Int) : ∀ (n : Nat) (x y : Int), rayGo b t dx dy n x y = true →
    ∃ k : Int, (t.x : Int) = x + k * dx ∧ (t.y : Int) = y + k * dy := by
  intro n
  induction n with
  | zero => intro x y h; simp [rayGo] at h
  | succ n ih =>
    intro x y h
    unfold rayGo at h
    split at h
    · cases h
    · next q hq =>
      obtain ⟨hx, hy⟩ := (mkSq?_eq_some _ _ _).1 hq
      split at h
      · next he =>
        have : q = t := by simpa using he
        subst this
        exact ⟨1, by omega, by omega⟩
      · split at h
        · cases h
        · obtain ⟨k, h1, h2⟩ := ih _ _ h
          refine ⟨k + 1, ?_, ?_⟩
          · rw [h1, Int.add_mul, Int.one_mul]; omega
          · rw [h2, Int.add_mul, Int.one_mul]; omega

def aligned (m : Mv) : Bool :=
  let d := dxy m.f m.t
  d.1 == 0 || d.2 == 0 || d.1.natAbs == d.2.natAbs

theorem rayReach_aligned (b : Board) (m : Mv) (dd : Int × Int) (hd : dd ∈ dirs8) (h : rayReach b m.f m.t dd.1 dd.2 = true) :
    aligned m = true := by
  unfold rayReach at h
  obtain ⟨k, h1, h2⟩ := rayGo_spec b m.t dd.1 dd.2 7 _ _ h
  unfold aligned dxy
  simp only [dirs8, rookDirs, bishDirs, List.cons_append, List.nil_append, List.mem_cons, List.not_mem_nil, or_false] at hd
  simp only [Bool.or_eq_true, beq_iff_eq]
  rcases hd with rfl | rfl | rfl | rfl | rfl | rfl | rfl | rfl <;> simp only [] at h1 h2 <;> omega

theorem any_rayReach_aligned (b : Board) (m : Mv) (l : List (Int × Int)) (hl : ∀ dd ∈ l, dd ∈ dirs8)
    (h : (l.any fun dd => rayReach b m.f m.t dd.1 dd.2) = true) : aligned m = true := by
  rw [List.any_eq_true] at h
  obtain ⟨dd, hm, hr⟩ := h
  exact rayReach_aligned b m dd (hl dd hm) hr

theorem pseudo_geom (p : Pos) (m : Mv) (h : pseudo p m = true) : geomB (p.at m.f) m = true := by
  by_cases k6 : kind (p.at m.f) = 6
  · rw [pseudo_pawn_eq p m k6, Bool.and_eq_true] at h
    have hr := h.2
    unfold geomB
    rw [k6]
    unfold pawnRule at hr
    simp only [Bool.and_eq_true, Bool.or_eq_true, beq_iff_eq, decide_eq_true_eq] at hr ⊢
    obtain ⟨_, r2⟩ := hr
    rcases r2 with (⟨⟨a, b⟩, c⟩ | ⟨⟨⟨⟨a, b⟩, c⟩, d⟩, e⟩) | ⟨⟨a, b⟩, c⟩ <;> (split at b <;> omega)
  · by_cases k1 : kind (p.at m.f) = 1
    · rw [pseudo_king_eq p m k1, Bool.and_eq_true] at h
      have hr := h.2
      unfold geomB
      rw [k1]
      unfold kingRule at hr
      simp only [Bool.and_eq_true, Bool.or_eq_true, beq_iff_eq, decide_eq_true_eq] at hr ⊢
      obtain ⟨_, r2⟩ := hr
      rcases r2 with (⟨a, b⟩ | ⟨⟨⟨a, b⟩, c⟩, d⟩) | ⟨⟨⟨a, b⟩, c⟩, d⟩ <;> omega
    · rw [pseudo_other_eq p m k6 k1, Bool.and_eq_true, Bool.and_eq_true] at h
      have ha := h.2.2
      unfold attacks at ha
      unfold geomB
      unfold Pos.at at k6 k1 ⊢
      simp only at ha ⊢
      split at ha
      · next hk => exact absurd hk k1
      · next hk => rw [hk]; exact ha
      · next hk => exact absurd hk k6
      · next hk => rw [hk]; exact any_rayReach_aligned p.b m rookDirs (fun _ h => List.mem_append_left _ h) ha
      · next hk => rw [hk]; exact any_rayReach_aligned p.b m bishDirs (fun _ h => List.mem_append_right _ h) ha
      · next hk => rw [hk]; exact any_rayReach_aligned p.b m dirs8 (fun _ h => h) ha
      · cases ha

theorem applyBoard_frame (P : Pos) (m : Mv) (i : Nat) (h1 : i ≠ m.f.val) (h2 : i ≠ m.t.val)
    (h3 : P.ep = some m.t → i ≠ (if P.wtm then m.t.val - 8 else m.t.val + 8))
    (h4 : kind (P.at m.f) = 1 → m.t.val = m.f.val + 2 → (i ≠ m.f.val + 1 ∧ i ≠ m.f.val + 3))
    (h5 : kind (P.at m.f) = 1 → m.t.val + 2 = m.f.val → (i ≠ m.f.val - 1 ∧ i ≠ m.f.val - 4)) :
    getP (applyB P m) i = getP P.b i := by
  unfold applyB movedB isEp
  have hb0 : getP (if (kind (P.at m.f) == 6 && P.ep == some m.t && !(P.at m.t != 0) && m.f.x != m.t.x) = true
      then setSq P.b (if P.wtm = true then m.t.val - 8 else m.t.val + 8) 0 else P.b) i = getP P.b i := by
    split
    · next h =>
      simp only [Bool.and_eq_true, beq_iff_eq] at h
      rw [getP_setSq_bound, if_neg (fun hh => h3 h.1.1.2 hh.1.symm)]
    · rfl
  generalize (if (kind (P.at m.f) == 6 && P.ep == some m.t && !(P.at m.t != 0) && m.f.x != m.t.x) = true
      then setSq P.b (if P.wtm = true then m.t.val - 8 else m.t.val + 8) 0 else P.b) = b0 at hb0 ⊢
  rw [← hb0]
  split
  · next h =>
    simp only [Bool.and_eq_true, beq_iff_eq] at h
    obtain ⟨a, b⟩ := h4 h.1 h.2
    simp only [getP_setSq_bound]
    rw [if_neg (by omega), if_neg (by omega), if_neg (by omega), if_neg (by omega)]
  · split
    · next h =>
      simp only [Bool.and_eq_true, beq_iff_eq] at h
      obtain ⟨a, b⟩ := h5 h.1 h.2
      simp only [getP_setSq_bound]
      rw [if_neg (by omega), if_neg (by omega), if_neg (by omega), if_neg (by omega)]
    · simp only [getP_setSq_bound]
      rw [if_neg (by omega), if_neg (by omega)]

theorem square_stays (P : Pos) (m : Mv) (i : Nat) (hp : pseudo P m = true) (hi : 8 ≤ i ∧ i < 56)
    (h1 : i ≠ m.f.val) (h2 : i ≠ m.t.val)
    (h3 : P.ep = some m.t → i ≠ (if P.wtm then m.t.val - 8 else m.t.val + 8)) :
    getP (applyB P m) i = getP P.b i := by
  have hK : kind (P.at m.f) = 1 → (m.t.val = m.f.val + 2 ∨ m.t.val + 2 = m.f.val) → (m.f.val = 4 ∨ m.f.val = 60) := by
    intro k1 hc
    rw [pseudo_king_eq P m k1, Bool.and_eq_true] at hp
    obtain ⟨_, hS, hL⟩ := kingRule_facts P m hp.2
    rcases hc with c | c
    · have := (hS c).1; split at this <;> omega
    · have := (hL c).1; split at this <;> omega
  apply applyBoard_frame P m i h1 h2 h3
  · intro k1 c; have := hK k1 (Or.inl c); omega
  · intro k1 c; have := hK k1 (Or.inr c); omega

theorem pseudo_own_f (P : Pos) (m : Mv) (hp : pseudo P m = true) : own P.wtm (getP P.b m.f.val) = true := by
  rw [← at_eq]; exact pseudo_own P m hp

theorem pawn_double_push (p : Pos) (m : Mv) (hr : pawnRule p m = true)
    (hd : m.t.val = m.f.val + 16 ∨ m.f.val = m.t.val + 16) :
    getP p.b ((m.f.val + m.t.val) / 2) = 0 ∧ (if p.wtm then m.t.val = m.f.val + 16 else m.f.val = m.t.val + 16) := by
  have hf := m.f.isLt
  have ht := m.t.isLt
  unfold pawnRule dxy at hr
  have hmid : ∀ (q : Sq) (fwd : Int), mkSq? m.f.x ((m.f.y : Int) + fwd) = some q → (m.t.y : Int) - m.f.y = 2 * fwd →
      (m.t.x : Int) - m.f.x = 0 → (p.at q == 0) = true → getP p.b ((m.f.val + m.t.val) / 2) = 0 := by
    intro q fwd hq hy hx h0
    obtain ⟨qx, qy⟩ := (mkSq?_eq_some _ _ _).1 hq
    simp only [Sq.x, Sq.y] at qx qy hx hy
    have hqv : q.val = (m.f.val + m.t.val) / 2 := by have := q.isLt; omega
    rw [← hqv, ← at_eq]; exact eq_of_beq h0
  cases hw : p.wtm
  · simp only [hw, Bool.false_eq_true, if_false, Bool.and_eq_true, Bool.or_eq_true, beq_iff_eq] at hr ⊢
    obtain ⟨_, r2⟩ := hr
    rcases r2 with (⟨⟨a, b⟩, c⟩ | ⟨⟨⟨⟨a, b⟩, c⟩, d⟩, e'⟩) | ⟨⟨a, b⟩, c⟩
    · exfalso; simp only [Sq.x, Sq.y] at a b; omega
    · refine ⟨?_, by simp only [Sq.x, Sq.y] at a b; omega⟩
      split at e'
      · next q hq => exact hmid q (-1) hq b a e'
      · cases e'
    · exfalso; simp only [Sq.x, Sq.y] at a b; omega
  · simp only [hw, if_true, Bool.and_eq_true, Bool.or_eq_true, beq_iff_eq] at hr ⊢
    obtain ⟨_, r2⟩ := hr
    rcases r2 with (⟨⟨a, b⟩, c⟩ | ⟨⟨⟨⟨a, b⟩, c⟩, d⟩, e'⟩) | ⟨⟨a, b⟩, c⟩
    · exfalso; simp only [Sq.x, Sq.y] at a b; omega
    · refine ⟨?_, by simp only [Sq.x, Sq.y] at a b; omega⟩
      split at e'
      · next q hq => exact hmid q 1 hq b a e'
      · cases e'
    · exfalso; simp only [Sq.x, Sq.y] at a b; omega

theorem square_kept (P : Pos) (m : Mv) (k : Nat) (hp : pseudo P m = true) (hk : 8 ≤ k ∧ k < 56)
    (hno : own P.wtm (getP P.b k) = false) :
    getP (applyB P m) k = getP P.b k ∨ m.t.val = k ∨
      (P.ep = some m.t ∧ k = if P.wtm then m.t.val - 8 else m.t.val + 8) := by
  by_cases t1 : m.t.val = k
  · exact Or.inr (Or.inl t1)
  · by_cases t2 : P.ep = some m.t ∧ k = if P.wtm then m.t.val - 8 else m.t.val + 8
    · exact Or.inr (Or.inr t2)
    · refine Or.inl (square_stays P m k hp hk ?_ (fun h => t1 h.symm) (fun h1 h2 => t2 ⟨h1, h2⟩))
      intro h
      rw [h, pseudo_own_f P m hp] at hno
      cases hno

/-- what the successor's board shows around the predecessor's e.p. square `e` -/
theorem ep_traces (P : Pos) (m : Mv) (e : Sq) (hp : pseudo P m = true) (hs : epShape P = true) (he : P.ep = some e) :
    let i := if P.wtm then e.val - 8 else e.val + 8
    let j := if P.wtm then e.val + 8 else e.val - 8
    (getP (applyB P m) i = (if P.wtm then BPAWN else WPAWN) ∨ m.t.val = i ∨ m.t = e) ∧
    (getP (applyB P m) e.val = 0 ∨ m.t = e) ∧ (getP (applyB P m) j = 0 ∨ m.t.val = j) := by
  have ht := m.t.isLt
  have hel := e.isLt
  have hep : P.ep = some m.t → m.t = e := fun h => by rw [he] at h; injection h with h; exact h.symm
  have kept := square_kept P m
  unfold epShape at hs
  rw [he] at hs
  cases hw : P.wtm
  · simp only [hw, Bool.false_eq_true, if_false, Bool.and_eq_true, beq_iff_eq, Sq.y] at hs kept ⊢
    obtain ⟨⟨⟨⟨s1, s2⟩, s3⟩, s4⟩, s5⟩ := hs
    change getP P.b (e.val + 8) = WPAWN at s3
    change getP P.b (e.val - 8) = 0 at s4
    rw [at_eq] at s2
    refine ⟨?_, ?_, ?_⟩
    · rcases kept (e.val + 8) hp (by omega) (by rw [s3]; rfl) with h | h | h
      · exact Or.inl (h.trans s3)
      · exact Or.inr (Or.inl h)
      · exact Or.inr (Or.inr (hep h.1))
    · rcases kept e.val hp (by omega) (by rw [s2]; rfl) with h | h | h
      · exact Or.inl (h.trans s2)
      · exact Or.inr (Fin.ext h)
      · exact Or.inr (hep h.1)
    · rcases kept (e.val - 8) hp (by omega) (by rw [s4]; rfl) with h | h | h
      · exact Or.inl (h.trans s4)
      · exact Or.inr h
      · exfalso; have := hep h.1; rw [this] at h; omega
  · simp only [hw, if_true, Bool.and_eq_true, beq_iff_eq, Sq.y] at hs kept ⊢
    obtain ⟨⟨⟨⟨s1, s2⟩, s3⟩, s4⟩, s5⟩ := hs
    change getP P.b (e.val - 8) = BPAWN at s3
    change getP P.b (e.val + 8) = 0 at s4
    rw [at_eq] at s2
    refine ⟨?_, ?_, ?_⟩
    · rcases kept (e.val - 8) hp (by omega) (by rw [s3]; rfl) with h | h | h
      · exact Or.inl (h.trans s3)
      · exact Or.inr (Or.inl h)
      · exact Or.inr (Or.inr (hep h.1))
    · rcases kept e.val hp (by omega) (by rw [s2]; rfl) with h | h | h
      · exact Or.inl (h.trans s2)
      · exact Or.inr (Fin.ext h)
      · exact Or.inr (hep h.1)
    · rcases kept (e.val + 8) hp (by omega) (by rw [s4]; rfl) with h | h | h
      · exact Or.inl (h.trans s4)
      · exact Or.inr h
      · exfalso; have := hep h.1; rw [this] at h; omega

end Chess
