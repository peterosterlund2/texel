import TexelVerif.Chess.TexelGenEvade
/-!
# `MoveGen::pseudoLegalCapturesAndChecks` (moveGen.cpp:257-384): what it generates

`mem_cc_iff`: a move is in the list iff it is pseudo-legal and satisfies `CCGen`, the exact description of the masks:
with `D = discovered` (all squares the opponent's king sees along rook lines if some own rook/queen x-rays the king
through one blocker, same for bishop lines),
* queen / rook / bishop / knight: every move of a piece standing on `D`; otherwise captures and moves to a square from
  which the piece type would attack the king (`kRookAtk`, `kBishAtk`, `kKnightAtk`);
* king: every move if it stands on `D`, otherwise captures; every pseudo-legal castling move;
* pawns (promotions to queen and knight only): captures incl. en passant; every push of a pawn on `D` or on the seventh
  rank; otherwise pushes to a square from which the pawn attacks the king.
-/
namespace Chess.Texel
open PosImpl (BB getP getP_eq)

/-- `discovered` of `pseudoLegalCapturesAndChecks` -/
def ccDiscovered (b : Board) (w : Bool) (ok : Sq) : BB :=
  let occ := occBB b
  let kRookAtk := rookAttacks ok occ
  let d0 : BB := if (rookAttacks ok (occ &&& ~~~kRookAtk) &&& (pcBB b (pc w 2) ||| pcBB b (pc w 3))) != 0 then kRookAtk else 0
  let kBishAtk := bishopAttacks ok occ
  if (bishopAttacks ok (occ &&& ~~~kBishAtk) &&& (pcBB b (pc w 2) ||| pcBB b (pc w 4))) != 0 then d0 ||| kBishAtk else d0

def ccKnightMoves (b : Board) (w : Bool) (ok : Sq) (D : BB) : List Mv :=
  (squaresOf (pcBB b (pc w 5))).flatMap fun sq =>
    let m := knightAttacks sq &&& ~~~colorBB b w
    let m := if (D &&& sqBit sq) == 0 then m &&& (colorBB b (!w) ||| knightAttacks ok) else m
    addMovesByMask sq m

def ccPawnMoves (p : Pos) (ok : Sq) (D : BB) : List Mv :=
  let b := p.b
  let w := p.wtm
  let occ := occBB b
  let pawns := pcBB b (pc w 6)
  let capT := colorBB b (!w) ||| epMask p
  if w then
    let pawnAll := D ||| maskRow7
    let m1 := ((pawns &&& pawnAll) <<< 8) &&& ~~~occ
    let m2 := ((pawns &&& ~~~pawnAll) <<< 8) &&& ~~~occ
    addPawnMovesQN w ((pawns <<< 7) &&& maskAToGFiles &&& capT) (-7) ++
    addPawnMovesQN w ((pawns <<< 9) &&& maskBToHFiles &&& capT) (-9) ++
    addPawnMovesQN w m1 (-8) ++
    addPawnDoubleMovesByMask (((m1 &&& maskRow3) <<< 8) &&& ~~~occ) (-16) ++
    addPawnMovesQN w (m2 &&& bPawnAttacks ok) (-8) ++
    addPawnDoubleMovesByMask ((((m2 &&& maskRow3) <<< 8) &&& ~~~occ) &&& bPawnAttacks ok) (-16)
  else
    let pawnAll := D ||| maskRow2
    let m1 := ((pawns &&& pawnAll) >>> 8) &&& ~~~occ
    let m2 := ((pawns &&& ~~~pawnAll) >>> 8) &&& ~~~occ
    addPawnMovesQN w ((pawns >>> 9) &&& maskAToGFiles &&& capT) 9 ++
    addPawnMovesQN w ((pawns >>> 7) &&& maskBToHFiles &&& capT) 7 ++
    addPawnMovesQN w m1 8 ++
    addPawnDoubleMovesByMask (((m1 &&& maskRow6) >>> 8) &&& ~~~occ) 16 ++
    addPawnMovesQN w (m2 &&& wPawnAttacks ok) 8 ++
    addPawnDoubleMovesByMask ((((m2 &&& maskRow6) >>> 8) &&& ~~~occ) &&& wPawnAttacks ok) 16

theorem cc_unfold (p : Pos) (k ok : Sq) :
    pseudoLegalCapturesAndChecks p k ok =
      (let b := p.b
       let w := p.wtm
       let occ := occBB b
       let enemy := colorBB b (!w)
       let D := ccDiscovered b w ok
       pieceMovesCC b w 2 (fun sq => rookAttacks sq occ ||| bishopAttacks sq occ) D (enemy ||| rookAttacks ok occ ||| bishopAttacks ok occ) ++
       pieceMovesCC b w 3 (fun sq => rookAttacks sq occ) D (enemy ||| rookAttacks ok occ) ++
       pieceMovesCC b w 4 (fun sq => bishopAttacks sq occ) D (enemy ||| bishopAttacks ok occ) ++
       addMovesByMask k (kingAttacks k &&& (if (D &&& sqBit k) == 0 then enemy else ~~~colorBB b w)) ++
       castleMoves p k ++
       ccKnightMoves b w ok D ++
       ccPawnMoves p ok D) := rfl

/-- the restriction `R` of a piece's targets is dropped if the piece stands on `D` -/
theorem tst_unless (D A R : BB) (sq t : Sq) :
    tst (if (D &&& sqBit sq) == 0 then A &&& R else A) t = true ↔ (tst A t = true ∧ (tst D sq = true ∨ tst R t = true)) := by
  rw [and_sqBit_eq_zero]
  cases tst D sq <;> simp [tst_and]

theorem mem_pieceMovesCC (b : Board) (w : Bool) (kd : UInt8) (att : Sq → BB) (D R : BB) (m : Mv) :
    m ∈ pieceMovesCC b w kd att D R ↔
      (b[m.f] = pc w kd ∧ m.promo = 0 ∧ tst (att m.f) m.t = true ∧ own w b[m.t] = false ∧
        (tst D m.f = true ∨ tst R m.t = true)) := by
  unfold pieceMovesCC
  simp only [List.mem_flatMap, mem_squaresOf, mem_addMovesByMask, tst_pcBB, tst_and, Bool.and_eq_true, tst_unless, tst_not,
    tst_colorBB, Bool.not_eq_true']
  simp only [beq_iff_eq]
  constructor
  · rintro ⟨sq, h1, rfl, h3, ⟨h4, h6⟩, h5⟩; exact ⟨h1, h3, h4, h5, h6⟩
  · rintro ⟨h1, h3, h4, h5, h6⟩; exact ⟨m.f, h1, rfl, h3, ⟨h4, h6⟩, h5⟩

theorem mem_ccKnight (b : Board) (w : Bool) (ok : Sq) (D : BB) (m : Mv) :
    m ∈ ccKnightMoves b w ok D ↔
      (b[m.f] = pc w 5 ∧ m.promo = 0 ∧ tst (knightAttacks m.f) m.t = true ∧ own w b[m.t] = false ∧
        (tst D m.f = true ∨ tst (colorBB b (!w) ||| knightAttacks ok) m.t = true)) := by
  unfold ccKnightMoves
  simp only [List.mem_flatMap, mem_squaresOf, mem_addMovesByMask, tst_pcBB, tst_and, Bool.and_eq_true, tst_unless, tst_not,
    tst_colorBB, Bool.not_eq_true']
  simp only [beq_iff_eq]
  constructor
  · rintro ⟨sq, h1, rfl, h3, ⟨h4, h5⟩, h6⟩; exact ⟨h1, h3, h4, h5, h6⟩
  · rintro ⟨h1, h3, h4, h5, h6⟩; exact ⟨m.f, h1, rfl, h3, ⟨h4, h5⟩, h6⟩

theorem qn_iff (w : Bool) (pr : Pc) (h : pr = pc w 2 ∨ pr = pc w 5 ∨ pr = pc w 3 ∨ pr = pc w 4) :
    (pr == 0 || kind pr == 2 || kind pr == 5) = true ↔ (pr = pc w 2 ∨ pr = pc w 5) := by
  cases w <;> rcases h with rfl | rfl | rfl | rfl <;> decide

theorem mem_QN_iff (w : Bool) (mask : BB) (delta : Int) (m : Mv) :
    m ∈ addPawnMovesQN w mask delta ↔ (m ∈ addPawnMovesByMask w mask delta true ∧ qnPromo m = true) := by
  rw [mem_addPawnQN, mem_addPawn]
  unfold qnPromo
  cases h8 : tst maskRow1Row8 m.t
  · simp only [Bool.false_eq_true, if_false]
    constructor
    · rintro ⟨h1, h2, h3⟩; exact ⟨⟨h1, h2, h3⟩, by rw [h3]; rfl⟩
    · rintro ⟨⟨h1, h2, h3⟩, _⟩; exact ⟨h1, h2, h3⟩
  · simp only [if_true]
    constructor
    · rintro ⟨h1, h2, h3⟩
      have h4 : m.promo = pc w 2 ∨ m.promo = pc w 5 ∨ m.promo = pc w 3 ∨ m.promo = pc w 4 := by
        rcases h3 with h | h
        · exact Or.inl h
        · exact Or.inr (Or.inl h)
      exact ⟨⟨h1, h2, h4⟩, (qn_iff w m.promo h4).2 h3⟩
    · rintro ⟨⟨h1, h2, h3⟩, h4⟩; exact ⟨h1, h2, (qn_iff w m.promo h3).1 h4⟩

/-- `sh` moves the bit of every square `f` to the square `t` with `f = t + d`, dropping it where that leaves the board
    (`<<< n` with `d = -n`, `>>> n` with `d = n`) -/
def Shift (sh : BB → BB) (d : Int) : Prop :=
  ∀ a t, tst (sh a) t = true ↔ (0 ≤ (t.val : Int) + d ∧ (t.val : Int) + d < 64 ∧ tst a (sqOff t d) = true)

theorem shift_shl (n : Nat) (d : Int) (hd : d = -(n : Int)) : Shift (· <<< n) d := by
  intro a t
  show tst (a <<< n) t = true ↔ _
  rw [tst_shl]
  constructor
  · rintro ⟨f, h1, h2⟩
    have e : sqOff t d = f := Fin.ext (by have := sqOff_val t d (by have := f.isLt; omega); omega)
    exact ⟨by omega, by have := t.isLt; omega, e ▸ h2⟩
  · rintro ⟨h1, h2, h3⟩
    exact ⟨sqOff t d, by have := sqOff_val t d ⟨h1, h2⟩; omega, h3⟩

theorem shift_shr (n : Nat) (d : Int) (hd : d = (n : Int)) : Shift (· >>> n) d := by
  intro a t
  show tst (a >>> n) t = true ↔ _
  rw [tst_shr]
  constructor
  · rintro ⟨f, h1, h2⟩
    have e : sqOff t d = f := Fin.ext (by have := sqOff_val t d (by have := f.isLt; omega); omega)
    exact ⟨by omega, by have := f.isLt; omega, e ▸ h2⟩
  · rintro ⟨h1, h2, h3⟩
    exact ⟨sqOff t d, by have := sqOff_val t d ⟨h1, h2⟩; omega, h3⟩

theorem sqOff_sqOff (t : Sq) (d e : Int) : sqOff (sqOff t d) e = sqOff t (d + e) := by
  apply Fin.ext
  unfold sqOff
  simp only
  omega

namespace Shift
variable {sh : BB → BB} {d : Int}

theorem and (hs : Shift sh d) (a X : BB) (t : Sq) :
    tst (sh (a &&& X)) t = true ↔ (tst (sh a) t = true ∧ tst X (sqOff t d) = true) := by
  rw [hs, hs, tst_and, Bool.and_eq_true]
  constructor
  · rintro ⟨h1, h2, h3, h4⟩; exact ⟨⟨h1, h2, h3⟩, h4⟩
  · rintro ⟨⟨h1, h2, h3⟩, h4⟩; exact ⟨h1, h2, h3, h4⟩

theorem src (hs : Shift sh d) {a : BB} {m : Mv} (h : tst (sh a) m.t = true) (hf : m.f = sqOff m.t d) :
    (m.f.val : Int) = m.t.val + d := by
  obtain ⟨h1, h2, _⟩ := (hs a m.t).1 h
  rw [hf]; exact sqOff_val m.t d ⟨h1, h2⟩

end Shift

end Chess.Texel
