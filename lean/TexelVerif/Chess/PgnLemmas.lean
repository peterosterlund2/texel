import TexelVerif.Chess.Pgn
/-! The PGN scanner makes progress on every input and never produces an empty symbol (property C17). -/
namespace Chess.Pgn

theorem map_cons_some {x : Option (List Char × List Char)} {c : Char} {body rest : List Char}
    (h : x.map (fun (a, b) => (c :: a, b)) = some (body, rest)) : ∃ a, x = some (a, rest) := by
  cases x with
  | none => cases h
  | some ab =>
    simp only [Option.map_some, Option.some.injEq, Prod.mk.injEq] at h
    exact ⟨ab.1, by rw [← h.2]⟩

theorem splitAtFirst_length (p : Char → Bool) (cs body rest : List Char) (h : splitAtFirst p cs = some (body, rest)) :
    rest.length < cs.length := by
  induction cs generalizing body rest with
  | nil => cases h
  | cons c cs ih =>
    unfold splitAtFirst at h
    split at h
    · cases h; simp
    · obtain ⟨a, ha⟩ := map_cons_some h
      have := ih a rest ha
      simp only [List.length_cons]; omega

theorem stringBody_length (cs : List Char) (esc : Bool) (body rest : List Char) (h : stringBody cs esc = some (body, rest)) :
    rest.length < cs.length := by
  induction cs generalizing esc body rest with
  | nil => cases esc <;> cases h
  | cons c cs ih =>
    have step : ∀ e a, stringBody cs e = some (a, rest) → rest.length < (c :: cs).length := by
      intro e a hab; have := ih e a rest hab; simp only [List.length_cons]; omega
    cases esc <;> unfold stringBody at h
    · split at h
      · cases h; simp
      · split at h
        · exact step _ _ h
        · obtain ⟨a, ha⟩ := map_cons_some h
          exact step _ _ ha
    · obtain ⟨a, ha⟩ := map_cons_some h
      exact step _ _ ha

theorem takeRun_length (p : Char → Bool) (cs : List Char) : (takeRun p cs).2.length ≤ cs.length := by
  induction cs with
  | nil => simp [takeRun]
  | cons c cs ih =>
    unfold takeRun
    split
    · simp only [List.length_cons]; omega
    · simp

theorem tokAfter_progress (c : Char) (cs : List Char) :
    ((tokAfter c cs).1.ty = .eof ∧ (tokAfter c cs).2 = []) ∨ (tokAfter c cs).2.length ≤ cs.length := by
  unfold tokAfter
  cases armOf c <;> simp only
  all_goals first
    | (right; exact Nat.le_refl _)
    | skip
  · split
    · right; exact Nat.le_of_lt (splitAtFirst_length _ _ _ _ ‹_›)
    · left; exact ⟨rfl, rfl⟩
  · split
    · right; exact Nat.le_of_lt (splitAtFirst_length _ _ _ _ ‹_›)
    · left; exact ⟨rfl, rfl⟩
  · split
    · right; exact Nat.le_of_lt (stringBody_length _ _ _ _ ‹_›)
    · left; exact ⟨rfl, rfl⟩
  · have := takeRun_length isDigitC cs
    split
    · left; exact ⟨rfl, rfl⟩
    · rename_i heq; rw [heq] at this; right; exact this
  · have := takeRun_length (fun d => !(isSpaceC d || symTerm.contains d)) cs
    split
    · left; exact ⟨rfl, rfl⟩
    · rename_i heq; rw [heq] at this; right; exact this

/-- **scanner progress**: unless it returns END (with nothing left), `nextToken` consumes at least one character -/
theorem nextTok_progress (cs : List Char) :
    ((nextTok cs).1.ty = .eof ∧ (nextTok cs).2 = []) ∨ (nextTok cs).2.length < cs.length := by
  induction cs with
  | nil => left; exact ⟨rfl, rfl⟩
  | cons c cs ih =>
    unfold nextTok
    split
    · rcases ih with h | h
      · exact Or.inl h
      · right; simp only [List.length_cons]; omega
    · rcases tokAfter_progress c cs with h | h
      · exact Or.inl h
      · right; simp only [List.length_cons]; omega

/-- a SYMBOL (or INTEGER) token is never empty — what makes `tok.token[tok.token.length() - 1]` in `parsePgn` safe -/
theorem tokAfter_symbol_nonempty (c : Char) (cs : List Char) (h : (tokAfter c cs).1.ty = .symbol) : (tokAfter c cs).1.s ≠ [] := by
  generalize hr : tokAfter c cs = r at h ⊢
  unfold tokAfter at hr
  cases ha : armOf c <;> rw [ha] at hr <;> simp only at hr
  all_goals first | (subst hr; cases h) | skip
  all_goals (split at hr <;> subst hr <;> first | cases h | skip)
  exact List.cons_ne_nil _ _

theorem nextTok_symbol_nonempty (cs : List Char) (h : (nextTok cs).1.ty = .symbol) : (nextTok cs).1.s ≠ [] := by
  induction cs with
  | nil => cases h
  | cons c cs ih =>
    unfold nextTok at h ⊢
    split
    · rename_i hc; rw [if_pos hc] at h; exact ih h
    · rename_i hc; rw [if_neg hc] at h; exact tokAfter_symbol_nonempty c cs h

end Chess.Pgn
