import TexelVerif.Chess.TexelGenEvade
/-!
Geometry for `MoveGen::givesCheck` and `MoveGen::pseudoLegalCapturesAndChecks`:
* `Seg b a dx dy n c` — walking from `a` in direction `(dx, dy)` over board `b`, the `n`-th square is `c` and the
  squares before it are empty; splitting, joining, reversing, transfer to another board;
* `walkPiece_iff`, `nextPiece_iff` — `MoveGen::nextPiece(Safe)` returns piece `v` iff the first occupied square of the
  ray holds `v`;
* decoding of the values of `BitBoard::getDirection` as tested by the `switch` statements of `givesCheck`
  (`isRookDelta_iff`, `isBishDelta_iff`, `knight_dir_iff`);
* `atkFrom_cases`, `new_attack` — an attack on a square that exists on board `b'` but not on board `b` by an unchanged
  piece is a slider whose ray passes a square that `b` occupies and `b'` does not (first such square seen from the target).
-/
namespace Chess.Texel
open PosImpl (BB getP getP_eq)

def emp (b : Board) : Sq → Bool := fun q => b[q] == 0

/-- walking from `a` in direction `(dx, dy)`, the `n`-th square is `c` and the `n-1` squares before it are empty on `b` -/
def Seg (b : Board) (a : Sq) (dx dy : Int) (n : Nat) (c : Sq) : Prop := ReachN (emp b) a.x a.y dx dy n c

theorem reachN_join (emp : Sq → Bool) (a q c : Sq) (dx dy : Int) (j i : Nat) (h1 : ReachN emp a.x a.y dx dy j q)
    (hq : emp q = true) (h2 : ReachN emp q.x q.y dx dy i c) : ReachN emp a.x a.y dx dy (j + i) c := by
  refine ⟨by have := h1.1; omega, ?_, ?_⟩
  · rw [← stepSq_from a q dx dy j i h1.2.1]; exact h2.2.1
  · intro l hl1 hl2
    rcases Nat.lt_trichotomy l j with hlt | heq | hgt
    · exact h1.2.2 l hl1 hlt
    · subst heq; exact ⟨q, h1.2.1, hq⟩
    · have := h2.2.2 (l - j) (by omega) (by omega)
      rw [stepSq_from a q dx dy j (l - j) h1.2.1] at this
      have e : j + (l - j) = l := by omega
      rw [e] at this; exact this

theorem emp_eq_occ (b : Board) (hv : ValidB b) : (fun q => !tst (occBB b) q) = emp b := by
  funext q
  unfold emp
  rw [tst_occBB b hv]
  cases h : (b[q] == 0) <;> simp_all

theorem tst_ray_seg (b : Board) (hv : ValidB b) (K s : Sq) (dx dy : Int) (hd : IsDir dx dy) :
    tst (ray (occBB b) K dx dy) s = true ↔ ∃ n, Seg b K dx dy n s := by
  rw [tst_ray_iff _ _ _ _ _ hd, emp_eq_occ b hv]; rfl

namespace Seg
variable {b b' : Board} {a c : Sq} {dx dy : Int} {n : Nat}

theorem pos (h : Seg b a dx dy n c) : 1 ≤ n := h.1
theorem step (h : Seg b a dx dy n c) : stepSq a.x a.y dx dy n = some c := h.2.1

theorem inner (h : Seg b a dx dy n c) (j : Nat) (hj1 : 1 ≤ j) (hjn : j < n) :
    ∃ q, stepSq a.x a.y dx dy j = some q ∧ b[q] = 0 := by
  obtain ⟨q, hq, he⟩ := h.2.2 j hj1 hjn
  exact ⟨q, hq, beq_iff_eq.1 he⟩

theorem inner_zero (h : Seg b a dx dy n c) (j : Nat) (q : Sq) (hj1 : 1 ≤ j) (hjn : j < n)
    (hq : stepSq a.x a.y dx dy j = some q) : b[q] = 0 := by
  obtain ⟨q', hq', he⟩ := h.inner j hj1 hjn
  rw [hq] at hq'; cases hq'; exact he

theorem rev (h : Seg b a dx dy n c) : Seg b c (-dx) (-dy) n a := reachN_rev _ a c dx dy n h

theorem congr (h : Seg b a dx dy n c)
    (hh : ∀ j q, 1 ≤ j → j < n → stepSq a.x a.y dx dy j = some q → b[q] = 0 → b'[q] = 0) : Seg b' a dx dy n c := by
  refine reachN_congr _ _ _ _ _ _ _ _ h ?_
  intro j q h1 h2 hq he
  have := hh j q h1 h2 hq (beq_iff_eq.1 he)
  unfold emp; rw [this]; rfl

theorem pre (h : Seg b a dx dy n c) (j : Nat) (q : Sq) (hj1 : 1 ≤ j) (hjn : j < n)
    (hq : stepSq a.x a.y dx dy j = some q) : Seg b a dx dy j q :=
  reachN_prefix _ _ _ _ _ _ _ h j q hj1 hjn hq

theorem suf (h : Seg b a dx dy n c) (j : Nat) (q : Sq) (hjn : j < n)
    (hq : stepSq a.x a.y dx dy j = some q) : Seg b q dx dy (n - j) c := by
  refine ⟨by omega, ?_, ?_⟩
  · rw [stepSq_from_sub a q dx dy j n hq (by omega)]; exact h.step
  · intro i hi1 hin
    rw [stepSq_from a q dx dy j i hq]
    exact h.2.2 (j + i) (by omega) (by omega)

theorem join {q : Sq} {j i : Nat} (h1 : Seg b a dx dy j q) (hq : b[q] = 0) (h2 : Seg b q dx dy i c) :
    Seg b a dx dy (j + i) c :=
  reachN_join _ a q c dx dy j i h1 (beq_iff_eq.2 hq) h2

theorem dir (hd : IsDir dx dy) (h : Seg b a dx dy n c) : direction a c = dy * 8 + dx :=
  (direction_iff a c dx dy hd).2 ⟨n, h.pos, h.step⟩

theorem ne (hd : IsDir dx dy) (h : Seg b a dx dy n c) : a ≠ c := by
  intro e; subst e
  have := step_inj _ _ _ _ hd n 0 a h.step (stepSq_zero a dx dy)
  have := h.pos; omega

theorem le7 (hd : IsDir dx dy) (h : Seg b a dx dy n c) : n ≤ 7 := step_le7 a c dx dy hd n h.step

/-- two segments along one ray that end on occupied squares are the same segment -/
theorem first_unique {c' : Sq} {n' : Nat} (h : Seg b a dx dy n c) (h' : Seg b a dx dy n' c')
    (hc : b[c] ≠ 0) (hc' : b[c'] ≠ 0) : n = n' ∧ c = c' := by
  rcases Nat.lt_trichotomy n n' with hlt | heq | hgt
  · exact absurd (h'.inner_zero n c h.pos hlt h.step) hc
  · subst heq
    have := h.step; rw [h'.step] at this
    exact ⟨rfl, (Option.some.inj this).symm⟩
  · exact absurd (h.inner_zero n' c' h'.pos hgt h'.step) hc'

end Seg

theorem seg_one (b : Board) (a c : Sq) (dx dy : Int) (h : stepSq a.x a.y dx dy 1 = some c) : Seg b a dx dy 1 c :=
  ⟨Nat.le_refl _, h, fun j h1 h2 => by omega⟩

/-- the first square of a partly occupied stretch of a ray that is occupied -/
theorem first_blocker (b : Board) (a : Sq) (dx dy : Int) (n : Nat)
    (hsq : ∀ j, 1 ≤ j → j < n → ∃ q, stepSq a.x a.y dx dy j = some q)
    (j : Nat) (q : Sq) (hj1 : 1 ≤ j) (hjn : j < n) (hq : stepSq a.x a.y dx dy j = some q) (hb : b[q] ≠ 0) :
    ∃ i v, 1 ≤ i ∧ i ≤ j ∧ b[v] ≠ 0 ∧ Seg b a dx dy i v := by
  induction j using Nat.strongRecOn generalizing q with
  | _ j ih =>
    by_cases hex : ∃ i, 1 ≤ i ∧ i < j ∧ ∃ v, stepSq a.x a.y dx dy i = some v ∧ b[v] ≠ 0
    · obtain ⟨i, hi1, hij, v, hv, hne⟩ := hex
      obtain ⟨i', v', a1, a2, a3, a4⟩ := ih i hij v hi1 (by omega) hv hne
      exact ⟨i', v', a1, by omega, a3, a4⟩
    · refine ⟨j, q, hj1, Nat.le_refl _, hb, hj1, hq, ?_⟩
      intro i hi1 hij
      obtain ⟨v, hv⟩ := hsq i hi1 (by omega)
      exact ⟨v, hv, beq_iff_eq.2 (Classical.byContradiction fun hne => hex ⟨i, hi1, hij, v, hv, hne⟩)⟩

theorem walkPiece_iff (b : Board) (dx dy : Int) (n0 : Nat) (x y : Int) (v : Pc) (hv : v ≠ 0) :
    walkPiece b dx dy n0 x y = v ↔ ∃ n c, n ≤ n0 ∧ ReachN (emp b) x y dx dy n c ∧ b[c] = v := by
  induction n0 generalizing x y with
  | zero =>
    unfold walkPiece
    constructor
    · intro h; exact absurd h.symm hv
    · rintro ⟨n, c, hn, h1, _⟩; have := h1.1; omega
  | succ n0 ih =>
    unfold walkPiece
    cases hq : mkSq? (x + dx) (y + dy) with
    | none =>
      simp only
      constructor
      · intro h; exact absurd h.symm hv
      · rintro ⟨n, c, _, ⟨h1, h2, h3⟩, _⟩
        exfalso
        by_cases e : n = 1
        · subst e; rw [stepSq_one, hq] at h2; cases h2
        · obtain ⟨q, h, _⟩ := h3 1 (by omega) (by omega)
          rw [stepSq_one, hq] at h; cases h
    | some q =>
      simp only
      by_cases hb : b[q] = 0
      · rw [hb]
        simp only [bne_self_eq_false, Bool.false_eq_true, if_false]
        rw [ih]
        have hemp : emp b q = true := by unfold emp; rw [hb]; rfl
        constructor
        · rintro ⟨n, c, hn, hr, hc⟩
          exact ⟨n + 1, c, by omega, (reachN_shift _ x y dx dy n c q hq hemp hr.1).1 hr, hc⟩
        · rintro ⟨n, c, hn, hr, hc⟩
          have hn1 : n ≠ 1 := by
            intro e1; subst e1
            have := hr.2.1; rw [stepSq_one, hq] at this
            have : q = c := Option.some.inj this
            subst this
            exact hv (hc.symm.trans hb)
          obtain ⟨n', rfl⟩ : ∃ n', n = n' + 1 := ⟨n - 1, by have := hr.1; omega⟩
          have hn' : 1 ≤ n' := by have := hr.1; omega
          exact ⟨n', c, by omega, (reachN_shift _ x y dx dy n' c q hq hemp hn').2 hr, hc⟩
      · rw [bne_iff_ne.2 hb]
        simp only [if_true]
        constructor
        · intro h
          exact ⟨1, q, by omega, ⟨Nat.le_refl _, by rw [stepSq_one]; exact hq, fun j h1 h2 => by omega⟩, h⟩
        · rintro ⟨n, c, _, ⟨h1, h2, h3⟩, hc⟩
          by_cases e1 : n = 1
          · subst e1; rw [stepSq_one, hq] at h2
            have : q = c := Option.some.inj h2
            subst this; exact hc
          · exfalso
            obtain ⟨q', h, he⟩ := h3 1 (by omega) (by omega)
            rw [stepSq_one, hq] at h
            have : q = q' := Option.some.inj h
            subst this
            exact hb (beq_iff_eq.1 he)

theorem deltaDir_code (dx dy : Int) (hd : IsDir dx dy) : deltaDir (dy * 8 + dx) = some (dx, dy) := by
  obtain ⟨a1, a2, a3, a4, a5⟩ := hd
  rcases dir_cases a1 a2 with rfl | rfl | rfl <;> rcases dir_cases a3 a4 with rfl | rfl | rfl <;>
    first | (exfalso; omega) | decide

/-- **`MoveGen::nextPiece` / `nextPieceSafe`**: the walk returns the non-empty piece `v` iff the first occupied square
    of the ray holds `v` -/
theorem nextPiece_iff (b : Board) (s : Sq) (dx dy : Int) (hd : IsDir dx dy) (v : Pc) (hv : v ≠ 0) :
    nextPiece b s (dy * 8 + dx) = v ↔ ∃ n c, Seg b s dx dy n c ∧ b[c] = v := by
  unfold nextPiece
  rw [deltaDir_code dx dy hd]
  simp only
  rw [walkPiece_iff b dx dy 7 _ _ v hv]
  constructor
  · rintro ⟨n, c, _, h, hc⟩; exact ⟨n, c, h, hc⟩
  · rintro ⟨n, c, h, hc⟩; exact ⟨n, c, h.le7 hd, h, hc⟩

theorem nextPiece_none (b : Board) (s : Sq) (d : Int) (h : deltaDir d = none) : nextPiece b s d = EMPTY := by
  unfold nextPiece; rw [h]

theorem isRookDelta_iff (d : Int) : isRookDelta d = true ↔ ∃ dx dy, RookD dx dy ∧ d = dy * 8 + dx := by
  unfold isRookDelta RookD
  simp only [Bool.or_eq_true, beq_iff_eq]
  constructor
  · rintro (((h | h) | h) | h)
    · exact ⟨0, 1, by omega, by omega⟩
    · exact ⟨0, -1, by omega, by omega⟩
    · exact ⟨1, 0, by omega, by omega⟩
    · exact ⟨-1, 0, by omega, by omega⟩
  · rintro ⟨dx, dy, h, rfl⟩; omega

theorem isBishDelta_iff (d : Int) : isBishDelta d = true ↔ ∃ dx dy, BishD dx dy ∧ d = dy * 8 + dx := by
  unfold isBishDelta BishD
  simp only [Bool.or_eq_true, beq_iff_eq]
  constructor
  · rintro (((h | h) | h) | h)
    · exact ⟨1, 1, by omega, by omega⟩
    · exact ⟨-1, 1, by omega, by omega⟩
    · exact ⟨-1, -1, by omega, by omega⟩
    · exact ⟨1, -1, by omega, by omega⟩
  · rintro ⟨dx, dy, h, rfl⟩; omega

theorem rook_not_bish (dx dy : Int) (h : RookD dx dy) : isBishDelta (dy * 8 + dx) = false := by
  unfold RookD at h
  rcases h with ⟨rfl, rfl⟩ | ⟨rfl, rfl⟩ | ⟨rfl, rfl⟩ | ⟨rfl, rfl⟩ <;> decide

theorem bish_not_rook (dx dy : Int) (h : BishD dx dy) : isRookDelta (dy * 8 + dx) = false := by
  unfold BishD at h
  rcases h with ⟨rfl, rfl⟩ | ⟨rfl, rfl⟩ | ⟨rfl, rfl⟩ | ⟨rfl, rfl⟩ <;> decide

/-- the `isRookDelta` / `isBishDelta` cascade of `givesCheck` on a direction code `d`: `X` is what it tests on a rook
    line, `Y` on a bishop line -/
theorem lineIf_iff (d : Int) (X Y : Bool) :
    (if isRookDelta d then X else if isBishDelta d then Y else false) = true ↔
      ∃ dx dy, d = dy * 8 + dx ∧ ((RookD dx dy ∧ X = true) ∨ (BishD dx dy ∧ Y = true)) := by
  constructor
  · intro h
    by_cases hr : isRookDelta d = true
    · rw [if_pos hr] at h
      obtain ⟨dx, dy, hd, he⟩ := (isRookDelta_iff _).1 hr
      exact ⟨dx, dy, he, Or.inl ⟨hd, h⟩⟩
    · rw [if_neg hr] at h
      by_cases hb : isBishDelta d = true
      · rw [if_pos hb] at h
        obtain ⟨dx, dy, hd, he⟩ := (isBishDelta_iff _).1 hb
        exact ⟨dx, dy, he, Or.inr ⟨hd, h⟩⟩
      · rw [if_neg hb] at h; cases h
  · rintro ⟨dx, dy, rfl, ⟨hd, h⟩ | ⟨hd, h⟩⟩
    · rw [if_pos ((isRookDelta_iff _).2 ⟨dx, dy, hd, rfl⟩)]; exact h
    · rw [if_neg (by rw [bish_not_rook dx dy hd]; exact Bool.false_ne_true),
        if_pos ((isBishDelta_iff _).2 ⟨dx, dy, hd, rfl⟩)]; exact h

theorem code_ne_zero (dx dy : Int) (hd : IsDir dx dy) : dy * 8 + dx ≠ 0 := by
  unfold IsDir at hd; omega

theorem code_inj (dx dy ex ey : Int) (hd : IsDir dx dy) (he : IsDir ex ey) (h : dy * 8 + dx = ey * 8 + ex) :
    dx = ex ∧ dy = ey := by
  unfold IsDir at hd he; omega

theorem code_neg (dx dy : Int) : -(dy * 8 + dx) = (-dy) * 8 + (-dx) := by omega

/-- the `default:` branch of the first `switch` of `givesCheck`: a non-zero value that is neither a rook nor a bishop
    step is a knight jump -/
def knTable : Bool :=
  rng15.all fun X => rng15.all fun Y =>
    ((!isRookDelta (dirXY X Y) && !isBishDelta (dirXY X Y) && dirXY X Y != 0) ==
      ((X.natAbs == 1 && Y.natAbs == 2) || (X.natAbs == 2 && Y.natAbs == 1)))

set_option maxRecDepth 100000 in
theorem knTable_ok : knTable = true := by decide +kernel

theorem mem_rng15 (X : Int) (h : -7 ≤ X ∧ X ≤ 7) : X ∈ rng15 :=
  List.mem_map.2 ⟨(X + 7).toNat, List.mem_range.2 (by omega), by omega⟩

theorem knight_dir_iff (a c : Sq) :
    (!isRookDelta (direction a c) && !isBishDelta (direction a c) && direction a c != 0) = knightGeom a c := by
  have h := knTable_ok
  unfold knTable at h
  rw [List.all_eq_true] at h
  have h := h _ (mem_rng15 _ (Sq.dx_bounds a c))
  rw [List.all_eq_true] at h
  have h := h _ (mem_rng15 _ (Sq.dy_bounds a c))
  rw [direction_eq]
  unfold knightGeom dxy
  exact beq_iff_eq.1 h

/-- a slider of kind `pc` moves along direction `(dx, dy)` -/
def sliderOn (pc : Pc) (dx dy : Int) : Prop :=
  (RookD dx dy ∧ (kind pc = 3 ∨ kind pc = 2)) ∨ (BishD dx dy ∧ (kind pc = 4 ∨ kind pc = 2))

/-- a slider of white kind `pw` moves along direction `(dx, dy)`; `sliderOn pc` unfolds to `kindOn (kind pc)` -/
def kindOn (pw : UInt8) (dx dy : Int) : Prop :=
  (RookD dx dy ∧ (pw = 3 ∨ pw = 2)) ∨ (BishD dx dy ∧ (pw = 4 ∨ pw = 2))

theorem kindOn.isDir {pw : UInt8} {dx dy : Int} (h : kindOn pw dx dy) : IsDir dx dy := by
  rcases h with ⟨h, _⟩ | ⟨h, _⟩
  · exact h.isDir
  · exact h.isDir

theorem sliderOn.isDir {pc : Pc} {dx dy : Int} (h : sliderOn pc dx dy) : IsDir dx dy := kindOn.isDir h

theorem atkFrom_of_slider (pc : Pc) (occ : BB) (s K : Sq) (dx dy : Int) (h : sliderOn pc dx dy)
    (hr : tst (ray occ K dx dy) s = true) : atkFrom pc occ s K = true := by
  unfold atkFrom
  rcases h with ⟨hd, hk⟩ | ⟨hd, hk⟩
  · have hra : tst (rookAttacks K occ) s = true := (tst_rook_iff K s occ).2 ⟨dx, dy, hd, hr⟩
    rcases hk with hk | hk <;> rw [hk] <;> simp [hra]
  · have hba : tst (bishopAttacks K occ) s = true := (tst_bishop_iff K s occ).2 ⟨dx, dy, hd, hr⟩
    rcases hk with hk | hk <;> rw [hk] <;> simp [hba]

theorem atkFrom_cases (pc : Pc) (occ : BB) (s K : Sq) (h : atkFrom pc occ s K = true) :
    (kind pc = 1 ∧ kingGeom K s = true) ∨ (kind pc = 5 ∧ knightGeom K s = true) ∨
    (kind pc = 6 ∧ pawnGeom (!isWhite pc) K s = true) ∨
    ∃ dx dy, sliderOn pc dx dy ∧ tst (ray occ K dx dy) s = true := by
  unfold atkFrom at h
  split at h <;> rename_i hk
  · exact Or.inl ⟨hk, h⟩
  · exact Or.inr (Or.inl ⟨hk, h⟩)
  · exact Or.inr (Or.inr (Or.inl ⟨hk, h⟩))
  · obtain ⟨dx, dy, hd, hr⟩ := (tst_rook_iff K s occ).1 h
    exact Or.inr (Or.inr (Or.inr ⟨dx, dy, Or.inl ⟨hd, Or.inl hk⟩, hr⟩))
  · obtain ⟨dx, dy, hd, hr⟩ := (tst_bishop_iff K s occ).1 h
    exact Or.inr (Or.inr (Or.inr ⟨dx, dy, Or.inr ⟨hd, Or.inl hk⟩, hr⟩))
  · rw [Bool.or_eq_true] at h
    rcases h with h | h
    · obtain ⟨dx, dy, hd, hr⟩ := (tst_rook_iff K s occ).1 h
      exact Or.inr (Or.inr (Or.inr ⟨dx, dy, Or.inl ⟨hd, Or.inr hk⟩, hr⟩))
    · obtain ⟨dx, dy, hd, hr⟩ := (tst_bishop_iff K s occ).1 h
      exact Or.inr (Or.inr (Or.inr ⟨dx, dy, Or.inr ⟨hd, Or.inr hk⟩, hr⟩))
  · cases h

theorem atkFrom_king (pc : Pc) (occ : BB) (s K : Sq) (hk : kind pc = 1) : atkFrom pc occ s K = kingGeom K s := by
  unfold atkFrom; simp only [hk]
theorem atkFrom_knight (pc : Pc) (occ : BB) (s K : Sq) (hk : kind pc = 5) : atkFrom pc occ s K = knightGeom K s := by
  unfold atkFrom; simp only [hk]
theorem atkFrom_pawn (pc : Pc) (occ : BB) (s K : Sq) (hk : kind pc = 6) :
    atkFrom pc occ s K = pawnGeom (!isWhite pc) K s := by
  unfold atkFrom; simp only [hk]

/-- **a new attack by an unchanged piece is a discovered attack**: if the piece on `s` attacks `K` over `b'` but not over
    `b`, it is a slider on a ray from `K` that is open on `b'`, and seen from `K` the first square of that ray which `b`
    occupies comes before `s` -/
theorem new_attack (b b' : Board) (hv : ValidB b) (hv' : ValidB b') (K s : Sq) (pc : Pc)
    (hno : atkFrom pc (occBB b) s K = false) (ha : atkFrom pc (occBB b') s K = true) :
    ∃ dx dy n, sliderOn pc dx dy ∧ Seg b' K dx dy n s ∧ ∃ j v, 1 ≤ j ∧ j < n ∧ b[v] ≠ 0 ∧ Seg b K dx dy j v := by
  rcases atkFrom_cases _ _ _ _ ha with ⟨hk, hg⟩ | ⟨hk, hg⟩ | ⟨hk, hg⟩ | ⟨dx, dy, hsl, hr⟩
  · rw [atkFrom_king _ _ _ _ hk, hg] at hno; cases hno
  · rw [atkFrom_knight _ _ _ _ hk, hg] at hno; cases hno
  · rw [atkFrom_pawn _ _ _ _ hk, hg] at hno; cases hno
  · have hd := hsl.isDir
    obtain ⟨n, hseg⟩ := (tst_ray_seg b' hv' K s dx dy hd).1 hr
    refine ⟨dx, dy, n, hsl, hseg, ?_⟩
    have hsq : ∀ j, 1 ≤ j → j < n → ∃ q, stepSq K.x K.y dx dy j = some q := by
      intro j h1 h2; obtain ⟨q, hq, _⟩ := hseg.inner j h1 h2; exact ⟨q, hq⟩
    by_cases hex : ∃ j q, 1 ≤ j ∧ j < n ∧ stepSq K.x K.y dx dy j = some q ∧ b[q] ≠ 0
    · obtain ⟨j, q, h1, h2, hq, hne⟩ := hex
      obtain ⟨i, v, a1, a2, a3, a4⟩ := first_blocker b K dx dy n hsq j q h1 h2 hq hne
      exact ⟨i, v, a1, by omega, a3, a4⟩
    · exfalso
      have : Seg b K dx dy n s := hseg.congr (fun j q h1 h2 hq _ =>
        Classical.byContradiction fun hne => hex ⟨j, q, h1, h2, hq, hne⟩)
      have := atkFrom_of_slider pc (occBB b) s K dx dy hsl ((tst_ray_seg b hv K s dx dy hd).2 ⟨n, this⟩)
      rw [this] at hno; cases hno

end Chess.Texel
