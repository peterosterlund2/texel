import TexelVerif.Chess.SpecLemmas
import TexelVerif.PosImpl.Model
/-!
The equations of the specification, so that no area unfolds `pseudo`, `castleOk` or `apply` itself: the total read
`getP` with its read/write algebra over `setSq`, the rule of `pseudo` for each kind of piece, the squares `castleOk`
speaks of, and the position after `apply` field by field.  A square given as `Sq` is read with `p.at`, a square given
by index with `getP`; `at_eq` goes from the first to the second.  `PosImpl.EpOk` (the e.p. square is one the FEN reader
would accept) stands at the end, for the users that must not import `PosImpl/MakeSpec`.
-/
namespace PosImpl
open Chess

theorem getP_eq (b : Board) (k : Nat) (h : k < 64) : getP b k = b[k] := by
  unfold getP
  simp [Vector.getD, h]

theorem getP_oob (b : Board) (k : Nat) (h : ¬ k < 64) : getP b k = 0 := by
  unfold getP
  simp [Vector.getD, h]

theorem getP_setSq (b : Board) (n k : Nat) (v : Pc) (hn : n < 64) :
    getP (setSq b n v) k = if k = n then v else getP b k := by
  by_cases hk : k < 64
  · rw [getP_eq _ _ hk, getP_eq _ _ hk]
    unfold setSq
    rw [Vector.getElem_setIfInBounds]
    by_cases h : k = n
    · subst h; simp
    · have : ¬ n = k := fun e => h e.symm
      simp [h, this]
  · have : ¬ k = n := by omega
    rw [getP_oob _ _ hk, getP_oob _ _ hk]; simp [this]

theorem board_ext (a b : Board) (h : ∀ k, k < 64 → getP a k = getP b k) : a = b := by
  apply Vector.ext
  intro i hi
  have := h i hi
  rwa [getP_eq _ _ hi, getP_eq _ _ hi] at this

theorem getP_setSq_ne (b : Board) (n k : Nat) (v : Pc) (h : k ≠ n) : getP (setSq b n v) k = getP b k := by
  by_cases hn : n < 64
  · rw [getP_setSq _ _ _ _ hn, if_neg h]
  · unfold setSq; rw [Vector.setIfInBounds_eq_of_size_le (by omega)]

theorem setSq_setSq (b : Board) (n : Nat) (v w : Pc) : setSq (setSq b n v) n w = setSq b n w :=
  Vector.setIfInBounds_setIfInBounds v

theorem setSq_comm (b : Board) (i j : Nat) (v w : Pc) (h : i ≠ j) :
    setSq (setSq b i v) j w = setSq (setSq b j w) i v := by
  unfold setSq
  apply Vector.ext
  intro k hk
  simp only [Vector.getElem_setIfInBounds]
  by_cases hj : j = k
  · have hi : ¬ i = k := fun e => h (e.trans hj.symm)
    simp only [if_pos hj, if_neg hi]
  · simp only [if_neg hj]

theorem setSq_getP (b : Board) (n : Nat) (v : Pc) (h : getP b n = v) : setSq b n v = b := by
  apply board_ext
  intro k _
  by_cases hk : k = n
  · subst hk
    by_cases hn : k < 64
    · rw [getP_setSq _ _ _ _ hn, if_pos rfl, h]
    · rw [getP_oob _ _ hn, getP_oob _ _ hn]
  · rw [getP_setSq_ne _ _ _ _ hk]

/-- no bound on either index: out of range the write is void and the read is 0 -/
theorem getP_setSq_bound (b : Board) (n : Nat) (v : Pc) (i : Nat) :
    getP (setSq b n v) i = if n = i ∧ i < 64 then v else getP b i := by
  by_cases hi : i < 64
  · rw [getP_eq _ _ hi, getP_eq _ _ hi]; unfold setSq; rw [Vector.getElem_setIfInBounds]; simp [hi]
  · rw [getP_oob _ _ hi, getP_oob _ _ hi]; simp [hi]

end PosImpl

namespace Chess
open PosImpl (getP)

theorem at_eq (p : Pos) (s : Sq) : p.at s = getP p.b s.val := by
  unfold Pos.at getP
  simp [Vector.getD, s.isLt]

def preRule (p : Pos) (m : Mv) : Bool := own p.wtm (p.at m.f) && !own p.wtm (p.at m.t) && m.f != m.t

def pawnRule (p : Pos) (m : Mv) : Bool :=
  let tg := p.at m.t
  let w := p.wtm
  let d := dxy m.f m.t
  let fwd : Int := if w then 1 else -1
  let startRank : Nat := if w then 1 else 6
  promoOk w m &&
  ( (d.1 == 0 && d.2 == fwd && tg == 0) ||
    (d.1 == 0 && d.2 == 2 * fwd && m.f.y == startRank && tg == 0 &&
       (match mkSq? m.f.x ((m.f.y : Int) + fwd) with | some q => p.at q == 0 | none => false)) ||
    (d.1.natAbs == 1 && d.2 == fwd && (tg != 0 || p.ep == some m.t)) )

def kingRule (p : Pos) (m : Mv) : Bool :=
  let w := p.wtm
  let d := dxy m.f m.t
  m.promo == 0 &&
  ( (d.1.natAbs ≤ 1 && d.2.natAbs ≤ 1) ||
    (d.2 == 0 && d.1 == 2 && m.f.val == (if w then 4 else 60) && castleOk p true) ||
    (d.2 == 0 && d.1 == -2 && m.f.val == (if w then 4 else 60) && castleOk p false) )

theorem pseudo_pawn_eq (p : Pos) (m : Mv) (h : kind (p.at m.f) = 6) : pseudo p m = (preRule p m && pawnRule p m) := by
  unfold pseudo pawnRule preRule
  simp only
  split
  · rfl
  · next h' => rw [h] at h'; cases h'
  · next h' _ => exact absurd h h'

theorem pseudo_king_eq (p : Pos) (m : Mv) (h : kind (p.at m.f) = 1) : pseudo p m = (preRule p m && kingRule p m) := by
  unfold pseudo kingRule preRule
  simp only
  split
  · next h' => rw [h] at h'; cases h'
  · rfl
  · next _ h' => exact absurd h h'

theorem pseudo_other_eq (p : Pos) (m : Mv) (h6 : kind (p.at m.f) ≠ 6) (h1 : kind (p.at m.f) ≠ 1) :
    pseudo p m = (preRule p m && (m.promo == 0 && attacks p.b m.f m.t)) := by
  unfold pseudo preRule
  simp only

theorem preRule_iff (p : Pos) (m : Mv) :
    preRule p m = true ↔ own p.wtm (p.at m.f) = true ∧ own p.wtm (p.at m.t) = false ∧ m.f ≠ m.t := by
  unfold preRule
  simp only [Bool.and_eq_true, Bool.not_eq_true', bne_iff_ne, ne_eq, and_assoc]

theorem kingRule_iff (p : Pos) (m : Mv) :
    kingRule p m = true ↔ m.promo = 0 ∧
      (((dxy m.f m.t).1.natAbs ≤ 1 ∧ (dxy m.f m.t).2.natAbs ≤ 1) ∨
       ((dxy m.f m.t).2 = 0 ∧ (dxy m.f m.t).1 = 2 ∧ m.f.val = (if p.wtm then 4 else 60) ∧ castleOk p true = true) ∨
       ((dxy m.f m.t).2 = 0 ∧ (dxy m.f m.t).1 = -2 ∧ m.f.val = (if p.wtm then 4 else 60) ∧ castleOk p false = true)) := by
  unfold kingRule
  simp only [Bool.and_eq_true, Bool.or_eq_true, beq_iff_eq, decide_eq_true_eq, and_assoc, or_assoc]

/-- the three shapes of a pawn move (step, double step from the start rank, diagonal capture) as a proposition -/
def PawnAlt (p : Pos) (m : Mv) : Prop :=
  let w := p.wtm
  let fwd : Int := if w then 1 else -1
  let d := dxy m.f m.t
  (d.1 = 0 ∧ d.2 = fwd ∧ p.at m.t = 0) ∨
  (d.1 = 0 ∧ d.2 = 2 * fwd ∧ m.f.y = (if w then 1 else 6) ∧ p.at m.t = 0 ∧
     (match mkSq? m.f.x ((m.f.y : Int) + fwd) with | some q => p.at q == 0 | none => false) = true) ∨
  (d.1.natAbs = 1 ∧ d.2 = fwd ∧ (p.at m.t ≠ 0 ∨ p.ep = some m.t))

theorem pawnRule_iff (p : Pos) (m : Mv) : pawnRule p m = true ↔ promoOk p.wtm m = true ∧ PawnAlt p m := by
  unfold pawnRule PawnAlt
  simp only [Bool.and_eq_true, Bool.or_eq_true, beq_iff_eq, bne_iff_ne, ne_eq, and_assoc, or_assoc]

theorem pawnRule_alt (p : Pos) (m : Mv) (h : pawnRule p m = true) : promoOk p.wtm m = true ∧ PawnAlt p m :=
  (pawnRule_iff p m).1 h

theorem pseudo_pawn (p : Pos) (m : Mv) (h : pseudo p m = true) (hk : kind (p.at m.f) = 6) :
    promoOk p.wtm m = true ∧ PawnAlt p m := by
  rw [pseudo_pawn_eq p m hk, Bool.and_eq_true] at h
  exact pawnRule_alt p m h.2

theorem pseudo_king (p : Pos) (m : Mv) (h : pseudo p m = true) (hk : kind (p.at m.f) = 1) :
    m.promo = 0 ∧
    (((dxy m.f m.t).1.natAbs ≤ 1 ∧ (dxy m.f m.t).2.natAbs ≤ 1) ∨
     ((dxy m.f m.t).2 = 0 ∧ (dxy m.f m.t).1 = 2 ∧ m.f.val = (if p.wtm then 4 else 60) ∧ castleOk p true = true) ∨
     ((dxy m.f m.t).2 = 0 ∧ (dxy m.f m.t).1 = -2 ∧ m.f.val = (if p.wtm then 4 else 60) ∧ castleOk p false = true)) := by
  rw [pseudo_king_eq p m hk, Bool.and_eq_true] at h
  exact (kingRule_iff p m).1 h.2

/-- `pseudo_king` in square numbers, the form `Position::makeMove` and the generator test -/
theorem pseudo_king_val (p : Pos) (m : Mv) (h : pseudo p m = true) (hk : kind (p.at m.f) = 1) :
    m.promo = 0 ∧
    ((m.t.val ≠ m.f.val + 2 ∧ m.t.val + 2 ≠ m.f.val) ∨
     (m.t.val = m.f.val + 2 ∧ m.f.val = (if p.wtm then 4 else 60) ∧ castleOk p true = true) ∨
     (m.t.val + 2 = m.f.val ∧ m.f.val = (if p.wtm then 4 else 60) ∧ castleOk p false = true)) := by
  obtain ⟨hpr, hmv⟩ := pseudo_king p m h hk
  refine ⟨hpr, ?_⟩
  have hf := m.f.isLt
  have ht := m.t.isLt
  unfold dxy Sq.x Sq.y at hmv
  simp only [] at hmv
  rcases hmv with ⟨h1, h2⟩ | ⟨h1, h2, h3, h4⟩ | ⟨h1, h2, h3, h4⟩
  · left; omega
  · right; left; exact ⟨by omega, h3, h4⟩
  · right; right; exact ⟨by omega, h3, h4⟩

theorem pseudo_nonpawn_promo (p : Pos) (m : Mv) (h : pseudo p m = true) (hk : kind (p.at m.f) ≠ 6) : m.promo = 0 := by
  by_cases k1 : kind (p.at m.f) = 1
  · exact (pseudo_king p m h k1).1
  · rw [pseudo_other_eq p m hk k1, Bool.and_eq_true, Bool.and_eq_true] at h
    exact eq_of_beq h.2.1

theorem pseudo_promo_pawn (p : Pos) (m : Mv) (h : pseudo p m = true) (hpr : m.promo ≠ 0) :
    p.at m.f = if p.wtm then WPAWN else BPAWN :=
  own_kind6 _ _ (pseudo_basic p m h).1 (Classical.byContradiction fun hk => hpr (pseudo_nonpawn_promo p m h hk))

theorem castleOk_iff (p : Pos) (short : Bool) :
    castleOk p short = true ↔
      let home : Nat := if p.wtm then 4 else 60
      ((p.castle &&& (if p.wtm then (if short then 2 else 1) else (if short then 8 else 4))) != 0) = true ∧
      getP p.b home = (if p.wtm then WKING else BKING) ∧ Chess.inCheck p.b p.wtm = false ∧
      (if short then
        getP p.b (home + 1) = 0 ∧ getP p.b (home + 2) = 0 ∧ getP p.b (home + 3) = (if p.wtm then WROOK else BROOK) ∧
          attackedBy p.b (!p.wtm) ⟨(home + 1) % 64, Nat.mod_lt _ (by decide)⟩ = false
       else
        getP p.b (home - 1) = 0 ∧ getP p.b (home - 2) = 0 ∧ getP p.b (home - 3) = 0 ∧
          getP p.b (home - 4) = (if p.wtm then WROOK else BROOK) ∧
          attackedBy p.b (!p.wtm) ⟨(home - 1) % 64, Nat.mod_lt _ (by decide)⟩ = false) := by
  unfold castleOk
  cases short <;> simp only [Bool.and_eq_true, Bool.not_eq_true', beq_iff_eq, if_true, if_false, Bool.false_eq_true, getP] <;>
    constructor <;> intro h <;> simp_all

theorem castleOk_short (p : Pos) (h : castleOk p true = true) :
    getP p.b (if p.wtm then 4 else 60) = (if p.wtm then WKING else BKING) ∧
    getP p.b ((if p.wtm then 4 else 60) + 1) = 0 ∧ getP p.b ((if p.wtm then 4 else 60) + 2) = 0 ∧
    getP p.b ((if p.wtm then 4 else 60) + 3) = (if p.wtm then WROOK else BROOK) := by
  have h := (castleOk_iff p true).1 h
  exact ⟨h.2.1, h.2.2.2.1, h.2.2.2.2.1, h.2.2.2.2.2.1⟩

theorem castleOk_long (p : Pos) (h : castleOk p false = true) :
    getP p.b (if p.wtm then 4 else 60) = (if p.wtm then WKING else BKING) ∧
    getP p.b ((if p.wtm then 4 else 60) - 1) = 0 ∧ getP p.b ((if p.wtm then 4 else 60) - 2) = 0 ∧
    getP p.b ((if p.wtm then 4 else 60) - 3) = 0 ∧
    getP p.b ((if p.wtm then 4 else 60) - 4) = (if p.wtm then WROOK else BROOK) := by
  have h := (castleOk_iff p false).1 h
  exact ⟨h.2.1, h.2.2.2.1, h.2.2.2.2.1, h.2.2.2.2.2.1, h.2.2.2.2.2.2.1⟩

def isEp (p : Pos) (m : Mv) : Bool :=
  kind (p.at m.f) == 6 && p.ep == some m.t && !(p.at m.t != 0) && m.f.x != m.t.x

/-- the board before the rook's jump: e.p. victim off, moved piece (or what it promotes to) put down -/
def movedB (p : Pos) (m : Mv) : Board :=
  setSq (setSq (if isEp p m then setSq p.b (if p.wtm then m.t.val - 8 else m.t.val + 8) 0 else p.b) m.f.val 0) m.t.val
    (if m.promo != 0 then m.promo else p.at m.f)

def applyB (p : Pos) (m : Mv) : Board :=
  if kind (p.at m.f) == 1 && m.t.val == m.f.val + 2 then
    setSq (setSq (movedB p m) (m.f.val + 3) 0) (m.f.val + 1) (if p.wtm then WROOK else BROOK)
  else if kind (p.at m.f) == 1 && m.t.val + 2 == m.f.val then
    setSq (setSq (movedB p m) (m.f.val - 4) 0) (m.f.val - 1) (if p.wtm then WROOK else BROOK)
  else movedB p m

def newEp (p : Pos) (m : Mv) : Option Sq :=
  if kind (p.at m.f) == 6 && (m.t.val == m.f.val + 16 || m.f.val == m.t.val + 16) then
    let enemyPawn : Pc := if p.wtm then BPAWN else WPAWN
    let adj := (m.t.x > 0 && getP (applyB p m) (m.t.val - 1) == enemyPawn) || (m.t.x < 7 && getP (applyB p m) (m.t.val + 1) == enemyPawn)
    if adj then some ⟨((m.f.val + m.t.val) / 2) % 64, Nat.mod_lt _ (by decide)⟩ else none
  else none

theorem apply_eq (p : Pos) (m : Mv) :
    apply p m =
      { b := applyB p m, wtm := !p.wtm, castle := p.castle &&& castleKeep m.f &&& castleKeep m.t, ep := newEp p m,
        hmc := if (kind (p.at m.f) == 6 || p.at m.t != 0) then 0 else p.hmc + 1,
        fmc := if p.wtm then p.fmc else p.fmc + 1 } := rfl

theorem apply_b (p : Pos) (m : Mv) : (apply p m).b = applyB p m := rfl
theorem apply_ep (p : Pos) (m : Mv) : (apply p m).ep = newEp p m := rfl
@[simp] theorem apply_wtm (p : Pos) (m : Mv) : (apply p m).wtm = !p.wtm := rfl

/-! what stands on a square after the move -/

theorem movedB_get (p : Pos) (m : Mv) (q : Sq) :
    (movedB p m)[q] = if m.t.val = q.val then (if m.promo != 0 then m.promo else p.at m.f)
      else if m.f.val = q.val then 0
      else if isEp p m = true ∧ (if p.wtm then m.t.val - 8 else m.t.val + 8) = q.val then 0 else p.b[q] := by
  unfold movedB
  rw [setSq_get, setSq_get]
  cases isEp p m
  · simp only [Bool.false_eq_true, if_false, false_and]
  · simp only [if_true, true_and, setSq_get]

theorem applyB_get_short (p : Pos) (m : Mv) (hk : kind (p.at m.f) = 1) (ht : m.t.val = m.f.val + 2) (q : Sq) :
    (applyB p m)[q] = if m.f.val + 1 = q.val then (if p.wtm then WROOK else BROOK)
      else if m.f.val + 3 = q.val then 0 else (movedB p m)[q] := by
  unfold applyB
  rw [if_pos (by rw [hk, ht]; simp), setSq_get, setSq_get]

theorem applyB_get_long (p : Pos) (m : Mv) (hk : kind (p.at m.f) = 1) (ht : m.t.val + 2 = m.f.val) (q : Sq) :
    (applyB p m)[q] = if m.f.val - 1 = q.val then (if p.wtm then WROOK else BROOK)
      else if m.f.val - 4 = q.val then 0 else (movedB p m)[q] := by
  unfold applyB
  rw [if_neg (by rw [hk]; simp; omega), if_pos (by rw [hk, ← ht]; simp), setSq_get, setSq_get]

theorem isEp_of_kind (p : Pos) (m : Mv) (hk : kind (p.at m.f) ≠ 6) : isEp p m = false := by
  unfold isEp
  rw [beq_eq_false_iff_ne.2 hk]
  rfl

theorem ite_none_eq_some {α : Type} {c : Prop} [Decidable c] {x : Option α} {b : α} (h : (if c then x else none) = some b) : c ∧ x = some b := by
  by_cases hc : c
  · rw [if_pos hc] at h; exact ⟨hc, h⟩
  · rw [if_neg hc] at h; cases h

/-- the e.p. square after a move is set only by a double pawn push, midway between from and to -/
theorem apply_ep_some (P : Pos) (m : Mv) (e : Sq) (h : (apply P m).ep = some e) :
    kind (P.at m.f) = 6 ∧ (m.t.val = m.f.val + 16 ∨ m.f.val = m.t.val + 16) ∧ e.val = (m.f.val + m.t.val) / 2 % 64 := by
  rw [apply_ep] at h
  unfold newEp at h
  simp only at h
  obtain ⟨hc, h2⟩ := ite_none_eq_some h
  simp only [Bool.and_eq_true, Bool.or_eq_true, beq_iff_eq] at hc
  obtain ⟨_, h3⟩ := ite_none_eq_some h2
  injection h3 with h3
  exact ⟨hc.1, hc.2, by rw [← h3]⟩

theorem applyB_plain (p : Pos) (m : Mv)
    (h : ¬ (kind (p.at m.f) = 1 ∧ (m.t.val = m.f.val + 2 ∨ m.t.val + 2 = m.f.val))) : applyB p m = movedB p m := by
  unfold applyB
  rw [if_neg, if_neg]
  · intro hc; simp only [Bool.and_eq_true, beq_iff_eq] at hc; exact h ⟨hc.1, Or.inr hc.2⟩
  · intro hc; simp only [Bool.and_eq_true, beq_iff_eq] at hc; exact h ⟨hc.1, Or.inl hc.2⟩

theorem applyB_noncastle (p : Pos) (m : Mv) (hk : kind (p.at m.f) ≠ 1) : applyB p m = movedB p m :=
  applyB_plain p m fun h => hk h.1

end Chess

namespace PosImpl
open Chess

/-- the en-passant flag is meaningful: its square is empty and the pawn that made the double step stands behind it
    (what `readFEN` enforces and `makeMove` establishes) -/
def EpOk (p : Pos) : Prop :=
  ∀ e, p.ep = some e → getP p.b e.val = 0 ∧
    getP p.b (if p.wtm then e.val - 8 else e.val + 8) = (if p.wtm then BPAWN else WPAWN)

instance (p : Pos) : Decidable (EpOk p) := by
  unfold EpOk
  cases h : p.ep with
  | none => exact isTrue (by intro e he; cases he)
  | some e0 =>
    exact decidable_of_iff (getP p.b e0.val = 0 ∧ getP p.b (if p.wtm then e0.val - 8 else e0.val + 8) = (if p.wtm then BPAWN else WPAWN))
      ⟨fun hh e he => by cases he; exact hh, fun hh => hh e0 rfl⟩

end PosImpl
