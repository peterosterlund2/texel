import TexelVerif.Chess.Line
/-!
Forced mates under the specification, and executable checkers for *certificates* of forced mates
(strategy trees found by an untrusted solver) and of their absence.  Used to audit `score mate N` claims (C04, C13).
-/
namespace Chess

def nextPos (p : Pos) (m : Mv) : Pos := fixupEP (apply p m)

/-- side to move is checkmated -/
def isMated (p : Pos) : Bool := (genLegal p).isEmpty && inCheck p.b p.wtm

/-- `WinIn p n`: the side to move can force checkmate with at most `n` of its own moves -/
inductive WinIn : Pos → Nat → Prop
  | mate (p m n) : legalB p m = true → isMated (nextPos p m) = true → WinIn p (n + 1)
  | step (p m n) : legalB p m = true → (genLegal (nextPos p m)) ≠ [] →
      (∀ r, legalB (nextPos p m) r = true → WinIn (nextPos (nextPos p m) r) (n + 1)) → WinIn p (n + 2)

/-- `LoseIn p n`: the side to move is not yet mated but whatever it plays the opponent mates within `n` moves -/
def LoseIn (p : Pos) (n : Nat) : Prop := genLegal p ≠ [] ∧ ∀ m, legalB p m = true → WinIn (nextPos p m) n

theorem WinIn.mono {p : Pos} {n k : Nat} (h : WinIn p n) (hk : n ≤ k) : WinIn p k := by
  induction h generalizing k with
  | mate p m n hl hm =>
    obtain ⟨k', rfl⟩ : ∃ k', k = k' + 1 := ⟨k - 1, by omega⟩
    exact .mate p m k' hl hm
  | step p m n hl hne _ ih =>
    obtain ⟨k', rfl⟩ : ∃ k', k = k' + 2 := ⟨k - 2, by omega⟩
    exact .step p m k' hl hne (fun r hr => ih r hr (by omega))

/-- certificate of a forced mate: the attacker's move, then either "mate" or one sub-certificate per reply -/
inductive WinCert where
  | mate (m : Mv)
  | node (m : Mv) (replies : List (Mv × WinCert))

/-- the replies of the certificate cover every legal reply -/
def coversAll (legal : List Mv) (given : List Mv) : Bool := legal.all given.contains

def checkWin (p : Pos) : Nat → WinCert → Bool
  | 0, _ => false
  | n + 1, .mate m => legalB p m && isMated (nextPos p m)
  | n + 1, .node m rs =>
    match n with
    | 0 => false
    | n' + 1 =>
      let q := nextPos p m
      legalB p m && !(genLegal q).isEmpty && coversAll (genLegal q) (rs.map (·.1)) &&
        rs.attach.all fun ⟨x, _⟩ => !legalB q x.1 || checkWin (nextPos q x.1) (n' + 1) x.2
termination_by n c => (n, sizeOf c)
decreasing_by
  all_goals simp_wf
  all_goals first | omega | (apply Prod.Lex.left; omega)

theorem checkWin_sound : ∀ (n : Nat) (p : Pos) (c : WinCert), checkWin p n c = true → WinIn p n := by
  intro n
  induction n using Nat.strongRecOn with
  | _ n ih =>
    intro p c h
    match n, c with
    | 0, c => simp [checkWin] at h
    | n + 1, .mate m =>
      simp only [checkWin, Bool.and_eq_true] at h
      exact .mate p m n h.1 h.2
    | 1, .node m rs => simp [checkWin] at h
    | n' + 2, .node m rs =>
      simp only [checkWin, Bool.and_eq_true, Bool.not_eq_true', List.all_eq_true, List.mem_attach,
        forall_const, Subtype.forall, Bool.or_eq_true] at h
      obtain ⟨⟨⟨hl, hne⟩, hcov⟩, hall⟩ := h
      refine .step p m n' hl ?_ ?_
      · intro he; rw [he] at hne; simp at hne
      · intro r hr
        have hr' : r ∈ genLegal (nextPos p m) := (mem_genLegal _ _).2 hr
        have hc := (List.all_eq_true.1 hcov) r hr'
        rw [List.contains_iff_mem, List.mem_map] at hc
        obtain ⟨x, hx, rfl⟩ := hc
        rcases hall x hx with h1 | h2
        · rw [hr] at h1; cases h1
        · exact ih (n' + 1) (by omega) _ _ h2

/-- certificate that no mate can be forced within the budget: for every attacker move a defence -/
inductive NoWinCert where
  | leaf                                              -- budget exhausted
  | node (answers : List (Mv × Option (Mv × NoWinCert)))  -- per attacker move: `none` = stalemate / not mate and no moves;
                                                      -- `some (r, c)` = reply r and the certificate for the position after it

def checkNoWin (p : Pos) : Nat → NoWinCert → Bool
  | 0, _ => true
  | n + 1, .leaf => false
  | n + 1, .node as =>
    coversAll (genLegal p) (as.map (·.1)) &&
    as.attach.all fun ⟨x, _⟩ =>
      !legalB p x.1 ||
      (let q := nextPos p x.1
       match x.2 with
       | none => (genLegal q).isEmpty && !inCheck q.b q.wtm          -- stalemate: the move does not mate
       | some (r, c) => legalB q r && checkNoWin (nextPos q r) n c)
termination_by n c => (n, sizeOf c)
decreasing_by
  all_goals simp_wf
  all_goals first | omega | (apply Prod.Lex.left; omega)

theorem winIn_zero (p : Pos) : ¬ WinIn p 0 := by intro h; cases h

theorem checkNoWin_sound : ∀ (n : Nat) (p : Pos) (c : NoWinCert), checkNoWin p n c = true → ¬ WinIn p n := by
  intro n
  induction n with
  | zero => intro p c _; exact winIn_zero p
  | succ n ih =>
    intro p c h hw
    match c with
    | .leaf => simp [checkNoWin] at h
    | .node as =>
      simp only [checkNoWin, Bool.and_eq_true, List.all_eq_true, List.mem_attach, forall_const, Subtype.forall,
        Bool.or_eq_true, Bool.not_eq_true'] at h
      obtain ⟨hcov, hall⟩ := h
      -- the attacker's first move of the alleged win
      have key : ∀ m, legalB p m = true →
          (isMated (nextPos p m) = true → False) ∧
          (genLegal (nextPos p m) ≠ [] → (∀ r, legalB (nextPos p m) r = true → WinIn (nextPos (nextPos p m) r) n) → False) := by
        intro m hm
        have hm' : m ∈ genLegal p := (mem_genLegal _ _).2 hm
        have hc := (List.all_eq_true.1 hcov) m hm'
        rw [List.contains_iff_mem, List.mem_map] at hc
        obtain ⟨x, hx, rfl⟩ := hc
        rcases hall x hx with h1 | h2
        · rw [hm] at h1; cases h1
        · cases hx2 : x.2 with
          | none =>
            rw [hx2] at h2
            simp only [Bool.and_eq_true, Bool.not_eq_true'] at h2
            constructor
            · intro hmat; simp only [isMated, Bool.and_eq_true] at hmat; rw [h2.2] at hmat; exact absurd hmat.2 (by simp)
            · intro hne _; have := h2.1; simp only [List.isEmpty_iff] at this; exact hne this
          | some rc =>
            obtain ⟨r, c'⟩ := rc
            rw [hx2] at h2
            simp only [Bool.and_eq_true] at h2
            constructor
            · intro hmat
              simp only [isMated, Bool.and_eq_true, List.isEmpty_iff] at hmat
              have : r ∈ genLegal (nextPos p x.1) := (mem_genLegal _ _).2 h2.1
              rw [hmat.1] at this; cases this
            · intro _ hall'
              exact ih _ _ h2.2 (hall' r h2.1)
      cases hw with
      | mate _ m _ hl hm => exact (key m hl).1 hm
      | step _ m n' hl hne hr => exact (key m hl).2 hne hr

/-- a position in which a mate in one exists -/
def hasMateIn1 (p : Pos) : Bool := (genLegal p).any fun m => isMated (nextPos p m)

theorem hasMateIn1_iff (p : Pos) : hasMateIn1 p = true ↔ WinIn p 1 := by
  unfold hasMateIn1
  rw [List.any_eq_true]
  constructor
  · rintro ⟨m, hm, hmat⟩
    exact .mate p m 0 ((mem_genLegal _ _).1 hm) hmat
  · intro h
    cases h with
    | mate _ m _ hl hm => exact ⟨m, (mem_genLegal _ _).2 hl, hm⟩

end Chess
