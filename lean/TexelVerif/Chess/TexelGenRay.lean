import TexelVerif.Chess.TexelGen
import TexelVerif.Chess.SpecLemmas
/-!
Bitboard and ray lemmas for the model of `MoveGen`:
* `tst_*`: reading bits of and / or / not / predicate bitboards;
* `rayGo_iff`, `rayBB_iff`: both ray walks (the specification's over the board, the generator's over the
  occupancy bitboard) reach `t` iff `t` is the k-th square of the ray and the k-1 squares before it are empty;
* `ray_eq_rayReach`: the generator's sliding attack set over the board's occupancy is the specification's;
* `ray_inner`: a ray does not depend on the occupancy of its last square ⇒ `rookAttacks_inner`, `bishopAttacks_inner`.
-/
namespace Chess.Texel
open PosImpl (BB bit bbOf bbOf_get bit_get)

theorem tst_bbSq (f : Sq → Bool) (s : Sq) : tst (bbSq f) s = f s := by
  unfold tst bbSq
  rw [bbOf_get _ _ s.isLt]
  simp [s.isLt]

@[simp] theorem tst_and (a b : BB) (s : Sq) : tst (a &&& b) s = (tst a s && tst b s) := by simp [tst]
@[simp] theorem tst_or (a b : BB) (s : Sq) : tst (a ||| b) s = (tst a s || tst b s) := by simp [tst]
@[simp] theorem tst_not (a : BB) (s : Sq) : tst (~~~a) s = !tst a s := by simp [tst, s.isLt]
@[simp] theorem tst_zero (s : Sq) : tst 0 s = false := by simp [tst]
/-- `tst_zero` in the form `simp` leaves the literal in -/
@[simp] theorem tst_zero' (s : Sq) : tst (0#64) s = false := by simp [tst]

theorem tst_sqBit (s t : Sq) : tst (sqBit s) t = decide (t = s) := by
  unfold tst sqBit
  rw [bit_get _ _ t.isLt s.isLt]
  simp [Fin.ext_iff]

theorem bb_eq_zero_iff (a : BB) : a = 0 ↔ ∀ s : Sq, tst a s = false := by
  constructor
  · intro h s; subst h; simp [tst]
  · intro h
    apply PosImpl.bb_ext
    intro i hi
    have := h ⟨i, hi⟩
    simpa [tst] using this

theorem bb_ne_zero_iff (a : BB) : (a != 0) = true ↔ ∃ s : Sq, tst a s = true := by
  rw [bne_iff_ne, Ne, bb_eq_zero_iff]
  constructor
  · intro h
    apply Classical.byContradiction
    intro hn
    apply h
    intro s
    cases hs : tst a s
    · rfl
    · exact absurd ⟨s, hs⟩ hn
  · rintro ⟨s, hs⟩ h
    rw [h s] at hs; cases hs

theorem bb_beq_zero_iff (a : BB) : (a == 0) = true ↔ ∀ s : Sq, tst a s = false := by
  rw [beq_iff_eq, bb_eq_zero_iff]

theorem bb_ext_sq (a b : BB) (h : ∀ s : Sq, tst a s = tst b s) : a = b :=
  PosImpl.bb_ext a b fun i hi => h ⟨i, hi⟩

/-- `(x & (1ULL << s)) == 0` tests bit `s` -/
theorem and_sqBit_eq_zero (a : BB) (s : Sq) : ((a &&& sqBit s) == 0) = !tst a s := by
  cases h : tst a s
  · simp only [Bool.not_false]
    rw [bb_beq_zero_iff]
    intro t
    rw [tst_and, tst_sqBit]
    by_cases e : t = s
    · subst e; simp [h]
    · simp [e]
  · simp only [Bool.not_true]
    apply Bool.eq_false_iff.2
    intro h0
    rw [bb_beq_zero_iff] at h0
    have := h0 s
    rw [tst_and, tst_sqBit, h] at this
    simp at this

theorem mem_squaresOf (m : BB) (s : Sq) : s ∈ squaresOf m ↔ tst m s = true := by
  simp [squaresOf, allSq]

theorem squaresOf_nodup (m : BB) : (squaresOf m).Nodup :=
  List.Pairwise.filter _ (List.nodup_finRange 64)

/-- the j-th square from `(x, y)` in direction `(dx, dy)` -/
def stepSq (x y dx dy : Int) (j : Nat) : Option Sq := mkSq? (x + j * dx) (y + j * dy)

/-- `t` is the k-th square of the ray and squares 1..k-1 are on the board and satisfy `emp` -/
def ReachN (emp : Sq → Bool) (x y dx dy : Int) (k : Nat) (t : Sq) : Prop :=
  1 ≤ k ∧ stepSq x y dx dy k = some t ∧ ∀ j, 1 ≤ j → j < k → ∃ q, stepSq x y dx dy j = some q ∧ emp q = true

theorem stepSq_one (x y dx dy : Int) : stepSq x y dx dy 1 = mkSq? (x + dx) (y + dy) := by
  simp [stepSq]

theorem stepSq_shift (x y dx dy : Int) (j : Nat) : stepSq (x + dx) (y + dy) dx dy j = stepSq x y dx dy (j + 1) := by
  unfold stepSq
  have h1 : ((j + 1 : Nat) : Int) * dx = j * dx + dx := by rw [Int.natCast_add, Int.add_mul]; simp
  have h2 : ((j + 1 : Nat) : Int) * dy = j * dy + dy := by rw [Int.natCast_add, Int.add_mul]; simp
  rw [h1, h2]
  congr 1 <;> omega

theorem reachN_shift (emp : Sq → Bool) (x y dx dy : Int) (k : Nat) (t q : Sq)
    (hq : mkSq? (x + dx) (y + dy) = some q) (he : emp q = true) (hk : 1 ≤ k) :
    ReachN emp (x + dx) (y + dy) dx dy k t ↔ ReachN emp x y dx dy (k + 1) t := by
  unfold ReachN
  constructor
  · rintro ⟨_, h2, h3⟩
    refine ⟨by omega, by rw [← stepSq_shift]; exact h2, ?_⟩
    intro j hj1 hjk
    by_cases e : j = 1
    · subst e; exact ⟨q, by rw [stepSq_one]; exact hq, he⟩
    · obtain ⟨j', rfl⟩ : ∃ j', j = j' + 1 := ⟨j - 1, by omega⟩
      rw [← stepSq_shift]
      exact h3 j' (by omega) (by omega)
  · rintro ⟨_, h2, h3⟩
    refine ⟨hk, by rw [stepSq_shift]; exact h2, ?_⟩
    intro j hj1 hjk
    rw [stepSq_shift]
    exact h3 (j + 1) (by omega) (by omega)

theorem reachN_first {emp : Sq → Bool} {x y dx dy : Int} {k : Nat} {t : Sq} (h : ReachN emp x y dx dy k t) :
    ∃ q, mkSq? (x + dx) (y + dy) = some q ∧ (k = 1 → q = t) ∧ (k ≠ 1 → emp q = true) := by
  obtain ⟨h1, h2, h3⟩ := h
  by_cases e : k = 1
  · subst e
    rw [stepSq_one] at h2
    exact ⟨t, h2, fun _ => rfl, fun h => absurd rfl h⟩
  · obtain ⟨q, h, he⟩ := h3 1 (Nat.le_refl 1) (by omega)
    rw [stepSq_one] at h
    exact ⟨q, h, fun h' => absurd h' e, fun _ => he⟩

/-- **the specification's ray walk**: `t` is reached iff it is the k-th ray square (k ≤ fuel) and the squares
    before it are empty -/
theorem rayGo_iff (b : Board) (t : Sq) (dx dy : Int) (n : Nat) (x y : Int) :
    rayGo b t dx dy n x y = true ↔ ∃ k, k ≤ n ∧ ReachN (fun q => b[q] == 0) x y dx dy k t := by
  induction n generalizing x y with
  | zero =>
    simp only [rayGo, Bool.false_eq_true, false_iff]
    rintro ⟨k, hk, h1, _⟩; omega
  | succ n ih =>
    unfold rayGo
    cases hq : mkSq? (x + dx) (y + dy) with
    | none =>
      simp only [Bool.false_eq_true, false_iff]
      rintro ⟨k, _, hr⟩
      obtain ⟨q, h, _⟩ := reachN_first hr
      rw [hq] at h; cases h
    | some q =>
      simp only
      by_cases e : q = t
      · subst e
        simp only [beq_self_eq_true, if_true, true_iff]
        exact ⟨1, by omega, by omega, by rw [stepSq_one]; exact hq, fun j h1 h2 => by omega⟩
      · rw [if_neg (by simpa using e)]
        cases hb : b[q] != 0
        · have he : (b[q] == 0) = true := by simpa using hb
          simp only [Bool.false_eq_true, if_false]
          rw [ih]
          constructor
          · rintro ⟨k, hk, hr⟩
            exact ⟨k + 1, by omega, (reachN_shift _ x y dx dy k t q hq he hr.1).1 hr⟩
          · rintro ⟨k, hk, hr⟩
            obtain ⟨q', h, h1, _⟩ := reachN_first hr
            rw [hq] at h; cases h
            obtain ⟨k', rfl⟩ : ∃ k', k = k' + 1 := ⟨k - 1, by have := hr.1; omega⟩
            have hk' : 1 ≤ k' := Nat.pos_of_ne_zero fun e0 => e (h1 (by omega))
            exact ⟨k', by omega, (reachN_shift _ x y dx dy k' t q hq he hk').2 hr⟩
        · simp only [if_true, Bool.false_eq_true, false_iff]
          rintro ⟨k, _, hr⟩
          obtain ⟨q', h, h1, h2⟩ := reachN_first hr
          rw [hq] at h; cases h
          by_cases e1 : k = 1
          · exact e (h1 e1)
          · exact bne_iff_ne.1 hb (beq_iff_eq.1 (h2 e1))

/-- the generator's ray walk over an occupancy bitboard is the specification's ray walk over any board with that
    occupancy -/
theorem rayBB_rayGo (occ : BB) (b : Board) (h : ∀ q, tst occ q = (b[q] != 0)) (t : Sq) (dx dy : Int) (n : Nat) (x y : Int) :
    tst (rayBB occ dx dy n x y) t = rayGo b t dx dy n x y := by
  induction n generalizing x y with
  | zero => simp [rayBB, rayGo]
  | succ n ih =>
    unfold rayBB rayGo
    cases hq : mkSq? (x + dx) (y + dy) with
    | none => simp
    | some q =>
      simp only
      rw [← h q]
      by_cases e : q = t
      · subst e
        cases tst occ q <;> simp [tst_sqBit]
      · have e' : (q == t) = false := by simpa using e
        have e2 : ¬ t = q := fun h => e h.symm
        cases ho : tst occ q <;> simp [tst_sqBit, e', e2, ih]

/-- a board with a given occupancy -/
def boardOf (occ : BB) : Board := Vector.ofFn fun i => if tst occ i then WPAWN else EMPTY

theorem boardOf_occ (occ : BB) (q : Sq) : tst occ q = ((boardOf occ)[q] != 0) := by
  simp only [boardOf, Fin.getElem_fin, Vector.getElem_ofFn]
  cases tst occ ⟨q.val, q.isLt⟩ <;> simp [WPAWN, EMPTY]

theorem rayBB_iff (occ : BB) (t : Sq) (dx dy : Int) (n : Nat) (x y : Int) :
    tst (rayBB occ dx dy n x y) t = true ↔ ∃ k, k ≤ n ∧ ReachN (fun q => !tst occ q) x y dx dy k t := by
  rw [rayBB_rayGo occ (boardOf occ) (boardOf_occ occ), rayGo_iff]
  have : (fun q : Sq => (boardOf occ)[q] == 0) = (fun q => !tst occ q) := by
    funext q; rw [boardOf_occ occ q]; cases h : (boardOf occ)[q] == 0 <;> simp_all
  rw [this]

/-- one of the eight king directions -/
def IsDir (dx dy : Int) : Prop := -1 ≤ dx ∧ dx ≤ 1 ∧ -1 ≤ dy ∧ dy ≤ 1 ∧ (dx ≠ 0 ∨ dy ≠ 0)

theorem dir_cases {dx : Int} (h1 : -1 ≤ dx) (h2 : dx ≤ 1) : dx = -1 ∨ dx = 0 ∨ dx = 1 := by omega

/-- `j` unit steps move a coordinate by `0` or `±j`: with this fact in the context a statement about `x + j * d` is
    linear arithmetic (`omega` takes the product as an atom) -/
theorem unit_mul (j : Int) {d : Int} (h1 : -1 ≤ d) (h2 : d ≤ 1) :
    (d = -1 ∧ j * d = -j) ∨ (d = 0 ∧ j * d = 0) ∨ (d = 1 ∧ j * d = j) := by
  rcases dir_cases h1 h2 with rfl | rfl | rfl
  · exact Or.inl ⟨rfl, Int.mul_neg_one j⟩
  · exact Or.inr (Or.inl ⟨rfl, Int.mul_zero j⟩)
  · exact Or.inr (Or.inr ⟨rfl, Int.mul_one j⟩)

theorem stepSq_eq_some (x y dx dy : Int) (j : Nat) (q : Sq) :
    stepSq x y dx dy j = some q ↔ ((q.x : Int) = x + j * dx ∧ (q.y : Int) = y + j * dy) := mkSq?_eq_some _ _ _

/-- a square reached after `k` unit steps from a board square has `k ≤ 7` -/
theorem step_le7 (s t : Sq) (dx dy : Int) (hd : IsDir dx dy) (k : Nat) (h : stepSq s.x s.y dx dy k = some t) : k ≤ 7 := by
  rw [stepSq_eq_some] at h
  have := Sq.x_lt s; have := Sq.y_lt s; have := Sq.x_lt t; have := Sq.y_lt t
  obtain ⟨h1, h2, h3, h4, h5⟩ := hd
  have := unit_mul k h1 h2
  have := unit_mul k h3 h4
  omega

/-- the squares between a board square and the k-th ray square are on the board -/
theorem step_between (s t : Sq) (dx dy : Int) (hd : IsDir dx dy) (k j : Nat) (h : stepSq s.x s.y dx dy k = some t) (hj : j ≤ k) :
    ∃ q, stepSq s.x s.y dx dy j = some q := by
  rw [stepSq_eq_some] at h
  apply Option.isSome_iff_exists.1
  unfold stepSq; rw [mkSq?_isSome]
  obtain ⟨h1, h2, h3, h4, _⟩ := hd
  have hx : 0 ≤ (s.x : Int) + j * dx ∧ (s.x : Int) + j * dx < 8 := by
    have := Sq.x_lt s; have := Sq.x_lt t
    have := unit_mul k h1 h2
    have := unit_mul j h1 h2
    omega
  have hy : 0 ≤ (s.y : Int) + j * dy ∧ (s.y : Int) + j * dy < 8 := by
    have := Sq.y_lt s; have := Sq.y_lt t
    have := unit_mul k h3 h4
    have := unit_mul j h3 h4
    omega
  exact ⟨hx.1, hx.2, hy.1, hy.2⟩

theorem rayReach_iff (b : Board) (s t : Sq) (dx dy : Int) (hd : IsDir dx dy) :
    rayReach b s t dx dy = true ↔ ∃ k, ReachN (fun q => b[q] == 0) s.x s.y dx dy k t := by
  unfold rayReach; rw [rayGo_iff]
  constructor
  · rintro ⟨k, _, h⟩; exact ⟨k, h⟩
  · rintro ⟨k, h⟩; exact ⟨k, step_le7 s t dx dy hd k h.2.1, h⟩

theorem tst_ray_iff (occ : BB) (s t : Sq) (dx dy : Int) (hd : IsDir dx dy) :
    tst (ray occ s dx dy) t = true ↔ ∃ k, ReachN (fun q => !tst occ q) s.x s.y dx dy k t := by
  unfold ray; rw [rayBB_iff]
  constructor
  · rintro ⟨k, _, h⟩; exact ⟨k, h⟩
  · rintro ⟨k, h⟩; exact ⟨k, step_le7 s t dx dy hd k h.2.1, h⟩

theorem ray_eq_rayReach (occ : BB) (b : Board) (h : ∀ q, tst occ q = (b[q] != 0)) (s t : Sq) (dx dy : Int) :
    tst (ray occ s dx dy) t = rayReach b s t dx dy := rayBB_rayGo occ b h t dx dy 7 _ _

theorem rayBB_off (occ : BB) (dx dy : Int) (n : Nat) (x y : Int) (h : mkSq? (x + dx) (y + dy) = none) :
    rayBB occ dx dy n x y = 0 := by
  cases n with
  | zero => rfl
  | succ n => unfold rayBB; rw [h]

theorem rayBB_congr (occ occ' : BB) (dx dy : Int) (n : Nat) (x y : Int)
    (h : ∀ j q, 1 ≤ j → stepSq x y dx dy j = some q → (stepSq x y dx dy (j + 1)).isSome = true → tst occ q = tst occ' q) :
    rayBB occ dx dy n x y = rayBB occ' dx dy n x y := by
  induction n generalizing x y with
  | zero => rfl
  | succ n ih =>
    unfold rayBB
    cases hq : mkSq? (x + dx) (y + dy) with
    | none => rfl
    | some q =>
      simp only
      have hrec : rayBB occ dx dy n (x + dx) (y + dy) = rayBB occ' dx dy n (x + dx) (y + dy) := by
        apply ih
        intro j q' hj h1 h2
        rw [stepSq_shift] at h1 h2
        exact h (j + 1) q' (by omega) h1 h2
      cases hn : mkSq? (x + dx + dx) (y + dy + dy) with
      | none =>
        rw [rayBB_off occ dx dy n _ _ hn, rayBB_off occ' dx dy n _ _ hn]
        have : sqBit q ||| (0 : BB) = sqBit q := by simp
        rw [this]; simp
      | some q2 =>
        have : tst occ q = tst occ' q := by
          apply h 1 q (by omega) (by rw [stepSq_one]; exact hq)
          rw [← stepSq_shift, stepSq_one, hn]; rfl
        rw [this, hrec]

theorem tst_innerRay (s q : Sq) (dx dy : Int) (hd : IsDir dx dy) (j : Nat) (hj : 1 ≤ j)
    (h1 : stepSq s.x s.y dx dy j = some q) (h2 : (stepSq s.x s.y dx dy (j + 1)).isSome = true) :
    tst (innerRay s dx dy) q = true := by
  unfold innerRay
  rw [tst_bbSq, Bool.and_eq_true]
  constructor
  · rw [tst_ray_iff _ _ _ _ _ hd]
    refine ⟨j, hj, h1, ?_⟩
    intro j' _ hj'
    obtain ⟨q', hq'⟩ := step_between s q dx dy hd j j' h1 (by omega)
    exact ⟨q', hq', by simp⟩
  · rw [← stepSq_shift] at h2
    rw [stepSq_eq_some] at h1
    have : stepSq (s.x + dx) (s.y + dy) dx dy j = mkSq? ((q.x : Int) + dx) ((q.y : Int) + dy) := by
      unfold stepSq; rw [h1.1, h1.2]; congr 1 <;> omega
    rw [← this]; exact h2

/-- a ray over `occ` equals the ray over `occ` restricted to any mask containing the inner ray squares -/
theorem ray_inner (occ M : BB) (s : Sq) (dx dy : Int) (hd : IsDir dx dy)
    (hM : ∀ q, tst (innerRay s dx dy) q = true → tst M q = true) :
    ray occ s dx dy = ray (occ &&& M) s dx dy := by
  unfold ray
  apply rayBB_congr
  intro j q hj h1 h2
  rw [tst_and, hM q (tst_innerRay s q dx dy hd j hj h1 h2)]; simp

theorem isDir_rook : IsDir 1 0 ∧ IsDir (-1) 0 ∧ IsDir 0 1 ∧ IsDir 0 (-1) := by unfold IsDir; omega
theorem isDir_bishop : IsDir 1 1 ∧ IsDir 1 (-1) ∧ IsDir (-1) 1 ∧ IsDir (-1) (-1) := by unfold IsDir; omega

/-- **`rookAttacks` depends on the occupancy only through the inner mask** (edge squares never matter) -/
theorem rookAttacks_inner (s : Sq) (occ : BB) : rookAttacks s occ = rookAttacks s (occ &&& rookInner s) := by
  unfold rookAttacks
  obtain ⟨d1, d2, d3, d4⟩ := isDir_rook
  rw [ray_inner occ (rookInner s) s 1 0 d1 (fun q h => by simp [rookInner, h]),
      ray_inner occ (rookInner s) s (-1) 0 d2 (fun q h => by simp [rookInner, h]),
      ray_inner occ (rookInner s) s 0 1 d3 (fun q h => by simp [rookInner, h]),
      ray_inner occ (rookInner s) s 0 (-1) d4 (fun q h => by simp [rookInner, h])]

theorem bishopAttacks_inner (s : Sq) (occ : BB) : bishopAttacks s occ = bishopAttacks s (occ &&& bishopInner s) := by
  unfold bishopAttacks
  obtain ⟨d1, d2, d3, d4⟩ := isDir_bishop
  rw [ray_inner occ (bishopInner s) s 1 1 d1 (fun q h => by simp [bishopInner, h]),
      ray_inner occ (bishopInner s) s 1 (-1) d2 (fun q h => by simp [bishopInner, h]),
      ray_inner occ (bishopInner s) s (-1) 1 d3 (fun q h => by simp [bishopInner, h]),
      ray_inner occ (bishopInner s) s (-1) (-1) d4 (fun q h => by simp [bishopInner, h])]

end Chess.Texel
