import TexelVerif.Chess.TexelGenGivesEp
/-!
`MoveGen::givesCheck` for castling (`gives_castle`) and the theorem for all moves (`givesCheck_eq`, `givesCheck_legal`).
Castling vacates the king's home square and a corner and fills the two squares between; the only new attacker can be
the rook (along the back rank through the vacated home square, or up its file): the fourth block of `givesCheck`.
-/
namespace Chess.Texel
open PosImpl (BB getP getP_eq)

/-- castling towards `σ` (`1` = king side): king `f → t`, rook `r → r'` -/
structure CastleGeo (b b' : Board) (w : Bool) (f t r r' : Sq) (σ : Int) : Prop where
  hσ : σ = 1 ∨ σ = -1
  fx : (f.x : Int) = 4
  fy : (f.y : Int) = (if w then 0 else 7)
  ty : t.y = f.y
  ry : r.y = f.y
  r'y : r'.y = f.y
  r'x : (r'.x : Int) = 4 + σ
  tx : (t.x : Int) = 4 + 2 * σ
  rx : (r.x : Int) = (if σ = 1 then 7 else 0)
  bf : b[f] = (if w then WKING else BKING)
  br : b[r] = (if w then WROOK else BROOK)
  empties : ∀ q : Sq, q.y = f.y → 0 < σ * ((q.x : Int) - 4) → q ≠ r → b[q] = 0
  after : ∀ q : Sq, b'[q] = if q = r' then (if w then WROOK else BROOK) else if q = r then 0
    else if q = t then (if w then WKING else BKING) else if q = f then 0 else b[q]

theorem oking_ne (w : Bool) : (if (!w) then WKING else BKING) ≠ (if w then WKING else BKING) ∧
    (if (!w) then WKING else BKING) ≠ (if w then WROOK else BROOK) ∧ (if (!w) then WKING else BKING) ≠ (0 : Pc) := by
  cases w <;> decide

namespace CastleGeo
variable {b b' : Board} {w : Bool} {f t r r' : Sq} {σ : Int}

theorem distinct (g : CastleGeo b b' w f t r r' σ) : f ≠ t ∧ f ≠ r ∧ f ≠ r' ∧ t ≠ r ∧ t ≠ r' ∧ r ≠ r' := by
  have h1 := g.fx; have h2 := g.tx; have h3 := g.rx; have h4 := g.r'x
  have hne : ∀ a c : Sq, (a.x : Int) ≠ c.x → a ≠ c := fun a c h e => h (by rw [e])
  rcases g.hσ with rfl | rfl <;> simp at h2 h3 h4 <;>
    exact ⟨hne _ _ (by omega), hne _ _ (by omega), hne _ _ (by omega), hne _ _ (by omega), hne _ _ (by omega), hne _ _ (by omega)⟩

theorem change (g : CastleGeo b b' w f t r r' σ) :
    Change b b' w (fun q => q = f ∨ q = r) (fun q => q = t ∨ q = r') := by
  obtain ⟨d1, d2, d3, d4, d5, d6⟩ := g.distinct
  refine ⟨?_, ?_, ?_⟩
  · intro q h1 h2
    have h1' : ¬ (q = f ∨ q = r) := h1
    have h2' : ¬ (q = t ∨ q = r') := h2
    rw [g.after q, if_neg (fun e => h2' (Or.inr e)), if_neg (fun e => h1' (Or.inr e)), if_neg (fun e => h2' (Or.inl e)),
      if_neg (fun e => h1' (Or.inl e))]
  · intro q h1
    have h1' : q = f ∨ q = r := h1
    rcases h1' with e | e
    · subst e; rw [g.after q, if_neg d3, if_neg d2, if_neg d1, if_pos rfl]
    · subst e; rw [g.after q, if_neg d6, if_pos rfl]
  · intro q h1
    have h1' : q = t ∨ q = r' := h1
    rcases h1' with e | e
    · subst e; rw [g.after q, if_neg d5, if_neg d4, if_pos rfl]; exact own_king w
    · subst e; rw [g.after q, if_pos rfl]; exact own_rook w

theorem isDir (g : CastleGeo b b' w f t r r' σ) : IsDir σ 0 := by
  have := g.hσ; unfold IsDir; omega

theorem edge (g : CastleGeo b b' w f t r r' σ) : (f.y : Int) = 0 ∨ (f.y : Int) = 7 := by
  have := g.fy; cases w <;> simp at this <;> omega

/-- the castling side as a ray from the home square: `r'`, `t`, then the corner `r`, where the board ends -/
theorem ray (g : CastleGeo b b' w f t r r' σ) :
    stepSq f.x f.y σ 0 1 = some r' ∧ stepSq f.x f.y σ 0 2 = some t ∧
      (∃ k, 3 ≤ k ∧ stepSq f.x f.y σ 0 k = some r) ∧ ∀ c, stepSq r.x r.y σ 0 1 ≠ some c := by
  have h1 := g.fx; have h2 := g.tx; have h3 := g.rx; have h4 := g.r'x
  have h5 := g.ty; have h6 := g.ry; have h7 := g.r'y
  simp only [stepSq_eq_some, ne_eq, not_and]
  rcases g.hσ with rfl | rfl
  · simp only [if_true] at h3
    refine ⟨⟨by omega, by omega⟩, ⟨by omega, by omega⟩, ⟨3, Nat.le_refl _, by omega, by omega⟩, fun c hc => ?_⟩
    have := Sq.x_lt c; omega
  · rw [if_neg (by decide)] at h3
    refine ⟨⟨by omega, by omega⟩, ⟨by omega, by omega⟩, ⟨4, by omega, by omega, by omega⟩, fun c hc => ?_⟩
    omega

theorem king_off (g : CastleGeo b b' w f t r r' σ) (K : Sq) (hK : KingAt b (!w) K) (l : Nat) :
    stepSq f.x f.y σ 0 l ≠ some K := by
  obtain ⟨n1, n2, n3⟩ := oking_ne w
  intro hl
  have hk := hK.1
  by_cases h0 : l = 0
  · rw [h0, stepSq_zero] at hl
    rw [← Option.some.inj hl, g.bf] at hk; exact n1 hk.symm
  · by_cases e : K = r
    · rw [e, g.br] at hk; exact n2 hk.symm
    · rw [stepSq_eq_some] at hl
      have hfx := g.fx
      have hl' : (1 : Int) ≤ l := by omega
      rw [g.empties K (by omega) (by rcases g.hσ with rfl | rfl <;> omega) e] at hk
      exact n3 hk.symm

theorem rook_dir_cases {σ dx dy : Int} (hσ : σ = 1 ∨ σ = -1) (h : RookD dx dy) :
    (dy = 0 ∧ (σ = dx ∨ -σ = dx)) ∨ (dx = 0 ∧ (dy = 1 ∨ dy = -1)) := by
  unfold RookD at h; omega

theorem rank_dir_cases {σ dx : Int} (hσ : σ = 1 ∨ σ = -1) (h : IsDir dx 0) : σ = dx ∨ -σ = dx := by
  unfold IsDir at h; omega

/-- **castling gives check iff the rook does**, along the back rank through the vacated home square or up its file.
    Of the filled squares the king's cannot attack (`hkk`).  No x-ray through a vacated square: `f` and `r` lie on the
    edge rank, so the line is that rank; beside `f` stands the rook, beside `r` the board ends. -/
theorem attacked_iff (g : CastleGeo b b' w f t r r' σ) (hv : ValidB b) (hv' : ValidB b') (K : Sq) (hK : KingAt b (!w) K)
    (hno : sqAttacked b (!w) K (occBB b) = false) (hkk : kingGeom K t = false) (τ : Int) (hτ : τ = -σ) :
    sqAttacked b' (!w) K (occBB b') = true ↔
      ((∃ n, Seg b f τ 0 n K) ∨ (∃ n, Seg b r' 0 (if w then 1 else -1) n K)) := by
  subst hτ
  have hch := g.change
  obtain ⟨_, _, _, d4, d5, _⟩ := g.distinct
  obtain ⟨hfr', hft, ⟨k, hk3, hfr⟩, hcorner⟩ := g.ray
  have hoff := g.king_off K hK
  have hd := g.isDir
  have hσ := g.hσ
  have hr'f : stepSq r'.x r'.y (-σ) 0 1 = some f := by
    have := stepSq_rev f r' σ 0 1 1 (Nat.le_refl _) hfr'
    rwa [Int.neg_zero, Nat.sub_self, stepSq_zero] at this
  -- not `have : b'[r'] = …`: writing the index out runs the bound tactic in this large context
  have hb'r' := g.after r'
  rw [if_pos rfl] at hb'r'
  have hb't := g.after t
  rw [if_neg d5, if_neg d4, if_pos rfl] at hb't
  have hkr : kind (if w then WROOK else BROOK) = 3 := by cases w <;> rfl
  have hoffrank : ∀ (dy : Int) (l : Nat) (c : Sq), (dy = 1 ∨ dy = -1) → 1 ≤ l → stepSq r'.x r'.y 0 dy l = some c →
      ¬ (c = f ∨ c = t ∨ c = r) := by
    intro dy l c hdy hl hc hcc
    have hd0 : IsDir 0 dy := by unfold IsDir; omega
    have key : ∀ (ex : Int) (i : Nat), (ex = σ ∨ ex = -σ) → 1 ≤ i → stepSq r'.x r'.y ex 0 i = some c → False := by
      intro ex i hex hi h
      have := (dir_unique r'.x r'.y ex 0 0 dy (by unfold IsDir; omega) hd0 l i hl hi c h hc).1
      omega
    rcases hcc with rfl | rfl | rfl
    · exact key (-σ) 1 (Or.inr rfl) (Nat.le_refl _) hr'f
    · exact key σ 1 (Or.inl rfl) (Nat.le_refl _) (by rw [stepSq_from f r' σ 0 1 1 hfr']; exact hft)
    · exact key σ (k - 1) (Or.inl rfl) (by omega) (by
        rw [stepSq_from_sub f r' σ 0 1 k hfr' (by omega)]; exact hfr)
  rw [hch.attacked_iff hv hv' K hno]
  constructor
  · rintro (⟨q, hF, hatk⟩ | ⟨s, dx, dy, n, j, v, hFs, hVs, hso, hsl, hseg, hj1, hjn, hVv, hsv⟩)
    · have hF' : q = t ∨ q = r' := hF
      rcases hF' with e | e
      · subst e
        rw [hb't, atkFrom_king _ _ _ _ (kind_king w), hkk] at hatk; cases hatk
      · subst e
        rw [hb'r'] at hatk
        rcases atkFrom_cases _ _ _ _ hatk with ⟨hk, _⟩ | ⟨hk, _⟩ | ⟨hk, _⟩ | ⟨dx, dy, hsl, hr⟩
        · rw [hkr] at hk; exact absurd hk (by decide)
        · rw [hkr] at hk; exact absurd hk (by decide)
        · rw [hkr] at hk; exact absurd hk (by decide)
        · have hrd : RookD dx dy := by
            rcases hsl with ⟨h, _⟩ | ⟨_, h⟩
            · exact h
            · rw [hkr] at h; rcases h with h | h <;> exact absurd h (by decide)
          obtain ⟨n, hseg⟩ := (tst_ray_seg b' hv' K q dx dy hrd.isDir).1 hr
          rcases rook_dir_cases hσ hrd with ⟨rfl, rfl | rfl⟩ | ⟨rfl, hdy⟩
          · -- the ray from the king passes the home square just before `r'`
            left
            have hfK : stepSq K.x K.y σ 0 (n - 1) = some f := stepSq_diff K f q σ 0 n 1 hseg.step hfr' hseg.pos
            have hn2 : 1 ≤ n - 1 := by
              apply Classical.byContradiction
              intro h
              have e : n - 1 = 0 := by omega
              rw [e, stepSq_zero] at hfK
              exact hoff 0 (by rw [stepSq_zero, Option.some.inj hfK])
            have s1 : Seg b K σ 0 (n - 1) f := hch.seg_before (hseg.pre (n - 1) f hn2 (by omega) hfK)
              (fun l c _ h2 hc hV => by
                have hV' : c = f ∨ c = r := hV
                have hr : stepSq K.x K.y σ 0 (n - 1 + k) = some r := by rw [← stepSq_from K f σ 0 (n - 1) k hfK]; exact hfr
                rcases hV' with e | e <;> subst e
                · have := step_inj _ _ _ _ hd _ _ _ hc hfK; omega
                · have := step_inj _ _ _ _ hd _ _ _ hc hr; omega)
            have s2 := s1.rev
            rw [Int.neg_zero] at s2
            exact ⟨n - 1, s2⟩
          · exfalso
            refine hoff (1 + n) ?_
            rw [← stepSq_from f q σ 0 1 n hfr', ← hseg.rev.step, Int.neg_neg, Int.neg_zero]
          · right
            have s1 := hseg.rev
            rw [Int.neg_zero] at s1
            have hdy' : -dy = 1 ∨ -dy = -1 := by omega
            have s2 : Seg b q 0 (-dy) n K := hch.seg_before s1 (fun l c h1 _ hc hV => by
              have hV' : c = f ∨ c = r := hV
              exact hoffrank (-dy) l c hdy' h1 hc (hV'.imp_right Or.inr))
            have hup : -dy = (if w then 1 else -1) := by
              have hst := (stepSq_eq_some _ _ _ _ _ _).1 s2.step
              have := s2.pos; have := Sq.y_lt K; have := g.fy; have := g.r'y
              cases w <;> simp only [Bool.false_eq_true, if_false, if_true] at * <;>
                rcases hdy' with e | e <;> rw [e] at hst ⊢ <;> omega
            rw [hup] at s2
            exact ⟨n, s2⟩
    · -- no x-ray
      exfalso
      have hVv' : v = f ∨ v = r := hVv
      obtain ⟨c, hc⟩ : ∃ c, stepSq K.x K.y dx dy (j + 1) = some c := by
        rcases Nat.lt_or_ge (j + 1) n with h | h
        · obtain ⟨c, hc, _⟩ := hseg.inner (j + 1) (by omega) h; exact ⟨c, hc⟩
        · have : j + 1 = n := by omega
          rw [this]; exact ⟨s, hseg.step⟩
      have hc' : stepSq v.x v.y dx dy 1 = some c := by rw [stepSq_from K v dx dy j 1 hsv.step]; exact hc
      have hback := hsv.rev.step
      have hvy : (v.y : Int) = 0 ∨ (v.y : Int) = 7 := by
        have := g.edge; have := g.ry
        rcases hVv' with e | e <;> rw [e] <;> omega
      have hdy : dy = 0 := edge_line v K c dx dy j 1 hj1 (Nat.le_refl _) hsl.isDir hvy hback hc'
      subst hdy
      rw [Int.neg_zero] at hback
      rcases hVv' with e | e <;> subst e <;> rcases rank_dir_cases hσ hsl.isDir with e | e <;> subst e
      · -- the next square of the ray is the rook's destination
        have e : r' = c := Option.some.inj (hfr'.symm.trans hc')
        subst e
        rcases Nat.lt_or_ge (j + 1) n with h | h
        · have := hseg.inner_zero (j + 1) r' (by omega) h hc
          rw [hb'r'] at this; exact rook_ne_zero w this
        · have : j + 1 = n := by omega
          rw [this, hseg.step] at hc
          exact hFs (Or.inr (Option.some.inj hc))
      · rw [Int.neg_neg] at hback; exact hoff j hback
      · exact hcorner c hc'
      · rw [Int.neg_neg] at hback
        exact hoff (k + j) (by rw [← stepSq_from f v σ 0 k j hfr]; exact hback)
  · have hrook : ∀ (dx dy : Int) (n : Nat), RookD dx dy → Seg b' r' dx dy n K →
        atkFrom (if w then WROOK else BROOK) (occBB b') r' K = true :=
      fun dx dy n hrd hs => atkFrom_of_slider _ _ _ _ (-dx) (-dy) (Or.inl ⟨rookD_neg hrd, Or.inl hkr⟩)
        ((tst_ray_seg b' hv' K r' _ _ (rookD_neg hrd).isDir).2 ⟨n, hs.rev⟩)
    rintro (⟨n, hs⟩ | ⟨n, hs⟩)
    · refine Or.inl ⟨r', Or.inr rfl, ?_⟩
      rw [hb'r']
      have s1 : Seg b' f (-σ) 0 n K := hch.seg_after hs (fun l c h1 _ hc hF => by
        have hF' : c = t ∨ c = r' := hF
        have key : ∀ i, 1 ≤ i → stepSq f.x f.y σ 0 i = some c → False := by
          intro i hi h
          have := (dir_unique f.x f.y σ 0 (-σ) 0 hd (isDir_neg hd) l i h1 hi c h hc).1
          omega
        rcases hF' with e | e <;> subst e
        · exact key 2 (by omega) hft
        · exact key 1 (Nat.le_refl _) hfr')
      exact hrook (-σ) 0 _ (by unfold RookD; omega) ((seg_one b' r' f (-σ) 0 hr'f).join (hch.vac f (Or.inl rfl)) s1)
    · refine Or.inl ⟨r', Or.inr rfl, ?_⟩
      rw [hb'r']
      have hup : (if w then (1 : Int) else -1) = 1 ∨ (if w then (1 : Int) else -1) = -1 := by cases w <;> simp
      have s1 : Seg b' r' 0 (if w then 1 else -1) n K := hch.seg_after hs (fun l c h1 _ hc hF => by
        have hF' : c = t ∨ c = r' := hF
        rcases hF' with e | e
        · exact hoffrank _ l c hup h1 hc (Or.inr (Or.inl e))
        · rw [e] at hc
          have := step_inj _ _ _ _ (by unfold IsDir; omega) _ _ _ hc (stepSq_zero r' 0 _)
          omega)
      exact hrook 0 _ n (by unfold RookD; omega) s1

/-- the line through the home square would be the back rank, with the enemy king on the side away from the rook, where
    `getDirection` from the king's destination is the same -/
theorem no_disc (g : CastleGeo b b' w f t r r' σ) (K : Sq) (hK : KingAt b (!w) K) : gcDisc b w K f t = false := by
  apply Bool.eq_false_iff.2
  intro h
  obtain ⟨ex, ey, n, i, s, he, hs1, hne, hs2, _⟩ := (gcDisc_iff b w K hK f t).1 h
  obtain ⟨_, hft, _, _⟩ := g.ray
  have hσ := g.hσ
  have hey : ey = 0 := edge_line f s K ex ey i n hs2.pos hs1.pos he g.edge hs2.step hs1.step
  subst hey
  have hex : σ = ex ∨ σ = -ex := by unfold IsDir at he; omega
  rcases hex with rfl | rfl
  · exact g.king_off K hK n hs1.step
  · apply hne
    refine (direction_iff t K ex 0 he).2 ⟨2 + n, by omega, ?_⟩
    have htf : stepSq t.x t.y ex 0 2 = some f := by
      have := stepSq_rev f t (-ex) 0 2 2 (Nat.le_refl _) hft
      rwa [Int.neg_neg, Int.neg_zero, Nat.sub_self, stepSq_zero] at this
    rw [← stepSq_from t f ex 0 2 n htf]; exact hs1.step

end CastleGeo

theorem idx_eq_iff (a q : Sq) (n : Nat) (h : a.val = n) : n = q.val ↔ q = a := by
  subst h; exact ⟨fun e => Fin.ext e.symm, fun e => e ▸ rfl⟩

theorem xy_of_idx (f q : Sq) (d : Int) (hq : (q.val : Int) = f.val + d) (hd : 0 ≤ (f.x : Int) + d ∧ (f.x : Int) + d < 8) :
    (q.x : Int) = f.x + d ∧ q.y = f.y := by
  have := Sq.val_eq f; have := Sq.val_eq q; have := Sq.x_lt q
  omega

theorem idx_of_rank (f q : Sq) (hy : q.y = f.y) : (q.val : Int) = f.val + ((q.x : Int) - f.x) := by
  have := Sq.val_eq f; have := Sq.val_eq q
  omega

/-- from the square indices `Position` works with (home square 4 / 60, the rest relative to it) -/
theorem CastleGeo.of_idx {b b' : Board} {w : Bool} {f t r r' : Sq} {σ : Int}
    (bf : b[f] = (if w then WKING else BKING)) (br : b[r] = (if w then WROOK else BROOK))
    (hemp : ∀ q : Sq, b[q] ≠ 0 → q ≠ r → ∀ i : Int, 1 ≤ i → i ≤ 3 → (q.val : Int) ≠ f.val + i * σ)
    (after : ∀ q : Sq, b'[q] = if q = r' then (if w then WROOK else BROOK) else if q = r then 0
      else if q = t then (if w then WKING else BKING) else if q = f then 0 else b[q])
    (hσ : σ = 1 ∨ σ = -1) (hf : f.val = (if w then 4 else 60)) (ht : (t.val : Int) = f.val + 2 * σ)
    (hr' : (r'.val : Int) = f.val + σ) (hr : (r.val : Int) = f.val + (if σ = 1 then 3 else -4)) :
    CastleGeo b b' w f t r r' σ := by
  have hfxy : (f.x : Int) = 4 ∧ (f.y : Int) = (if w then 0 else 7) := by
    have := Sq.val_eq f; have := Sq.x_lt f
    cases w <;> simp only [Bool.false_eq_true, if_false, if_true] at hf ⊢ <;> omega
  have hfx := hfxy.1
  clear hf
  obtain ⟨tx, ty⟩ := xy_of_idx f t _ ht (by omega)
  obtain ⟨r'x, r'y⟩ := xy_of_idx f r' _ hr' (by omega)
  clear ht hr'
  -- `omega` splits on every `if` it meets: decide the one in `hr` first
  rcases hσ with rfl | rfl
  · rw [if_pos rfl] at hr
    obtain ⟨rx, ry⟩ := xy_of_idx f r _ hr (by omega)
    refine ⟨Or.inl rfl, hfx, hfxy.2, ty, ry, r'y, by omega, by omega, by rw [if_pos rfl]; omega, bf, br, ?_, after⟩
    intro q hy hx hq
    have hqv := idx_of_rank f q hy
    have := Sq.x_lt q
    apply Classical.byContradiction
    intro h0
    exact hemp q h0 hq ((q.x : Int) - 4) (by omega) (by omega) (by omega)
  · rw [if_neg (by decide)] at hr
    obtain ⟨rx, ry⟩ := xy_of_idx f r _ hr (by omega)
    refine ⟨Or.inr rfl, hfx, hfxy.2, ty, ry, r'y, by omega, by omega, by rw [if_neg (by decide)]; omega, bf, br, ?_, after⟩
    intro q hy hx hq
    have hqv := idx_of_rank f q hy
    have hne : (q.x : Int) ≠ 0 := fun e => hq (Sq.ext_xy _ _ (by omega) (hy.trans ry.symm))
    apply Classical.byContradiction
    intro h0
    exact hemp q h0 hq (4 - (q.x : Int)) (by omega) (by omega) (by omega)

theorem home_idx (w : Bool) (n : Nat) (h : n = (if w then 4 else 60)) : 4 ≤ n ∧ n ≤ 60 := by
  cases w <;> simp only [Bool.false_eq_true, if_false, if_true] at h <;> omega

theorem castle_geo_short (p : Pos) (m : Mv) (hp : pseudo p m = true) (hk : kind p.b[m.f] = 1)
    (ht : m.t.val = m.f.val + 2) :
    CastleGeo p.b (apply p m).b p.wtm m.f m.t (sqOff m.f 3) (sqOff m.f 1) 1 ∧ m.promo = 0 := by
  obtain ⟨hpr, hcase⟩ := pseudo_king_val p m hp hk
  have hhc : m.f.val = (if p.wtm then 4 else 60) ∧ castleOk p true = true := by
    rcases hcase with h | h | h
    · omega
    · exact ⟨h.2.1, h.2.2⟩
    · omega
  clear hcase
  obtain ⟨hhome, hco⟩ := hhc
  obtain ⟨_, e1, e2, e3⟩ := castleOk_short p hco
  rw [← hhome] at e1 e2 e3
  have hf4 := home_idx _ _ hhome
  have r1 := sqOff_val m.f 1 (by omega)
  have r3 := sqOff_val m.f 3 (by omega)
  have hbf := king_of_kind _ _ (pseudo_own_f p m hp) hk
  refine ⟨CastleGeo.of_idx hbf ?_ ?_ ?_ (Or.inl rfl) hhome (by omega) (by omega) (by simp only [if_true]; omega), hpr⟩
  · rw [← getP_val p.b (sqOff m.f 3) (m.f.val + 3) (by omega), e3]
  · intro q h0 hne i hi1 hi3 hq
    have hq3 : q.val ≠ m.f.val + 3 := fun e => hne (Fin.ext (by omega))
    have : q.val = m.f.val + 1 ∨ q.val = m.f.val + 2 := by omega
    rcases this with h | h
    · rw [← getP_val p.b q _ h, e1] at h0; exact h0 rfl
    · rw [← getP_val p.b q _ h, e2] at h0; exact h0 rfl
  · intro q
    rw [apply_b_short p m hk hpr ht q]
    simp only [idx_eq_iff (sqOff m.f 1) q (m.f.val + 1) (by omega), idx_eq_iff (sqOff m.f 3) q (m.f.val + 3) (by omega),
      idx_eq_iff m.t q _ rfl, idx_eq_iff m.f q _ rfl, hbf]

theorem castle_geo_long (p : Pos) (m : Mv) (hp : pseudo p m = true) (hk : kind p.b[m.f] = 1)
    (ht : m.t.val + 2 = m.f.val) :
    CastleGeo p.b (apply p m).b p.wtm m.f m.t (sqOff m.f (-4)) (sqOff m.f (-1)) (-1) ∧ m.promo = 0 := by
  obtain ⟨hpr, hcase⟩ := pseudo_king_val p m hp hk
  have hhc : m.f.val = (if p.wtm then 4 else 60) ∧ castleOk p false = true := by
    rcases hcase with h | h | h
    · omega
    · omega
    · exact ⟨h.2.1, h.2.2⟩
  clear hcase
  obtain ⟨hhome, hco⟩ := hhc
  obtain ⟨_, e1, e2, e3, e4⟩ := castleOk_long p hco
  rw [← hhome] at e1 e2 e3 e4
  have hf4 := home_idx _ _ hhome
  have r1 := sqOff_val m.f (-1) (by omega)
  have r4 := sqOff_val m.f (-4) (by omega)
  have hbf := king_of_kind _ _ (pseudo_own_f p m hp) hk
  refine ⟨CastleGeo.of_idx hbf ?_ ?_ ?_ (Or.inr rfl) hhome (by omega) (by omega) (by rw [if_neg (by decide)]; omega), hpr⟩
  · rw [← getP_val p.b (sqOff m.f (-4)) (m.f.val - 4) (by omega), e4]
  · intro q h0 _ i hi1 hi3 hq
    have hi : i = 1 ∨ i = 2 ∨ i = 3 := by omega
    rcases hi with rfl | rfl | rfl
    · rw [← getP_val p.b q (m.f.val - 1) (by omega), e1] at h0; exact h0 rfl
    · rw [← getP_val p.b q (m.f.val - 2) (by omega), e2] at h0; exact h0 rfl
    · rw [← getP_val p.b q (m.f.val - 3) (by omega), e3] at h0; exact h0 rfl
  · intro q
    rw [apply_b_long p m hk hpr ht q]
    simp only [idx_eq_iff (sqOff m.f (-1)) q (m.f.val - 1) (by omega), idx_eq_iff (sqOff m.f (-4)) q (m.f.val - 4) (by omega),
      idx_eq_iff m.t q _ rfl, idx_eq_iff m.f q _ rfl, hbf]

theorem gives_castle (p : Pos) (K : Sq) (H : GcWF p K) (m : Mv) (hp : pseudo p m = true) (hk : kind p.b[m.f] = 1)
    (hkk : kingGeom K m.t = false) (hC : m.t.val = m.f.val + 2 ∨ m.t.val + 2 = m.f.val) :
    sqAttacked (apply p m).b (!p.wtm) K (occBB (apply p m).b) = true ↔ givesCheck p K m = true := by
  have hv := H.valid
  have hK := H.oking
  have hv' := validB_apply p hv m hp
  have hpr : m.promo = 0 := pseudo_nonpawn_promo p m hp (by rw [Pos.at, hk]; decide)
  have hmk : movedKind p m = 1 := (movedKind_of_promo0 p m hpr).trans hk
  have hdirect : gcDirect p.b p.wtm K 1 m.t = false := by
    apply Bool.eq_false_iff.2
    intro h
    simpa using (gcDirect_iff _ _ _ hK _ _).1 h
  have hpromo : gcPromo p.b p.wtm K 1 m.promo m.f m.t = false := by
    apply Bool.eq_false_iff.2
    intro h
    exact ((gcPromo_iff _ _ _ hK _ _ _ _).1 h).1 hpr
  rw [givesCheck_split, hmk, hdirect, hpromo]
  simp only [Bool.false_or, Bool.or_false, beq_self_eq_true, if_true]
  rcases hC with ht | ht
  · obtain ⟨g, _⟩ := castle_geo_short p m hp hk ht
    rw [g.no_disc K hK, Bool.false_or, gcCastle_short _ _ _ hK _ _ ht]
    exact g.attacked_iff hv hv' K hK H.notAttacked hkk (-1) rfl
  · obtain ⟨g, _⟩ := castle_geo_long p m hp hk ht
    rw [g.no_disc K hK, Bool.false_or, gcCastle_long _ _ _ hK _ _ ht]
    exact g.attacked_iff hv hv' K hK H.notAttacked hkk 1 rfl

theorem oking_after (p : Pos) (K : Sq) (H : GcWF p K) (m : Mv) (hp : pseudo p m = true) :
    KingAt (apply p m).b (!p.wtm) K := by
  have hK := H.oking
  have hKt : K ≠ m.t := fun e => not_capture_king p K H m hp e.symm
  have hKf : K ≠ m.f := by
    intro e
    subst e
    have := pseudo_own_f p m hp
    rw [hK.1, own_oking] at this; cases this
  by_cases hE : isEp p m = true
  · obtain ⟨c, g⟩ := ep_geo p m hp H.ep hE
    obtain ⟨hch, _⟩ := change_ep p m c hp hE g
    refine hch.kingAt_after K hK (fun h => ?_) (fun h => hKt h)
    have h' : K = m.f ∨ K = c := h
    rcases h' with e | e
    · exact hKf e
    · have := hK.1; rw [e, g.pc_c] at this
      cases hw : p.wtm <;> rw [hw] at this <;> exact absurd this (by decide)
  · have hE' : isEp p m = false := by simpa using hE
    by_cases hC : kind p.b[m.f] = 1 ∧ (m.t.val = m.f.val + 2 ∨ m.t.val + 2 = m.f.val)
    · obtain ⟨hk, hC⟩ := hC
      have key : ∀ (r r' : Sq) (σ : Int), CastleGeo p.b (apply p m).b p.wtm m.f m.t r r' σ →
          KingAt (apply p m).b (!p.wtm) K := by
        intro r r' σ g
        obtain ⟨_, n2, _⟩ := oking_ne p.wtm
        obtain ⟨hfr', hft, _, _⟩ := g.ray
        refine g.change.kingAt_after K hK (fun h => ?_) (fun h => ?_)
        · have h' : K = m.f ∨ K = r := h
          rcases h' with e | e
          · exact hKf e
          · have := hK.1; rw [e, g.br] at this; exact n2 this.symm
        · have h' : K = m.t ∨ K = r' := h
          rcases h' with e | e
          · exact g.king_off K hK 2 (e ▸ hft)
          · exact g.king_off K hK 1 (e ▸ hfr')
      rcases hC with ht | ht
      · exact key _ _ _ (castle_geo_short p m hp hk ht).1
      · exact key _ _ _ (castle_geo_long p m hp hk ht).1
    · obtain ⟨hch, _⟩ := change_simple p m hp hE' hC
      exact hch.kingAt_after K hK (fun h => hKf h) (fun h => hKt h)

/-- **`MoveGen::givesCheck` is right.**  Position: piece codes 0..12, the opponent has exactly one king, which is not
    attacked, the en-passant square is sane (`GcWF`).  Move: pseudo-legal, and if it is a king move the king does not
    step next to the opponent's king.  Then `givesCheck` returns whether the opponent is in check after the move —
    direct checks, discovered checks, promotions (the new piece looking through the vacated from-square), en passant (both
    vacated squares) and castling (the rook) included. -/
theorem givesCheck_eq (p : Pos) (ok : Sq) (H : GcWF p ok) (m : Mv) (hp : pseudo p m = true)
    (hkk : kind p.b[m.f] = 1 → kingGeom ok m.t = false) :
    givesCheck p ok m = givesCheckSpec p m := by
  unfold givesCheckSpec
  have hv' := validB_apply p H.valid m hp
  rw [inCheck_of_kingAt _ hv' _ ok (oking_after p ok H m hp), Bool.eq_iff_iff]
  symm
  by_cases hE : isEp p m = true
  · exact gives_ep p ok H m hp hE
  · have hE' : isEp p m = false := by simpa using hE
    by_cases hC : kind p.b[m.f] = 1 ∧ (m.t.val = m.f.val + 2 ∨ m.t.val + 2 = m.f.val)
    · exact gives_castle p ok H m hp hC.1 (hkk hC.1) hC.2
    · exact gives_simple p ok H m hp hkk hE' hC

theorem Change.own_kingAt_after {b b' : Board} {w : Bool} {V F : Sq → Prop} (h : Change b b' w V F) (k t : Sq)
    (hk : KingAt b w k) (hVk : V k) (ht : b'[t] = (if w then WKING else BKING))
    (hF : ∀ q, F q → q = t ∨ b'[q] ≠ (if w then WKING else BKING)) : KingAt b' w t := by
  refine ⟨ht, ?_⟩
  intro s hs
  by_cases hV : V s
  · rw [h.vac s hV] at hs; exact absurd hs (zero_ne_king w)
  · by_cases hFs : F s
    · rcases hF s hFs with e | e
      · exact e
      · exact absurd hs e
    · rw [h.other s hV hFs] at hs
      have := hk.2 s hs
      subst this; exact absurd hVk hV

theorem own_king_after (p : Pos) (k : Sq) (hk : KingAt p.b p.wtm k) (m : Mv) (hp : pseudo p m = true)
    (hk1 : kind p.b[m.f] = 1) : KingAt (apply p m).b p.wtm m.t := by
  have hfk : m.f = k := hk.2 _ (king_of_kind _ _ (pseudo_own_f p m hp) hk1)
  subst hfk
  have hE : isEp p m = false := by unfold isEp; rw [Pos.at, hk1]; rfl
  by_cases hC : kind p.b[m.f] = 1 ∧ (m.t.val = m.f.val + 2 ∨ m.t.val + 2 = m.f.val)
  · have key : ∀ (r r' : Sq) (σ : Int), CastleGeo p.b (apply p m).b p.wtm m.f m.t r r' σ →
        KingAt (apply p m).b p.wtm m.t := by
      intro r r' σ g
      obtain ⟨d1, d2, d3, d4, d5, d6⟩ := g.distinct
      refine g.change.own_kingAt_after m.f m.t hk (Or.inl rfl) (by rw [g.after m.t, if_neg d5, if_neg d4, if_pos rfl]) ?_
      intro q hq
      have hq' : q = m.t ∨ q = r' := hq
      rcases hq' with e | e
      · exact Or.inl e
      · right; rw [e, g.after r', if_pos rfl]; exact rook_ne_king p.wtm
    rcases hC.2 with ht | ht
    · exact key _ _ _ (castle_geo_short p m hp hk1 ht).1
    · exact key _ _ _ (castle_geo_long p m hp hk1 ht).1
  · obtain ⟨hch, ht⟩ := change_simple p m hp hE hC
    have hpr : m.promo = 0 := pseudo_nonpawn_promo p m hp (by rw [Pos.at, hk1]; decide)
    refine hch.own_kingAt_after m.f m.t hk rfl ?_ (fun q hq => Or.inl hq)
    rw [ht]; unfold newPc; rw [hpr]; simp only [bne_self_eq_false, Bool.false_eq_true, if_false]; exact hk.1

theorem legal_king_apart (p : Pos) (k ok : Sq) (h1 : GenWF p k) (H : GcWF p ok) (m : Mv) (hl : legalB p m = true)
    (hk1 : kind p.b[m.f] = 1) : kingGeom ok m.t = false := by
  unfold legalB at hl
  simp only [Bool.and_eq_true, Bool.not_eq_true'] at hl
  obtain ⟨hp, hsafe⟩ := hl
  have hv' := validB_apply p H.valid m hp
  have hk' := own_king_after p k h1.king m hp hk1
  have hK' := oking_after p ok H m hp
  rw [inCheck_of_kingAt _ hv' _ m.t hk'] at hsafe
  apply Bool.eq_false_iff.2
  intro hg
  have : sqAttacked (apply p m).b p.wtm m.t (occBB (apply p m).b) = true := by
    rw [sqAttacked_iff]
    refine ⟨ok, by rw [hK'.1]; exact own_king (!p.wtm), ?_⟩
    rw [atkFrom_king _ _ _ _ (by rw [hK'.1]; exact kind_king (!p.wtm)), kingGeom_swap]; exact hg
  rw [this] at hsafe; cases hsafe

/-- **`givesCheck` on legal moves**: for every legal move of a well-formed position, `MoveGen::givesCheck` says whether the
    opponent is in check after the move -/
theorem givesCheck_legal (p : Pos) (k ok : Sq) (h1 : GenWF p k) (H : GcWF p ok) (m : Mv) (hl : legalB p m = true) :
    givesCheck p ok m = givesCheckSpec p m := by
  have hp : pseudo p m = true := legalB_pseudo p m hl
  exact givesCheck_eq p ok H m hp (legal_king_apart p k ok h1 H m hl)

theorem gcWF_of_b (p : Pos) (ok : Sq) (h : gcWFb p ok = true) : GcWF p ok := by
  unfold gcWFb at h
  simp only [Bool.and_eq_true, List.all_eq_true, allSq, List.mem_finRange, true_imp_iff, decide_eq_true_eq, beq_iff_eq,
    Bool.or_eq_true, Bool.not_eq_true', beq_eq_false_iff_ne] at h
  obtain ⟨⟨⟨⟨hv, hk1⟩, hk2⟩, hs⟩, hep⟩ := h
  have e : (if p.wtm = false then WKING else BKING) = (if (!p.wtm) = true then WKING else BKING) := by cases p.wtm <;> rfl
  rw [e] at hk1
  simp only [e] at hk2
  refine ⟨hv, ⟨hk1, ?_⟩, hs, ?_⟩
  · intro s hs'
    rcases hk2 s with h | h
    · exact absurd hs' h
    · exact h
  · constructor
    · intro e he
      rw [he] at hep
      simp only [Bool.and_eq_true, beq_iff_eq] at hep
      exact ⟨hep.1.1, hep.1.2⟩
    · intro e he
      rw [he] at hep
      simp only [Bool.and_eq_true, beq_iff_eq] at hep
      exact hep.2

end Chess.Texel
