import TexelVerif.Chess.TexelGenGcModel
/-!
Boards before and after a move, abstractly (`Change`): some squares are vacated (`V`), some are filled with pieces of the
mover (`F`), nothing else changes.  `Change.attacked_iff`: if the enemy king `K` is not attacked before, it is attacked
afterwards iff a piece on a filled square attacks it, or an unchanged slider sees it along a ray that passes a vacated
square (the first square of the ray which was occupied before).  Plus the geometric facts shared by the three kinds of
moves (ordinary, en passant, castling) in the proof of `givesCheck`.
-/
namespace Chess.Texel
open PosImpl (BB getP getP_eq)

structure Change (b b' : Board) (w : Bool) (V F : Sq → Prop) : Prop where
  other : ∀ q, ¬ V q → ¬ F q → b'[q] = b[q]
  vac : ∀ q, V q → b'[q] = 0
  fill : ∀ q, F q → own w b'[q] = true

/-- an own slider `s` that the move leaves alone sees `K` afterwards, along a ray whose first square occupied before the
    move (`v`) has been vacated -/
@[reducible] def XRay (b b' : Board) (w : Bool) (V F : Sq → Prop) (K : Sq) : Prop :=
  ∃ s dx dy n j v, ¬ F s ∧ ¬ V s ∧ own w b[s] = true ∧ sliderOn b[s] dx dy ∧ Seg b' K dx dy n s ∧
    1 ≤ j ∧ j < n ∧ V v ∧ Seg b K dx dy j v

theorem own_oking (w : Bool) : own w (if (!w) then WKING else BKING) = false := by cases w <;> decide

namespace Change
variable {b b' : Board} {w : Bool} {V F : Sq → Prop}

theorem not_fill_of_zero (h : Change b b' w V F) (q : Sq) (h0 : b'[q] = 0) : ¬ F q := by
  intro hf; have := h.fill q hf; rw [h0, own_zero] at this; cases this

theorem seg_before (h : Change b b' w V F) {a c : Sq} {dx dy : Int} {n : Nat} (hs : Seg b' a dx dy n c)
    (hV : ∀ j q, 1 ≤ j → j < n → stepSq a.x a.y dx dy j = some q → ¬ V q) : Seg b a dx dy n c := by
  refine hs.congr ?_
  intro j q h1 h2 hq h0
  rw [← h.other q (hV j q h1 h2 hq) (h.not_fill_of_zero q h0)]; exact h0

theorem seg_after (h : Change b b' w V F) {a c : Sq} {dx dy : Int} {n : Nat} (hs : Seg b a dx dy n c)
    (hF : ∀ j q, 1 ≤ j → j < n → stepSq a.x a.y dx dy j = some q → ¬ F q) : Seg b' a dx dy n c := by
  refine hs.congr ?_
  intro j q h1 h2 hq h0
  by_cases hv : V q
  · exact h.vac q hv
  · rw [h.other q hv (hF j q h1 h2 hq)]; exact h0

theorem kingAt_after (h : Change b b' w V F) (K : Sq) (hK : KingAt b (!w) K) (hKV : ¬ V K) (hKF : ¬ F K) :
    KingAt b' (!w) K := by
  constructor
  · rw [h.other K hKV hKF]; exact hK.1
  · intro s hs
    have h1 : ¬ V s := by
      intro hv; rw [h.vac s hv] at hs; exact zero_ne_king _ hs
    have h2 : ¬ F s := by
      intro hf; have := h.fill s hf; rw [hs, own_oking] at this; cases this
    rw [h.other s h1 h2] at hs
    exact hK.2 s hs

/-- **when is the enemy king attacked after the move** (it was not attacked before) -/
theorem attacked_iff (h : Change b b' w V F) (hv : ValidB b) (hv' : ValidB b') (K : Sq)
    (hno : sqAttacked b (!w) K (occBB b) = false) :
    sqAttacked b' (!w) K (occBB b') = true ↔
      (∃ t, F t ∧ atkFrom b'[t] (occBB b') t K = true) ∨ XRay b b' w V F K := by
  rw [sqAttacked_iff]
  simp only [Bool.not_not]
  constructor
  · rintro ⟨s, hso, hatk⟩
    by_cases hF : F s
    · exact Or.inl ⟨s, hF, hatk⟩
    · right
      have hVs : ¬ V s := by
        intro hV; rw [h.vac s hV, own_zero] at hso; cases hso
      have e := h.other s hVs hF
      rw [e] at hso hatk
      obtain ⟨dx, dy, n, hsl, hseg, j, v, hj1, hjn, hbv, hsv⟩ := new_attack b b' hv hv' K s _
        (Bool.eq_false_iff.2 fun ha => by
          have : sqAttacked b (!w) K (occBB b) = true := by
            rw [sqAttacked_iff]; simp only [Bool.not_not]; exact ⟨s, hso, ha⟩
          rw [this] at hno; cases hno) hatk
      have hv0 := hseg.inner_zero j v hj1 hjn hsv.step
      have hVv : V v := by
        apply Classical.byContradiction
        intro hnv
        rw [h.other v hnv (h.not_fill_of_zero v hv0)] at hv0
        exact hbv hv0
      exact ⟨s, dx, dy, n, j, v, hF, hVs, hso, hsl, hseg, hj1, hjn, hVv, hsv⟩
  · rintro (⟨t, hF, hatk⟩ | ⟨s, dx, dy, n, j, v, hF, hVs, hso, hsl, hseg, _⟩)
    · exact ⟨t, h.fill t hF, hatk⟩
    · have e := h.other s hVs hF
      refine ⟨s, by rw [e]; exact hso, ?_⟩
      rw [e]
      exact atkFrom_of_slider _ _ _ _ dx dy hsl ((tst_ray_seg b' hv' K s dx dy hsl.isDir).2 ⟨n, hseg⟩)

end Change

theorem on_ray_dir (K t : Sq) (dx dy : Int) (hd : IsDir dx dy) (l : Nat) (hl : 1 ≤ l)
    (h : stepSq K.x K.y dx dy l = some t) : direction t K = (-dy) * 8 + (-dx) := by
  refine (direction_iff t K (-dx) (-dy) (isDir_neg hd)).2 ⟨l, hl, ?_⟩
  rw [stepSq_rev K t dx dy l l (Nat.le_refl _) h, Nat.sub_self, stepSq_zero]

theorem ray_of_dir (K t : Sq) (dx dy : Int) (hd : IsDir dx dy) (h : direction t K = (-dy) * 8 + (-dx)) :
    ∃ l, 1 ≤ l ∧ stepSq K.x K.y dx dy l = some t := by
  obtain ⟨l, hl, hs⟩ := (direction_iff t K (-dx) (-dy) (isDir_neg hd)).1 h
  refine ⟨l, hl, ?_⟩
  have := stepSq_rev t K (-dx) (-dy) l l (Nat.le_refl _) hs
  rw [Int.neg_neg, Int.neg_neg, Nat.sub_self, stepSq_zero] at this
  exact this

theorem stepSq_diff (a c K : Sq) (dx dy : Int) (i j : Nat) (ha : stepSq a.x a.y dx dy i = some K)
    (hc : stepSq c.x c.y dx dy j = some K) (hij : j ≤ i) : stepSq a.x a.y dx dy (i - j) = some c := by
  rw [stepSq_eq_some] at ha hc ⊢
  rw [Int.natCast_sub hij, Int.sub_mul, Int.sub_mul]
  omega

theorem ray_neighbour (K v u s : Sq) (dx dy : Int) (n j : Nat) (hj1 : 1 ≤ j) (hjn : j < n)
    (hv : stepSq K.x K.y dx dy j = some v) (hs : stepSq K.x K.y dx dy n = some s)
    (hu : stepSq v.x v.y dx dy 1 = some u ∨ stepSq u.x u.y dx dy 1 = some v) :
    u = K ∨ u = s ∨ ∃ l, 1 ≤ l ∧ l < n ∧ stepSq K.x K.y dx dy l = some u := by
  rcases hu with h | h
  · have h' : stepSq K.x K.y dx dy (j + 1) = some u := by rw [← stepSq_from K v dx dy j 1 hv]; exact h
    rcases Nat.lt_or_ge (j + 1) n with hlt | hge
    · exact Or.inr (Or.inr ⟨j + 1, by omega, hlt, h'⟩)
    · have e : j + 1 = n := by omega
      rw [e, hs] at h'
      exact Or.inr (Or.inl (Option.some.inj h').symm)
  · have h' := stepSq_diff K u v dx dy j 1 hv h hj1
    rcases Nat.lt_or_ge 1 j with hlt | hge
    · exact Or.inr (Or.inr ⟨j - 1, by omega, by omega, h'⟩)
    · have e : j - 1 = 0 := by omega
      rw [e, stepSq_zero] at h'
      exact Or.inl (Option.some.inj h').symm

theorem rank_nbr_ray (v v' : Sq) (hy : v'.y = v.y) (hx : (v'.x : Int) = v.x + 1 ∨ (v'.x : Int) = v.x - 1) (dx dy : Int)
    (hd : IsDir dx dy) (l : Nat) (hl : 1 ≤ l) (hq : stepSq v.x v.y dx dy l = some v') :
    l = 1 ∧ dy = 0 ∧ dx = (v'.x : Int) - v.x := by
  obtain ⟨e1, e2, e3⟩ := dir_unique v.x v.y dx dy ((v'.x : Int) - v.x) 0 hd (by unfold IsDir; omega) 1 l (Nat.le_refl _) hl v'
    hq ((stepSq_one_iff v v' _ _).2 ⟨by omega, by omega⟩)
  exact ⟨e3.symm, e2, e1⟩

theorem edge_line (v a c : Sq) (dx dy : Int) (i l : Nat) (hi : 1 ≤ i) (hl : 1 ≤ l) (hd : IsDir dx dy)
    (he : (v.y : Int) = 0 ∨ (v.y : Int) = 7) (ha : stepSq v.x v.y (-dx) (-dy) i = some a)
    (hc : stepSq v.x v.y dx dy l = some c) : dy = 0 := by
  rw [stepSq_eq_some] at ha hc
  have := Sq.y_lt a; have := Sq.y_lt c
  have hi' : (1 : Int) ≤ i := by omega
  have hl' : (1 : Int) ≤ l := by omega
  obtain ⟨_, _, a3, a4, _⟩ := hd
  rcases dir_cases a3 a4 with rfl | rfl | rfl
  · simp only [Int.neg_neg, Int.mul_one, Int.mul_neg] at ha hc; omega
  · rfl
  · simp only [Int.mul_one, Int.mul_neg] at ha hc; omega

theorem rookD_neg {dx dy : Int} (h : RookD dx dy) : RookD (-dx) (-dy) := by
  unfold RookD at h ⊢
  rcases h with ⟨rfl, rfl⟩ | ⟨rfl, rfl⟩ | ⟨rfl, rfl⟩ | ⟨rfl, rfl⟩ <;> decide
theorem bishD_neg {dx dy : Int} (h : BishD dx dy) : BishD (-dx) (-dy) := by
  unfold BishD at h ⊢
  rcases h with ⟨rfl, rfl⟩ | ⟨rfl, rfl⟩ | ⟨rfl, rfl⟩ | ⟨rfl, rfl⟩ <;> decide

theorem kindOn_neg {pw : UInt8} {dx dy : Int} (h : kindOn pw dx dy) : kindOn pw (-dx) (-dy) := by
  rcases h with ⟨h, k⟩ | ⟨h, k⟩
  · exact Or.inl ⟨rookD_neg h, k⟩
  · exact Or.inr ⟨bishD_neg h, k⟩

theorem sliderOn_neg {pc : Pc} {dx dy : Int} (h : sliderOn pc dx dy) : sliderOn pc (-dx) (-dy) := kindOn_neg h

theorem eq_pc2 (w : Bool) (p : Pc) (ho : own w p = true) (hk : kind p = 2) : p = pc w 2 :=
  (pc_iff w p ⟨2, by decide⟩ (by decide)).2 ⟨ho, hk⟩
theorem eq_pc3 (w : Bool) (p : Pc) (ho : own w p = true) (hk : kind p = 3) : p = pc w 3 :=
  (pc_iff w p ⟨3, by decide⟩ (by decide)).2 ⟨ho, hk⟩
theorem eq_pc4 (w : Bool) (p : Pc) (ho : own w p = true) (hk : kind p = 4) : p = pc w 4 :=
  (pc_iff w p ⟨4, by decide⟩ (by decide)).2 ⟨ho, hk⟩

theorem pc_own_kind (w : Bool) (p : Pc) :
    (p = pc w 2 → own w p = true ∧ kind p = 2) ∧ (p = pc w 3 → own w p = true ∧ kind p = 3) ∧
    (p = pc w 4 → own w p = true ∧ kind p = 4) :=
  ⟨(pc_iff w p ⟨2, by decide⟩ (by decide)).1, (pc_iff w p ⟨3, by decide⟩ (by decide)).1,
   (pc_iff w p ⟨4, by decide⟩ (by decide)).1⟩

theorem behindOk_of_slider (b : Board) (w : Bool) (s : Sq) (dx dy : Int) (ho : own w b[s] = true)
    (hsl : sliderOn b[s] dx dy) : behindOk b w s dx dy := by
  rcases hsl with ⟨hd, hk | hk⟩ | ⟨hd, hk | hk⟩
  · exact Or.inl ⟨hd, Or.inr (eq_pc3 w _ ho hk)⟩
  · exact Or.inl ⟨hd, Or.inl (eq_pc2 w _ ho hk)⟩
  · exact Or.inr ⟨hd, Or.inr (eq_pc4 w _ ho hk)⟩
  · exact Or.inr ⟨hd, Or.inl (eq_pc2 w _ ho hk)⟩

theorem slider_of_behindOk (b : Board) (w : Bool) (s : Sq) (dx dy : Int) (h : behindOk b w s dx dy) :
    own w b[s] = true ∧ sliderOn b[s] dx dy := by
  obtain ⟨h2, h3, h4⟩ := pc_own_kind w b[s]
  rcases h with ⟨hd, hb | hb⟩ | ⟨hd, hb | hb⟩
  · exact ⟨(h2 hb).1, Or.inl ⟨hd, Or.inr (h2 hb).2⟩⟩
  · exact ⟨(h3 hb).1, Or.inl ⟨hd, Or.inl (h3 hb).2⟩⟩
  · exact ⟨(h2 hb).1, Or.inr ⟨hd, Or.inr (h2 hb).2⟩⟩
  · exact ⟨(h4 hb).1, Or.inr ⟨hd, Or.inl (h4 hb).2⟩⟩

theorem behindOk_neg {b : Board} {w : Bool} {s : Sq} {dx dy : Int} (h : behindOk b w s dx dy) :
    behindOk b w s (-dx) (-dy) := by
  rcases h with ⟨h, k⟩ | ⟨h, k⟩
  · exact Or.inl ⟨rookD_neg h, k⟩
  · exact Or.inr ⟨bishD_neg h, k⟩

/-- case split on a premise without writing it out (a premise with `b[s]` is dear to elaborate) -/
theorem imp_cases {P Q : Prop} (h : P → Q) : (P ∧ Q) ∨ ¬ P :=
  (Classical.em P).imp (fun hp => ⟨hp, h hp⟩) id

theorem step_len_le (f t : Sq) (dx dy : Int) (hd : IsDir dx dy) (c : Nat)
    (hst : (dxy f t).1.natAbs ≤ 1 ∧ (dxy f t).2.natAbs ≤ 1) (h : stepSq f.x f.y dx dy c = some t) : c ≤ 1 := by
  rw [stepSq_eq_some] at h
  unfold dxy at hst
  simp only at hst
  apply Classical.byContradiction
  intro hc
  have h2 : (2 : Int) ≤ c := by omega
  obtain ⟨a1, a2, a3, a4, a5⟩ := hd
  rcases dir_cases a1 a2 with rfl | rfl | rfl <;> rcases dir_cases a3 a4 with rfl | rfl | rfl <;>
    simp only [Int.mul_neg, Int.mul_one, Int.mul_zero] at h <;> omega

/-! ## the move does not jump over the slider it uncovers -/

/-- `f` and `s` lie on a ray from `K` (in this order), the ray is open up to `s` after the move, the to-square is occupied
    after the move and is not `s`: then the to-square does not lie on that ray -/
theorem disc_dir_ne (p : Pos) (m : Mv) (hp : pseudo p m = true)
    (hstep : kind p.b[m.f] = 1 → (dxy m.f m.t).1.natAbs ≤ 1 ∧ (dxy m.f m.t).2.natAbs ≤ 1)
    (b' : Board) (ht' : b'[m.t] ≠ 0) (K s : Sq) (dx dy : Int) (hd : IsDir dx dy) (n j : Nat) (_hj : 1 ≤ j) (hjn : j < n)
    (hf : stepSq K.x K.y dx dy j = some m.f) (hs : Seg b' K dx dy n s) (hst : s ≠ m.t) (hbs : p.b[s] ≠ 0) :
    direction m.t K ≠ (-dy) * 8 + (-dx) := by
  intro e
  obtain ⟨i, hi1, hit⟩ := ray_of_dir K m.t dx dy hd e
  rcases Nat.lt_trichotomy i n with hlt | heq | hgt
  · exact ht' (hs.inner_zero i m.t hi1 hlt hit)
  · subst heq
    have := hs.step; rw [hit] at this
    exact hst (Option.some.inj this).symm
  · have h1 : stepSq m.f.x m.f.y dx dy (i - j) = some m.t := by
      rw [stepSq_from_sub K m.f dx dy j i hf (by omega)]; exact hit
    have h2 : stepSq m.f.x m.f.y dx dy (n - j) = some s := by
      rw [stepSq_from_sub K m.f dx dy j n hf (by omega)]; exact hs.step
    rcases imp_cases hstep with ⟨_, hst⟩ | hk
    · have := step_len_le m.f m.t dx dy hd (i - j) hst h1
      omega
    · exact hbs (no_jump p m hp hk dx dy hd (i - j) (n - j) (by omega) (by omega) h1 s h2)

end Chess.Texel
