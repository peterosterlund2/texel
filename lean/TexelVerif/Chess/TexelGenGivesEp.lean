import TexelVerif.Chess.TexelGenGives
/-!
`MoveGen::givesCheck` for en-passant captures (`gives_ep`): two squares are vacated, the mover's pawn's and the captured
pawn's; a line through either can be uncovered (second block; fourth block, diagonal case), and on a rank through both at
once (fourth block, `case 1:` / `case -1:`).
-/
namespace Chess.Texel
open PosImpl (BB getP getP_eq)

/-- facts about an en-passant capture; `c` is the square of the captured pawn -/
structure EpGeo (p : Pos) (m : Mv) (c : Sq) : Prop where
  cval : c.val = (if p.wtm then m.t.val - 8 else m.t.val + 8)
  pc_c : p.b[c] = pc (!p.wtm) 6
  t0 : p.b[m.t] = 0
  k6 : kind p.b[m.f] = 6
  promo : m.promo = 0
  cy : c.y = m.f.y
  cx : c.x = m.t.x
  tx : (m.t.x : Int) = m.f.x + 1 ∨ (m.t.x : Int) = m.f.x - 1
  ty : (m.t.y : Int) = m.f.y + 1 ∨ (m.t.y : Int) = m.f.y - 1
  csq : c = sqOff m.f ((m.t.x : Int) - m.f.x)

theorem isEp_t0 (p : Pos) (m : Mv) (h : isEp p m = true) : p.b[m.t] = 0 := by
  unfold isEp at h
  simp only [Bool.and_eq_true, beq_iff_eq, bne_iff_ne, ne_eq, Pos.at, Bool.not_eq_true'] at h
  simpa using h.1.2

theorem sqOff_xy (f : Sq) (d : Int) (hb : 0 ≤ (f.x : Int) + d ∧ (f.x : Int) + d < 8) :
    ((sqOff f d).x : Int) = f.x + d ∧ (sqOff f d).y = f.y ∧ ((sqOff f d).val : Int) = f.val + d := by
  have hv := Sq.val_eq f
  have hx := Sq.x_lt f; have hy := Sq.y_lt f
  have h := sqOff_val f d (by omega)
  unfold Sq.x Sq.y at *
  omega

theorem ep_coords (p : Pos) (m : Mv) (hp : pseudo p m = true) (hE : isEp p m = true) :
    (((m.t.x : Int) = m.f.x + 1 ∨ (m.t.x : Int) = m.f.x - 1) ∧ (m.t.y : Int) - m.f.y = (if p.wtm then 1 else -1)) ∧
      promoOk p.wtm m = true := by
  obtain ⟨k6, _, hfx⟩ := isEp_facts p m hE
  unfold pseudo at hp
  simp only [Pos.at, k6, Bool.and_eq_true, Bool.or_eq_true, beq_iff_eq, bne_iff_ne, ne_eq, dxy] at hp
  obtain ⟨_, hprom, hmv⟩ := hp
  have hxx : ¬ ((m.t.x : Int) - m.f.x = 0) := by omega
  rcases hmv with (⟨⟨a, _⟩, _⟩ | ⟨⟨⟨⟨a, _⟩, _⟩, _⟩, _⟩) | ⟨⟨a, b⟩, _⟩
  · exact absurd a hxx
  · exact absurd a hxx
  · exact ⟨⟨by omega, b⟩, hprom⟩

theorem ep_geo (p : Pos) (m : Mv) (hp : pseudo p m = true) (hs : EpSane p) (hE : isEp p m = true) :
    ∃ c, EpGeo p m c := by
  obtain ⟨k6, hep, _⟩ := isEp_facts p m hE
  obtain ⟨⟨hx, hy⟩, hprom⟩ := ep_coords p m hp hE
  have hty := hs.2 m.t hep
  have hok := (hs.1 m.t hep).2
  obtain ⟨cx, cy, cv⟩ := sqOff_xy m.f ((m.t.x : Int) - m.f.x) (by have := Sq.x_lt m.t; omega)
  have hfv := Sq.val_eq m.f; have htv := Sq.val_eq m.t
  have cval : (sqOff m.f ((m.t.x : Int) - m.f.x)).val = (if p.wtm then m.t.val - 8 else m.t.val + 8) := by
    cases hw : p.wtm <;> rw [hw] at hy <;> simp only [Bool.false_eq_true, if_false, if_true] at hy ⊢ <;> omega
  have hpr : m.promo = 0 := by
    unfold promoOk at hprom
    have : (m.t.y == (if p.wtm then 7 else 0)) = false := by
      rw [hty]; cases p.wtm <;> rfl
    simpa [this] using hprom
  refine ⟨_, cval, ?_, isEp_t0 p m hE, k6, hpr, cy, by omega, hx, ?_, rfl⟩
  · rw [← getP_val p.b _ _ cval, hok]; cases p.wtm <;> rfl
  · cases hw : p.wtm <;> rw [hw] at hy <;> simp only [Bool.false_eq_true, if_false, if_true] at hy <;> omega

theorem apply_b_ep (p : Pos) (m : Mv) (hE : isEp p m = true) (hk : kind p.b[m.f] ≠ 1) (hpr : m.promo = 0) (q : Sq) :
    (apply p m).b[q] = if m.t.val = q.val then p.b[m.f] else if m.f.val = q.val then 0
      else if (if p.wtm then m.t.val - 8 else m.t.val + 8) = q.val then 0 else p.b[q] := by
  rw [apply_b, applyB_noncastle p m hk, movedB_get, hE, hpr]
  simp only [bne_self_eq_false, Bool.false_eq_true, if_false, true_and, Pos.at]

theorem change_ep (p : Pos) (m : Mv) (c : Sq) (hp : pseudo p m = true) (hE : isEp p m = true) (g : EpGeo p m c) :
    Change p.b (apply p m).b p.wtm (fun q => q = m.f ∨ q = c) (fun q => q = m.t) ∧ (apply p m).b[m.t] = p.b[m.f] := by
  have hb := apply_b_ep p m hE (by rw [g.k6]; decide) g.promo
  have hft := pseudo_ne p m hp
  have hct : c ≠ m.t := by
    intro e; subst e
    have := g.pc_c; rw [g.t0] at this
    cases hw : p.wtm <;> rw [hw] at this <;> exact absurd this (by decide)
  have ht := hb m.t
  rw [if_pos rfl] at ht
  refine ⟨⟨?_, ?_, ?_⟩, ht⟩
  · intro q h1 h2
    have h1' : ¬ (q = m.f ∨ q = c) := h1
    have h2' : ¬ q = m.t := h2
    rw [hb q, if_neg (fun e => h2' (Fin.ext e.symm)), if_neg (fun e => h1' (Or.inl (Fin.ext e.symm))),
      if_neg (fun e => h1' (Or.inr (Fin.ext (by rw [g.cval]; exact e.symm))))]
  · intro q h1
    have h1' : q = m.f ∨ q = c := h1
    rcases h1' with e | e
    · subst e
      rw [hb m.f, if_neg (fun e => hft (Fin.ext e.symm)), if_pos rfl]
    · subst e
      rw [hb q, if_neg (fun e => hct (Fin.ext e.symm))]
      split
      · rfl
      · rw [if_pos g.cval.symm]
  · intro q h1
    have h1' : q = m.t := h1
    subst h1'; rw [ht]; exact pseudo_own_f p m hp

/-- `A` is the neighbour of `B` in direction `(σ, 0)`, both are vacated; the king is seen from `A` in direction `(σ, 0)`
    and an own rook or queen from `B` in the opposite direction: after the move that piece sees the king -/
theorem xray_of_rank (b b' : Board) (w : Bool) (V F : Sq → Prop) (hch : Change b b' w V F) (K A B s : Sq) (σ : Int)
    (hσ : σ = 1 ∨ σ = -1) (hAB : stepSq A.x A.y (-σ) 0 1 = some B) (hVA : V A) (hVB : V B)
    (hF : ∀ q, F q → q.y ≠ A.y) (hV : ∀ q, V q → q = A ∨ q = B)
    (n i : Nat) (h1 : Seg b A σ 0 n K) (h2 : Seg b B (-σ) 0 i s) (hbs : b[s] = pc w 2 ∨ b[s] = pc w 3) :
    XRay b b' w V F K := by
  have hd' : IsDir (-σ) 0 := by unfold IsDir; omega
  obtain ⟨hso, hsl⟩ := slider_of_behindOk b w s (-σ) 0 (Or.inl ⟨by unfold RookD; omega, hbs⟩)
  have hr := h1.rev
  rw [Int.neg_zero] at hr
  -- all squares involved lie on the rank of `A`
  have hrow : ∀ (X q : Sq) (τ : Int) (l : Nat), X.y = A.y → stepSq X.x X.y τ 0 l = some q → q.y = A.y := by
    intro X q τ l hX hq
    rw [stepSq_eq_some] at hq
    omega
  have hKy : K.y = A.y := hrow A K σ n rfl h1.step
  have hBy : B.y = A.y := hrow A B (-σ) 1 rfl hAB
  have s1 : Seg b' K (-σ) 0 n A := hch.seg_after hr (fun l q _ _ hq hFq => hF q hFq (hrow K q (-σ) l hKy hq))
  have s2 : Seg b' B (-σ) 0 i s := hch.seg_after h2 (fun l q _ _ hq hFq => hF q hFq (hrow B q (-σ) l hBy hq))
  have s3 := (s1.join (hch.vac A hVA) (seg_one b' A B (-σ) 0 hAB)).join (hch.vac B hVB) s2
  have hsA : s ≠ A := by
    intro e
    have := h2.step
    rw [stepSq_from A B (-σ) 0 1 i hAB, e] at this
    have := step_inj _ _ _ _ hd' _ _ _ this (stepSq_zero A (-σ) 0)
    omega
  refine ⟨s, -σ, 0, n + 1 + i, n, A, fun hFs => hF s hFs (hrow B s (-σ) i hBy h2.step), ?_, hso, hsl, s3, h1.pos,
    by omega, hVA, hr⟩
  intro hVs
  rcases hV s hVs with e | e
  · exact hsA e
  · exact (h2.ne hd') e.symm

theorem movedKind_of_promo0 (p : Pos) (m : Mv) (h : m.promo = 0) : movedKind p m = kind p.b[m.f] := by
  unfold movedKind; rw [h]; rfl

theorem direct_pawn (p : Pos) (K : Sq) (hK : KingAt p.b (!p.wtm) K) (m : Mv) (hp : pseudo p m = true)
    (h6 : kind p.b[m.f] = 6) (hpr : m.promo = 0) (occ' : BB) :
    atkFrom p.b[m.f] occ' m.t K = true ↔ gcDirect p.b p.wtm K (movedKind p m) m.t = true := by
  have hiw := isWhite_of_own _ _ (pseudo_own_f p m hp)
  rw [atkFrom_pawn _ _ _ _ h6, hiw, pawnGeom_swap, gcDirect_iff _ _ _ hK, movedKind_of_promo0 p m hpr, h6]
  simp

/-- The ray from the king meets a vacated square `v` first (`v'` is the other).  If it passes `v'` too it is the rank
    through both; else if `v = f` the second block fires; else `v = c` and the ray is a diagonal, for on a rank the
    from-square and on a file the to-square would be the next ray square on one side of `c`. -/
theorem ep_xray_found (p : Pos) (K : Sq) (hK : KingAt p.b (!p.wtm) K) (m : Mv) (hp : pseudo p m = true) (c : Sq)
    (g : EpGeo p m c) (b' : Board) (hch : Change p.b b' p.wtm (fun q => q = m.f ∨ q = c) (fun q => q = m.t))
    (ht : b'[m.t] ≠ 0) (s : Sq) (dx dy : Int) (n j : Nat) (v v' : Sq) (hFs : ¬ s = m.t) (hVs : ¬ (s = m.f ∨ s = c))
    (hso : own p.wtm p.b[s] = true) (hsl : sliderOn p.b[s] dx dy) (hseg : Seg b' K dx dy n s) (hj1 : 1 ≤ j) (hjn : j < n)
    (hvv : v = m.f ∧ v' = c ∨ v = c ∧ v' = m.f) (hsv : Seg p.b K dx dy j v) :
    gcDisc p.b p.wtm K m.f m.t = true ∨ gcEp p.b p.wtm K m.f m.t = true := by
  have hd := hsl.isDir
  have hfown := pseudo_own_f p m hp
  have hcx : (c.x : Int) = m.f.x + 1 ∨ (c.x : Int) = m.f.x - 1 := by rw [g.cx]; exact g.tx
  rw [gcEp_iff p.b p.wtm K hK m.f m.t c g.t0 (by have := g.tx; omega) g.csq g.cy hcx]
  have hrest := hseg.suf j v hjn hsv.step
  have hxy : v'.y = v.y ∧ ((v'.x : Int) = v.x + 1 ∨ (v'.x : Int) = v.x - 1) := by
    rcases hvv with ⟨rfl, rfl⟩ | ⟨rfl, rfl⟩
    · exact ⟨g.cy, hcx⟩
    · exact ⟨g.cy.symm, by omega⟩
  -- a vacated square on the ray beyond `v` is `v'`, not `v`
  have hbeyond : ∀ l q, 1 ≤ l → stepSq v.x v.y dx dy l = some q → (q = m.f ∨ q = c) → q = v' := by
    intro l q h1 hq hV
    have hne : q ≠ v := by
      intro e; rw [e] at hq
      have := step_inj _ _ _ _ hd _ _ _ hq (stepSq_zero v dx dy); omega
    rcases hvv with ⟨rfl, rfl⟩ | ⟨rfl, rfl⟩ <;> rcases hV with e | e <;> first | exact e | exact absurd e hne
  by_cases hin : ∃ l, 1 ≤ l ∧ l < n - j ∧ stepSq v.x v.y dx dy l = some v'
  · -- both vacated squares on the ray: the rank case of the fourth block
    right
    obtain ⟨l, hl1, hl2, hlq⟩ := hin
    obtain ⟨rfl, rfl, hdx⟩ := rank_nbr_ray v v' hxy.1 hxy.2 dx dy hd l hl1 hlq
    have hrest' : Seg p.b v' dx 0 (n - j - 1) s := hch.seg_before (hrest.suf 1 v' hl2 hlq) (fun l q h1 _ hq hV => by
      have hq' : stepSq v.x v.y dx 0 (1 + l) = some q := by rw [← stepSq_from v v' dx 0 1 l hlq]; exact hq
      have e := hbeyond (1 + l) q (by omega) hq' hV
      rw [e] at hq
      have := step_inj _ _ _ _ hd _ _ _ hq (stepSq_zero v' dx 0); omega)
    have hr := hsv.rev
    rw [Int.neg_zero] at hr
    rcases behindOk_of_slider p.b p.wtm s dx 0 hso hsl with ⟨_, hbs⟩ | ⟨h, _⟩
    · refine Or.inr ⟨-dx, v, v', j, n - j - 1, s, by omega, hvv, by rw [Int.neg_neg]; exact hlq, hr, ?_, hbs⟩
      rw [Int.neg_neg]; exact hrest'
    · unfold BishD at h; omega
  · -- only `v` on the ray
    have hrestV : ∀ l q, 1 ≤ l → l < n - j → stepSq v.x v.y dx dy l = some q → ¬ (q = m.f ∨ q = c) :=
      fun l q h1 h2 hq hV => hin ⟨l, h1, h2, hbeyond l q h1 hq hV ▸ hq⟩
    have hrestB : Seg p.b v dx dy (n - j) s := hch.seg_before hrest hrestV
    rcases hvv with ⟨rfl, rfl⟩ | ⟨rfl, rfl⟩
    · -- through the from-square: second block
      exact Or.inl (disc_of_xray p m K hK hp (fun hk => by rw [g.k6] at hk; exact absurd hk (by decide)) _ _ _ hch rfl
        s dx dy n j hFs hso hsl hseg hj1 hjn hsv hrestV)
    · -- through the captured pawn's square: the line must be a diagonal
      right
      rcases isDir_split hd with hr | hb
      · exfalso
        have hKf : m.f ≠ K := by
          intro e; subst e; rw [hK.1, own_oking] at hfown; cases hfown
        by_cases hdy : dy = 0
        · -- rank: the from-square is next to `v` on the ray
          subst hdy
          have hadj : stepSq v.x v.y dx 0 1 = some m.f ∨ stepSq m.f.x m.f.y dx 0 1 = some v := by
            have hcy := g.cy
            simp only [stepSq_one_iff]
            unfold RookD at hr; omega
          rcases ray_neighbour K v m.f s dx 0 n j hj1 hjn hsv.step hseg.step hadj with e | e | ⟨l, h1, h2, hl⟩
          · exact hKf e
          · exact hVs (Or.inl e.symm)
          · rcases Nat.lt_trichotomy l j with hlt | heq | hgt
            · exact own_ne_zero _ _ hfown (hsv.inner_zero l m.f h1 hlt hl)
            · have e : v = m.f := Option.some.inj (hsv.step.symm.trans (heq ▸ hl))
              rw [e] at hcx
              omega
            · refine hrestV (l - j) m.f (by omega) (by omega) ?_ (Or.inl rfl)
              rw [stepSq_from_sub K v dx 0 j l hsv.step (by omega)]; exact hl
        · -- file: the to-square is next to `v` on the ray
          have hdx : dx = 0 := by unfold RookD at hr; omega
          subst hdx
          have hadj : stepSq v.x v.y 0 dy 1 = some m.t ∨ stepSq m.t.x m.t.y 0 dy 1 = some v := by
            have hcxx := g.cx; have hcy := g.cy; have hty := g.ty
            simp only [stepSq_one_iff]
            unfold RookD at hr; omega
          rcases ray_neighbour K v m.t s 0 dy n j hj1 hjn hsv.step hseg.step hadj with e | e | ⟨l, h1, h2, hl⟩
          · have hk1 := hK.1
            rw [← e, g.t0] at hk1
            exact zero_ne_king _ hk1
          · exact hFs e.symm
          · exact ht (hseg.inner_zero l m.t h1 h2 hl)
      · rcases behindOk_of_slider p.b p.wtm s dx dy hso hsl with ⟨h, _⟩ | ⟨_, hbs⟩
        · unfold RookD at h; unfold BishD at hb; omega
        · refine Or.inl ⟨-dx, -dy, j, n - j, s, bishD_neg hb, hsv.rev, ?_, hbs⟩
          rw [Int.neg_neg, Int.neg_neg]; exact hrestB

theorem diag_leaves_file (a q : Sq) (dx dy : Int) (l : Nat) (hb : BishD dx dy) (hl : 1 ≤ l) (hx : a.x = q.x) :
    ¬ stepSq a.x a.y dx dy l = some q := by
  intro hq
  rw [stepSq_eq_some] at hq
  have hl' : (1 : Int) ≤ l := by omega
  have hdx : dx = 1 ∨ dx = -1 := by unfold BishD at hb; omega
  rcases hdx with rfl | rfl <;> simp only [Int.mul_one, Int.mul_neg] at hq <;> omega

theorem ep_xray_of_diag (p : Pos) (K : Sq) (m : Mv) (c : Sq) (g : EpGeo p m c) (b' : Board)
    (hch : Change p.b b' p.wtm (fun q => q = m.f ∨ q = c) (fun q => q = m.t)) (ex ey : Int) (n i : Nat) (s : Sq)
    (hbd : BishD ex ey) (hs1 : Seg p.b c ex ey n K) (hs2 : Seg p.b c (-ex) (-ey) i s)
    (hbs : p.b[s] = pc p.wtm 2 ∨ p.b[s] = pc p.wtm 4) :
    XRay p.b b' p.wtm (fun q => q = m.f ∨ q = c) (fun q => q = m.t) K := by
  have hd := hbd.isDir
  obtain ⟨hso, hsl⟩ := slider_of_behindOk p.b p.wtm s (-ex) (-ey) (Or.inr ⟨bishD_neg hbd, hbs⟩)
  -- the to-square lies on the file of `c`: no diagonal through `c` passes it
  have s1 : Seg b' K (-ex) (-ey) n c := hch.seg_after hs1.rev (fun l q h1 h2 hq hFq => by
    have hFq' : q = m.t := hFq
    refine diag_leaves_file m.t c (-ex) (-ey) (n - l) (bishD_neg hbd) (by omega) g.cx.symm ?_
    rw [stepSq_from_sub K m.t (-ex) (-ey) l n (hFq' ▸ hq) (by omega)]; exact hs1.rev.step)
  have s2 : Seg b' c (-ex) (-ey) i s := hch.seg_after hs2 (fun l q h1 _ hq hFq => by
    have hFq' : q = m.t := hFq
    exact diag_leaves_file c m.t (-ex) (-ey) l (bishD_neg hbd) h1 g.cx (hFq' ▸ hq))
  have hst : ¬ s = m.t := by
    intro e; rw [e, g.t0, own_zero] at hso; cases hso
  have hsf : ¬ s = m.f := by
    intro e
    subst e
    have h6 := g.k6
    rcases hsl with ⟨_, h | h⟩ | ⟨_, h | h⟩ <;> rw [h] at h6 <;> exact absurd h6 (by decide)
  have hsc : ¬ s = c := (hs2.ne (isDir_neg hd)).symm
  exact ⟨s, -ex, -ey, n + i, n, c, hst, fun hV => hV.elim hsf hsc, hso, hsl,
    s1.join (hch.vac c (Or.inr rfl)) s2, hs1.pos, by have := hs2.pos; omega, Or.inr rfl, hs1.rev⟩

theorem gives_ep (p : Pos) (K : Sq) (H : GcWF p K) (m : Mv) (hp : pseudo p m = true) (hE : isEp p m = true) :
    sqAttacked (apply p m).b (!p.wtm) K (occBB (apply p m).b) = true ↔ givesCheck p K m = true := by
  obtain ⟨c, g⟩ := ep_geo p m hp H.ep hE
  obtain ⟨hch, ht⟩ := change_ep p m c hp hE g
  have hK := H.oking
  have hv' := validB_apply p H.valid m hp
  have hfown := pseudo_own_f p m hp
  have hmk : movedKind p m = 6 := (movedKind_of_promo0 p m g.promo).trans g.k6
  have hpromo : gcPromo p.b p.wtm K (movedKind p m) m.promo m.f m.t = false := by
    apply Bool.eq_false_iff.2
    intro h
    exact ((gcPromo_iff _ _ _ hK _ _ _ _).1 h).1 g.promo
  have hdir := direct_pawn p K hK m hp g.k6 g.promo (occBB (apply p m).b)
  rw [hch.attacked_iff H.valid hv' K H.notAttacked, givesCheck_split, hpromo]
  rw [hmk] at hdir ⊢
  simp only [Bool.or_false, Bool.or_eq_true, show ((6 : UInt8) == 1) = false from rfl, Bool.false_eq_true, if_false,
    beq_self_eq_true, if_true]
  constructor
  · rintro (⟨t, hF, hatk⟩ | ⟨s, dx, dy, n, j, v, hFs, hVs, hso, hsl, hseg, hj1, hjn, hVv, hsv⟩)
    · have hF' : t = m.t := hF
      subst hF'
      rw [ht] at hatk
      exact Or.inl (Or.inl (hdir.1 hatk))
    · have hVv' : v = m.f ∨ v = c := hVv
      obtain ⟨v', hvv⟩ : ∃ v', (v = m.f ∧ v' = c ∨ v = c ∧ v' = m.f) := by
        rcases hVv' with e | e
        · exact ⟨c, Or.inl ⟨e, rfl⟩⟩
        · exact ⟨m.f, Or.inr ⟨e, rfl⟩⟩
      rcases ep_xray_found p K hK m hp c g _ hch (by rw [ht]; exact own_ne_zero _ _ hfown) s dx dy n j v v' hFs hVs hso
        hsl hseg hj1 hjn hvv hsv with h | h
      · exact Or.inl (Or.inr h)
      · exact Or.inr h
  · rintro ((h | h) | h)
    · exact Or.inl ⟨m.t, rfl, by rw [ht]; exact hdir.2 h⟩
    · refine Or.inr (xray_of_disc p m K hK hp _ _ _ hch (fun q => Iff.rfl) (Or.inl rfl) ?_ h)
      intro q hq
      have hq' : q = m.f ∨ q = c := hq
      rcases hq' with e | e
      · exact Or.inl e
      · right; rw [e, g.pc_c]; cases p.wtm <;> decide
    · right
      have hcx : (c.x : Int) = m.f.x + 1 ∨ (c.x : Int) = m.f.x - 1 := by rw [g.cx]; exact g.tx
      rcases (gcEp_iff p.b p.wtm K hK m.f m.t c g.t0 (by have := g.tx; omega) g.csq g.cy hcx).1 h with
        ⟨ex, ey, n, i, s, hbd, hs1, hs2, hbs⟩ | ⟨σ, A, B, n, i, s, hσ, hAB, hst, hs1, hs2, hbs⟩
      · exact ep_xray_of_diag p K m c g _ hch ex ey n i s hbd hs1 hs2 hbs
      · have hAy : A.y = m.f.y := by
          rcases hAB with ⟨rfl, _⟩ | ⟨rfl, _⟩
          · rfl
          · exact g.cy
        refine xray_of_rank p.b _ p.wtm _ _ hch K A B s σ hσ hst ?_ ?_ ?_ ?_ n i hs1 hs2 hbs
        · rcases hAB with ⟨rfl, _⟩ | ⟨rfl, _⟩
          · exact Or.inl rfl
          · exact Or.inr rfl
        · rcases hAB with ⟨_, rfl⟩ | ⟨_, rfl⟩
          · exact Or.inr rfl
          · exact Or.inl rfl
        · intro q hq e
          have hq' : q = m.t := hq
          have := g.ty
          rw [hq', hAy] at e
          omega
        · intro q hq
          have hq' : q = m.f ∨ q = c := hq
          rcases hAB with ⟨rfl, rfl⟩ | ⟨rfl, rfl⟩
          · exact hq'
          · exact hq'.symm

end Chess.Texel
