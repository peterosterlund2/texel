import TexelVerif.Chess.TexelGenLegal
/-!
`MoveGen::isLegal` completed (`isLegal_eq`, `isLegal_legalB`): the two fast paths `TexelGenLegal` leaves open.
* `same_ray_safe` (moveGen.cpp:651-652): `getDirection(king, from) == getDirection(king, to)`, so the piece stays on
  its ray and still shields the king; needs `direction_iff` and `no_jump`;
* castling through `!sqAttacked(pos, to, occupied & ~from)` (moveGen.cpp:640-642): `castle_legal`.
-/
namespace Chess.Texel
open PosImpl (BB getP getP_eq)

def dirXY (X Y : Int) : Int :=
  if X == 0 && Y == 0 then 0
  else if X == 0 || Y == 0 || X.natAbs == Y.natAbs then sgn Y * 8 + sgn X
  else if (X.natAbs == 1 && Y.natAbs == 2) || (X.natAbs == 2 && Y.natAbs == 1) then Y * 8 + X
  else 0

theorem direction_eq (a b : Sq) : direction a b = dirXY ((b.x : Int) - a.x) ((b.y : Int) - a.y) := rfl

def rng15 : List Int := (List.range 15).map fun (n : Nat) => (n : Int) - 7
def dirs3 : List Int := [-1, 0, 1]

/-- over all displacements on the board and all eight directions: `getDirection` returns the step `8·dy + dx`
    exactly for the displacements `j·(dx, dy)`, `1 ≤ j ≤ 7` -/
def dirTable : Bool :=
  rng15.all fun X => rng15.all fun Y => dirs3.all fun dx => dirs3.all fun dy =>
    !(dx != 0 || dy != 0) ||
    ((dirXY X Y == dy * 8 + dx) == ((List.range 8).any fun j => decide (1 ≤ j) && X == j * dx && Y == j * dy))

set_option maxRecDepth 100000 in
theorem dirTable_ok : dirTable = true := by decide +kernel

theorem dirXY_iff (X Y dx dy : Int) (hX : -7 ≤ X ∧ X ≤ 7) (hY : -7 ≤ Y ∧ Y ≤ 7) (hd : IsDir dx dy) :
    dirXY X Y = dy * 8 + dx ↔ ∃ j : Nat, 1 ≤ j ∧ X = j * dx ∧ Y = j * dy := by
  have h := dirTable_ok
  unfold dirTable at h
  rw [List.all_eq_true] at h
  have h := h X (by unfold rng15; exact List.mem_map.2 ⟨(X + 7).toNat, List.mem_range.2 (by omega), by omega⟩)
  rw [List.all_eq_true] at h
  have h := h Y (by unfold rng15; exact List.mem_map.2 ⟨(Y + 7).toNat, List.mem_range.2 (by omega), by omega⟩)
  obtain ⟨a1, a2, a3, a4, a5⟩ := hd
  rw [List.all_eq_true] at h
  have h := h dx (by unfold dirs3; rcases dir_cases a1 a2 with rfl | rfl | rfl <;> simp)
  rw [List.all_eq_true] at h
  have h := h dy (by unfold dirs3; rcases dir_cases a3 a4 with rfl | rfl | rfl <;> simp)
  have hnz : (dx != 0 || dy != 0) = true := by
    rcases a5 with a | a
    · simp [a]
    · simp [a]
  rw [hnz] at h
  simp only [Bool.not_true, Bool.false_or, beq_iff_eq] at h
  rw [← beq_iff_eq, h, List.any_eq_true]
  constructor
  · rintro ⟨j, _, hj⟩
    simp only [Bool.and_eq_true, decide_eq_true_eq, beq_iff_eq] at hj
    exact ⟨j, hj.1.1, hj.1.2, hj.2⟩
  · rintro ⟨j, h1, h2, h3⟩
    refine ⟨j, List.mem_range.2 ?_, by simp [h1, h2, h3]⟩
    rcases dir_cases a1 a2 with rfl | rfl | rfl <;> rcases dir_cases a3 a4 with rfl | rfl | rfl <;>
      simp only [Int.mul_neg, Int.mul_one, Int.mul_zero] at h2 h3 <;> omega

theorem Sq.dx_bounds (a b : Sq) : -7 ≤ (b.x : Int) - a.x ∧ (b.x : Int) - a.x ≤ 7 := by
  have := Sq.x_lt a; have := Sq.x_lt b; omega
theorem Sq.dy_bounds (a b : Sq) : -7 ≤ (b.y : Int) - a.y ∧ (b.y : Int) - a.y ≤ 7 := by
  have := Sq.y_lt a; have := Sq.y_lt b; omega

/-- `getDirection(k, t)` is the step of direction `(dx, dy)` iff `t` lies on that ray from `k` -/
theorem direction_iff (k t : Sq) (dx dy : Int) (hd : IsDir dx dy) :
    direction k t = dy * 8 + dx ↔ ∃ j : Nat, 1 ≤ j ∧ stepSq k.x k.y dx dy j = some t := by
  rw [direction_eq, dirXY_iff _ _ _ _ (Sq.dx_bounds k t) (Sq.dy_bounds k t) hd]
  constructor
  · rintro ⟨j, h1, h2, h3⟩; exact ⟨j, h1, (stepSq_eq_some _ _ _ _ _ _).2 ⟨by omega, by omega⟩⟩
  · rintro ⟨j, h1, h2⟩
    rw [stepSq_eq_some] at h2
    exact ⟨j, h1, by omega, by omega⟩

theorem unit_mul_eq {i j : Nat} (hi : 1 ≤ i) (hj : 1 ≤ j) {d e : Int} (d1 : -1 ≤ d) (d2 : d ≤ 1) (e1 : -1 ≤ e) (e2 : e ≤ 1)
    (h : (j : Int) * d = i * e) : d = e ∧ (d ≠ 0 → i = j) := by
  have := unit_mul j d1 d2
  have := unit_mul i e1 e2
  omega

/-- two rays from one square that meet (after at least one step each) are the same ray -/
theorem dir_unique (x y dx dy ex ey : Int) (hd : IsDir dx dy) (he : IsDir ex ey) (i j : Nat) (hi : 1 ≤ i) (hj : 1 ≤ j) (q : Sq)
    (h1 : stepSq x y dx dy j = some q) (h2 : stepSq x y ex ey i = some q) : dx = ex ∧ dy = ey ∧ i = j := by
  rw [stepSq_eq_some] at h1 h2
  obtain ⟨a1, a2, a3, a4, a5⟩ := hd
  obtain ⟨b1, b2, b3, b4, _⟩ := he
  obtain ⟨hx, hxn⟩ := unit_mul_eq hi hj a1 a2 b1 b2 (by omega)
  obtain ⟨hy, hyn⟩ := unit_mul_eq hi hj a3 a4 b3 b4 (by omega)
  exact ⟨hx, hy, a5.elim hxn hyn⟩

theorem stepSq_from (k f : Sq) (dx dy : Int) (j c : Nat) (hf : stepSq k.x k.y dx dy j = some f) :
    stepSq f.x f.y dx dy c = stepSq k.x k.y dx dy (j + c) := by
  rw [stepSq_eq_some] at hf
  unfold stepSq
  rw [hf.1, hf.2, Int.natCast_add, Int.add_mul, Int.add_mul]
  congr 1 <;> omega

/-- stated for `n - j`: closing `stepSq .. (j + (n - j)) = stepSq .. n` by `congr` is very slow to elaborate -/
theorem stepSq_from_sub (k f : Sq) (dx dy : Int) (j n : Nat) (hf : stepSq k.x k.y dx dy j = some f) (hjn : j ≤ n) :
    stepSq f.x f.y dx dy (n - j) = stepSq k.x k.y dx dy n := by
  rw [stepSq_from k f dx dy j (n - j) hf, Nat.add_sub_cancel' hjn]

theorem isDir_dirs8 : ∀ dd ∈ dirs8, IsDir dd.1 dd.2 := by
  intro dd h; rw [dirs8, List.mem_append] at h
  exact h.elim (isDir_rookDirs dd) (isDir_bishDirs dd)

theorem slider_no_jump (b : Board) (f t s : Sq) (dirs : List (Int × Int)) (hdirs : ∀ dd ∈ dirs, IsDir dd.1 dd.2)
    (h : (dirs.any fun dd => rayReach b f t dd.1 dd.2) = true) (dx dy : Int) (hd : IsDir dx dy) (c i : Nat)
    (hi1 : 1 ≤ i) (hic : i < c) (hc : stepSq f.x f.y dx dy c = some t) (hs : stepSq f.x f.y dx dy i = some s) :
    b[s] = 0 := by
  rw [List.any_eq_true] at h
  obtain ⟨dd, hmem, hr⟩ := h
  rw [rayReach_iff _ _ _ _ _ (hdirs dd hmem)] at hr
  obtain ⟨c', hR⟩ := hr
  obtain ⟨e1, e2, e3⟩ := dir_unique _ _ _ _ _ _ hd (hdirs dd hmem) c' c hR.1 (by omega) t hc hR.2.1
  subst e3
  rw [← e1, ← e2] at hR
  obtain ⟨q, hq, he⟩ := hR.2.2 i hi1 hic
  rw [hs] at hq
  cases hq
  exact beq_iff_eq.1 he

/-- a pseudo-legal move of a piece other than the king along a line does not pass an occupied square -/
theorem no_jump (p : Pos) (m : Mv) (hp : pseudo p m = true) (hk : kind p.b[m.f] ≠ 1) (dx dy : Int) (hd : IsDir dx dy)
    (c i : Nat) (hi1 : 1 ≤ i) (hic : i < c) (hc : stepSq m.f.x m.f.y dx dy c = some m.t) (s : Sq)
    (hs : stepSq m.f.x m.f.y dx dy i = some s) : p.b[s] = 0 := by
  have hc' := (stepSq_eq_some _ _ _ _ _ _).1 hc
  have ucx := unit_mul c hd.1 hd.2.1
  have ucy := unit_mul c hd.2.2.1 hd.2.2.2.1
  unfold pseudo at hp
  simp only [Bool.and_eq_true, Pos.at] at hp
  obtain ⟨_, hmv⟩ := hp
  split at hmv
  · -- pawn: a single step and a capture have `c = 1`; the double step passes the square the rule asks to be empty
    have hfw : (if p.wtm = true then (1 : Int) else -1) = 1 ∨ (if p.wtm = true then (1 : Int) else -1) = -1 := by
      cases p.wtm
      · exact Or.inr rfl
      · exact Or.inl rfl
    generalize (if p.wtm = true then (1 : Int) else -1) = fwd at hmv hfw
    simp only [Bool.and_eq_true, Bool.or_eq_true, beq_iff_eq, dxy] at hmv
    obtain ⟨_, hmv⟩ := hmv
    rcases hmv with (⟨⟨h1, h2⟩, _⟩ | ⟨⟨⟨⟨h1, h2⟩, _⟩, _⟩, h5⟩) | ⟨⟨h1, h2⟩, _⟩
    · clear ucx; omega
    · split at h5
      · rename_i q hq
        rw [mkSq?_eq_some] at hq
        have hi : i = 1 := by clear ucx; omega
        subst hi
        rw [stepSq_eq_some, Int.natCast_one, Int.one_mul, Int.one_mul] at hs
        have : q = s := Sq.ext_xy q s (by clear ucy; omega) (by clear ucx; omega)
        subst this
        exact beq_iff_eq.1 h5
      · cases h5
    · clear ucx; omega
  · rename_i h1; exact absurd h1 hk
  · simp only [Bool.and_eq_true] at hmv
    obtain ⟨_, hat⟩ := hmv
    unfold attacks at hat
    simp only at hat
    split at hat
    · rename_i h1; exact absurd h1 hk
    · -- a knight's jump is not a multiple of a unit step
      simp only [Bool.or_eq_true, Bool.and_eq_true, beq_iff_eq, dxy] at hat
      omega
    · rename_i h6 _ _ _ heq; exact absurd heq h6
    · exact slider_no_jump p.b m.f m.t s rookDirs isDir_rookDirs hat dx dy hd c i hi1 hic hc hs
    · exact slider_no_jump p.b m.f m.t s bishDirs isDir_bishDirs hat dx dy hd c i hi1 hic hc hs
    · exact slider_no_jump p.b m.f m.t s dirs8 isDir_dirs8 hat dx dy hd c i hi1 hic hc hs
    · cases hat

theorem visible_iff (occ : BB) (k s : Sq) : Visible occ k s ↔ ∃ dx dy, IsDir dx dy ∧ tst (ray occ k dx dy) s = true := by
  constructor
  · rintro (h | h)
    · obtain ⟨dx, dy, hd, h⟩ := (tst_rook_iff k s occ).1 h; exact ⟨dx, dy, hd.isDir, h⟩
    · obtain ⟨dx, dy, hd, h⟩ := (tst_bishop_iff k s occ).1 h; exact ⟨dx, dy, hd.isDir, h⟩
  · rintro ⟨dx, dy, hd, h⟩; exact visible_of_ray occ k s dx dy hd h

/-- not in check, the moved piece is seen from the king along a ray and moves along that ray (moveGen.cpp:651-652) -/
theorem same_ray_safe (p : Pos) (k : Sq) (hv : ValidB p.b) (hk : KingAt p.b p.wtm k) (m : Mv) (hp : pseudo p m = true)
    (hchk : Chess.inCheck p.b p.wtm = false) (hfk : m.f ≠ k) (hep : p.ep ≠ some m.t)
    (hdir : direction k m.f = direction k m.t) (hvis : Visible (occBB p.b) k m.f) : safeAfter p m = true := by
  unfold safeAfter
  obtain ⟨hs, hk'⟩ := simple_of_pseudo p m hp k hk hfk hep
  have hv' := validB_apply p hv m hp
  rw [inCheck_of_kingAt _ hv' _ k hk']
  rw [inCheck_of_kingAt _ hv _ k hk] at hchk
  obtain ⟨dx, dy, hd, hfray⟩ := (visible_iff _ _ _).1 hvis
  obtain ⟨j, hRf⟩ := (tst_ray_iff _ _ _ _ _ hd).1 hfray
  have hdf : direction k m.f = dy * 8 + dx := (direction_iff k m.f dx dy hd).2 ⟨j, hRf.1, hRf.2.1⟩
  obtain ⟨j', hj'1, hj't⟩ := (direction_iff k m.t dx dy hd).1 (hdir ▸ hdf)
  suffices h : sqAttacked (apply p m).b p.wtm k (occBB (apply p m).b) = false by rw [h]; rfl
  apply Bool.eq_false_iff.2
  intro ha
  rw [sqAttacked_iff] at ha
  obtain ⟨s, hso, hatk⟩ := ha
  obtain ⟨hsf, hst, e⟩ := hs.enemy_after s hso
  have hocc_s : tst (occBB (apply p m).b) s = true := by
    rw [tst_occBB _ hv']; exact bne_iff_ne.2 (own_ne_zero _ _ hso)
  have : sqAttacked p.b p.wtm k (occBB p.b) = true := by
    rw [sqAttacked_iff]
    refine ⟨s, by rw [← e]; exact hso, ?_⟩
    rw [← e]
    apply atkFrom_transfer _ _ _ _ _ _ hatk
    intro ex ey he hr
    apply ray_transfer _ _ _ _ _ _ he hr
    intro q hqs hqv hqe
    have hqt : q ≠ m.t := by intro e; subst e; rw [hs.occ_t' hv'] at hqe; cases hqe
    by_cases hqf : q = m.f
    · exfalso
      subst hqf
      -- the ray towards `s` passes the from-square: it is the ray of the moved piece
      obtain ⟨i, hRi⟩ := (tst_ray_iff _ _ _ _ _ he).1 hqv
      obtain ⟨e1, e2, e3⟩ := dir_unique _ _ _ _ _ _ hd he i j hRi.1 hRf.1 _ hRf.2.1 hRi.2.1
      subst e1; subst e2; subst e3
      obtain ⟨n, hRs⟩ := (tst_ray_iff _ _ _ _ _ hd).1 hr
      -- order along the ray: from-square (i) < attacker (n) < to-square (j')
      have hin : i < n := by
        rcases Nat.lt_trichotomy i n with h | h | h
        · exact h
        · subst h; have h' := hRs.2.1; rw [hRi.2.1] at h'; exact absurd (Option.some.inj h') hsf.symm
        · obtain ⟨q', hq', hemp⟩ := hRi.2.2 n hRs.1 h
          rw [hRs.2.1] at hq'; cases hq'
          have hemp' : (!tst (occBB (apply p m).b) s) = true := hemp
          rw [hocc_s] at hemp'; cases hemp'
      have hnj : n < j' := by
        rcases Nat.lt_trichotomy n j' with h | h | h
        · exact h
        · subst h; have h' := hj't; rw [hRs.2.1] at h'; exact absurd (Option.some.inj h') hst
        · obtain ⟨q', hq', hemp⟩ := hRs.2.2 j' hj'1 h
          rw [hj't] at hq'; cases hq'
          have hemp' : (!tst (occBB (apply p m).b) m.t) = true := hemp
          rw [hs.occ_t' hv'] at hemp'; cases hemp'
      have h1 : stepSq m.f.x m.f.y dx dy (j' - i) = some m.t := by
        rw [stepSq_from_sub k m.f dx dy i j' hRi.2.1 (by omega)]; exact hj't
      have h2 : stepSq m.f.x m.f.y dx dy (n - i) = some s := by
        rw [stepSq_from_sub k m.f dx dy i n hRi.2.1 (by omega)]; exact hRs.2.1
      have := no_jump p m hp (fun h1 => hfk (hk.2 _ (king_of_kind _ _ (pseudo_own_f p m hp) h1))) dx dy hd (j' - i) (n - i) (by omega) (by omega) h1 s h2
      rw [e, this, own_zero] at hso; cases hso
    · rw [← hs.occ_other hv hv' q hqf hqt]; exact hqe
  rw [this] at hchk; cases hchk

/-- refined transfer: the ray claim is needed only for a slider that moves along that ray -/
theorem atkFrom_transfer' (pc : Pc) (occ1 occ2 : BB) (s k : Sq)
    (hray : ∀ dx dy, IsDir dx dy →
      ((RookD dx dy ∧ (kind pc = 3 ∨ kind pc = 2)) ∨ (BishD dx dy ∧ (kind pc = 4 ∨ kind pc = 2))) →
      tst (ray occ1 k dx dy) s = true → tst (ray occ2 k dx dy) s = true)
    (h : atkFrom pc occ1 s k = true) : atkFrom pc occ2 s k = true := by
  have hr : (kind pc = 3 ∨ kind pc = 2) → tst (rookAttacks k occ1) s = true → tst (rookAttacks k occ2) s = true := by
    intro hk
    rw [tst_rook_iff, tst_rook_iff]
    rintro ⟨dx, dy, hd, h⟩; exact ⟨dx, dy, hd, hray dx dy hd.isDir (Or.inl ⟨hd, hk⟩) h⟩
  have hb : (kind pc = 4 ∨ kind pc = 2) → tst (bishopAttacks k occ1) s = true → tst (bishopAttacks k occ2) s = true := by
    intro hk
    rw [tst_bishop_iff, tst_bishop_iff]
    rintro ⟨dx, dy, hd, h⟩; exact ⟨dx, dy, hd, hray dx dy hd.isDir (Or.inr ⟨hd, hk⟩) h⟩
  unfold atkFrom at h ⊢
  split <;> rename_i hk <;> simp only [hk] at h
  · exact h
  · exact h
  · exact h
  · exact hr (Or.inl hk) h
  · exact hb (Or.inl hk) h
  · rw [Bool.or_eq_true] at h ⊢
    exact h.imp (hr (Or.inr hk)) (hb (Or.inr hk))
  · exact h

/-- the squares of the back rank from the king's home file to the corner the rook comes from
    (`dI` = direction from the king's destination back to its home square: -1 for O-O, +1 for O-O-O) -/
def Zone (f : Sq) (dI : Int) (q : Sq) : Prop := q.y = f.y ∧ (dI = -1 → 4 ≤ q.x) ∧ (dI = 1 → q.x ≤ 4)

/-- a ray from the king's destination towards a square outside the zone is the same over two occupancies that
    agree outside the zone, provided that on the way back to the home square either the next square is occupied
    (the rook after castling) or the king has been lifted off and no rook ray from the home square reaches `s` -/
theorem castle_ray (occA occB occ : BB) (f t s : Sq) (dI : Int) (hdI : dI = 1 ∨ dI = -1)
    (hfy : t.y = f.y) (hfx : f.x = 4) (htx : (t.x : Int) = 4 - 2 * dI)
    (hs : ¬ Zone f dI s)
    (hO : ∀ q, ¬ Zone f dI q → tst occA q = tst occB q) (dx dy : Int)
    (hin : (∀ q : Sq, q.y = f.y → (q.x : Int) = 4 - dI → tst occA q = true) ∨
           ((∀ q, q ≠ f → tst occA q = tst occ q) ∧ (dy = 0 → tst (ray occ f dI 0) s = false)))
    (hd : IsDir dx dy) (h : tst (ray occA t dx dy) s = true) : tst (ray occB t dx dy) s = true := by
  rw [tst_ray_iff _ _ _ _ _ hd] at h ⊢
  obtain ⟨n, hR⟩ := h
  by_cases hz : ∃ j q, 1 ≤ j ∧ j < n ∧ stepSq t.x t.y dx dy j = some q ∧ Zone f dI q
  · exfalso
    obtain ⟨j, q, hj1, hjn, hq, hzq⟩ := hz
    have hq' := (stepSq_eq_some _ _ _ _ _ _).1 hq
    have hs' := (stepSq_eq_some _ _ _ _ _ _).1 hR.2.1
    have hsx := Sq.x_lt s; have hqx := Sq.x_lt q
    obtain ⟨a1, a2, a3, a4, a5⟩ := hd
    have hdy : dy = 0 := by
      have := hzq.1
      rcases dir_cases a3 a4 with rfl | rfl | rfl <;> simp only [Int.mul_neg, Int.mul_one, Int.mul_zero] at hq' <;> omega
    subst hdy
    have hin : (∀ q : Sq, q.y = f.y → (q.x : Int) = 4 - dI → tst occA q = true) ∨
           ((∀ q, q ≠ f → tst occA q = tst occ q) ∧ tst (ray occ f dI 0) s = false) :=
      hin.imp id (fun h => ⟨h.1, h.2 rfl⟩)
    simp only [Int.mul_zero, Int.add_zero] at hq' hs'
    have hdx : dx = dI ∨ dx = -dI := by omega
    rcases hdx with rfl | rfl
    · -- towards the home square
      rcases hin with hin | ⟨hin1, hin2⟩
      · obtain ⟨q1, hq1, hemp⟩ := hR.2.2 1 (Nat.le_refl _) (by omega)
        have hq1' := (stepSq_eq_some _ _ _ _ _ _).1 hq1
        have : tst occA q1 = true := hin q1 (by simp at hq1'; omega) (by simp at hq1'; omega)
        have hemp' : (!tst occA q1) = true := hemp
        rw [this] at hemp'; cases hemp'
      · have hn3 : 3 ≤ n := by
          unfold Zone at hs
          rcases hdI with rfl | rfl <;> simp at hs' <;> omega
        have hf2 : stepSq t.x t.y dx 0 2 = some f := by
          rw [stepSq_eq_some]
          rcases hdI with rfl | rfl <;> simp <;> omega
        have : tst (ray occ f dx 0) s = true := by
          rw [tst_ray_iff _ _ _ _ _ ⟨a1, a2, a3, a4, a5⟩]
          refine ⟨n - 2, by omega, ?_, ?_⟩
          · rw [stepSq_from_sub t f dx 0 2 n hf2 (by omega)]; exact hR.2.1
          · intro c hc1 hc2
            obtain ⟨q', hq', hemp⟩ := hR.2.2 (2 + c) (by omega) (by omega)
            refine ⟨q', by rw [stepSq_from t f dx 0 2 c hf2]; exact hq', ?_⟩
            have hne : q' ≠ f := by
              intro e; subst e
              have := step_inj _ _ _ _ ⟨a1, a2, a3, a4, a5⟩ _ _ _ hq' hf2
              omega
            have hemp' : (!tst occA q') = true := hemp
            rw [hin1 q' hne] at hemp'; exact hemp'
        rw [this] at hin2; cases hin2
    · -- away from the home square: everything up to the edge of the board is in the zone
      apply hs
      unfold Zone
      rcases hdI with rfl | rfl <;> simp at hs' <;> omega
  · refine ⟨n, reachN_congr _ _ _ _ _ _ _ _ hR ?_⟩
    intro j q hj1 hjn hq he
    have hnz : ¬ Zone f dI q := fun hzq => hz ⟨j, q, hj1, hjn, hq, hzq⟩
    rw [← hO q hnz]; exact he

/-- `B1`/`B2`: the boards agree outside the zone and hold no enemy piece inside it; `O`/`O1`: likewise the occupancies,
    `occ1` being `b`'s without the king; `O2`: after castling the rook stands next to `t`; `C`: not in check -/
theorem castle_sqAttacked (b b' : Board) (w : Bool) (f t : Sq) (occ1 occ2 : BB) (dI : Int)
    (B1 : ∀ q, ¬ Zone f dI q → b'[q] = b[q])
    (B2 : ∀ q, Zone f dI q → own (!w) b[q] = false ∧ own (!w) b'[q] = false)
    (hdI : dI = 1 ∨ dI = -1) (hfy : t.y = f.y) (hfx : f.x = 4) (htx : (t.x : Int) = 4 - 2 * dI)
    (O : ∀ q, ¬ Zone f dI q → tst occ1 q = tst occ2 q)
    (O1 : ∀ q, q ≠ f → tst occ1 q = tst (occBB b) q)
    (O2 : ∀ q : Sq, q.y = f.y → (q.x : Int) = 4 - dI → tst occ2 q = true)
    (C : sqAttacked b w f (occBB b) = false) :
    sqAttacked b w t occ1 = sqAttacked b' w t occ2 := by
  have hdir : IsDir dI 0 := by unfold IsDir; omega
  have hrd : RookD dI 0 := hdI.elim (fun e => Or.inl ⟨e, rfl⟩) fun e => Or.inr (Or.inl ⟨e, rfl⟩)
  rw [Bool.eq_iff_iff, sqAttacked_iff, sqAttacked_iff]
  constructor
  · rintro ⟨s, hso, hatk⟩
    have hnz : ¬ Zone f dI s := fun hz => by rw [(B2 s hz).1] at hso; cases hso
    have e := B1 s hnz
    refine ⟨s, by rw [e]; exact hso, ?_⟩
    rw [e]
    apply atkFrom_transfer' _ _ _ _ _ _ hatk
    intro dx dy hd hkind
    apply castle_ray occ1 occ2 (occBB b) f t s dI hdI hfy hfx htx hnz O dx dy _ hd
    refine Or.inr ⟨O1, ?_⟩
    intro hdy
    apply Bool.eq_false_iff.2
    intro hr
    have hra := (tst_rook_iff f s (occBB b)).2 ⟨dI, 0, hrd, hr⟩
    refine Bool.eq_false_iff.1 C ?_
    rw [sqAttacked_iff]
    refine ⟨s, hso, ?_⟩
    unfold atkFrom
    rcases hkind with ⟨_, h | h⟩ | ⟨hb, _⟩
    · rw [h]; simp [hra]
    · rw [h]; simp [hra]
    · rcases hb with ⟨_, h⟩ | ⟨_, h⟩ | ⟨_, h⟩ | ⟨_, h⟩ <;> omega
  · rintro ⟨s, hso, hatk⟩
    have hnz : ¬ Zone f dI s := fun hz => by rw [(B2 s hz).2] at hso; cases hso
    have e := B1 s hnz
    refine ⟨s, by rw [← e]; exact hso, ?_⟩
    rw [← e]
    apply atkFrom_transfer' _ _ _ _ _ _ hatk
    intro dx dy hd _
    exact castle_ray occ2 occ1 (occBB b) f t s dI hdI hfy hfx htx hnz (fun q hq => (O q hq).symm) dx dy (Or.inl O2) hd

theorem castleOk_notInCheck (p : Pos) (short : Bool) (h : castleOk p short = true) : Chess.inCheck p.b p.wtm = false := by
  unfold castleOk at h
  simp only [Bool.and_eq_true, Bool.not_eq_true'] at h
  exact h.1.2

theorem rook_ne_king (w : Bool) : (if w then WROOK else BROOK) ≠ (if w then WKING else BKING) := by cases w <;> decide
theorem zero_ne_king (w : Bool) : (0 : Pc) ≠ (if w then WKING else BKING) := by cases w <;> decide
theorem own_rook (w : Bool) : own w (if w then WROOK else BROOK) = true := by cases w <;> decide
theorem rook_ne_zero (w : Bool) : (if w then WROOK else BROOK) ≠ (0 : Pc) := by cases w <;> decide

theorem getP_val (b : Board) (q : Sq) (n : Nat) (h : q.val = n) : getP b n = b[q] := by subst h; exact getP_sq b q

theorem apply_b_short (p : Pos) (m : Mv) (hkind : kind p.b[m.f] = 1) (hpr : m.promo = 0) (ht : m.t.val = m.f.val + 2) (q : Sq) :
    (apply p m).b[q] = if m.f.val + 1 = q.val then (if p.wtm then WROOK else BROOK) else if m.f.val + 3 = q.val then 0
      else if m.t.val = q.val then p.b[m.f] else if m.f.val = q.val then 0 else p.b[q] := by
  rw [apply_b, applyB_get_short p m hkind ht, movedB_get, isEp_of_kind p m (by rw [Pos.at, hkind]; decide), hpr]
  simp only [Bool.false_eq_true, false_and, if_false, bne_self_eq_false, Pos.at]

theorem apply_b_long (p : Pos) (m : Mv) (hkind : kind p.b[m.f] = 1) (hpr : m.promo = 0) (ht : m.t.val + 2 = m.f.val) (q : Sq) :
    (apply p m).b[q] = if m.f.val - 1 = q.val then (if p.wtm then WROOK else BROOK) else if m.f.val - 4 = q.val then 0
      else if m.t.val = q.val then p.b[m.f] else if m.f.val = q.val then 0 else p.b[q] := by
  rw [apply_b, applyB_get_long p m hkind ht, movedB_get, isEp_of_kind p m (by rw [Pos.at, hkind]; decide), hpr]
  simp only [Bool.false_eq_true, false_and, if_false, bne_self_eq_false, Pos.at]

theorem home_cases {w : Bool} {n : Nat} (h : n = (if w then 4 else 60)) : n = 4 ∨ n = 60 := by
  cases w
  · exact Or.inr h
  · exact Or.inl h

theorem own_not_king (w : Bool) : own (!w) (if w then WKING else BKING) = false := own_excl w _ (own_king w)
theorem own_not_rook (w : Bool) : own (!w) (if w then WROOK else BROOK) = false := own_excl w _ (own_rook w)

/-- castling by its four squares (moveGen.cpp:640-642): king `f → t`, rook `r → r'`, `dI` points from `t` back to `f`;
    of the castling conditions only "no enemy piece in the zone" is used -/
theorem castle_legal (p : Pos) (hv : ValidB p.b) (m : Mv) (hk : KingAt p.b p.wtm m.f) (hp : pseudo p m = true)
    (dI : Int) (r r' : Sq)
    (hb : ∀ q, (apply p m).b[q] = if q = r' then (if p.wtm then WROOK else BROOK) else if q = r then 0
      else if q = m.t then p.b[m.f] else if q = m.f then 0 else p.b[q])
    (hzone : ∀ q, Zone m.f dI q → own (!p.wtm) p.b[q] = false)
    (hnic : Chess.inCheck p.b p.wtm = false) (hdI : dI = 1 ∨ dI = -1)
    (hfx : m.f.x = 4) (hty : m.t.y = m.f.y) (htx : (m.t.x : Int) = 4 - 2 * dI)
    (hr' : r'.y = m.f.y ∧ (r'.x : Int) = 4 - dI) (hrz : Zone m.f dI r) (hrt : r ≠ m.t) :
    (!sqAttacked p.b p.wtm m.t (occBB p.b &&& ~~~sqBit m.f)) = safeAfter p m := by
  have hv' := validB_apply p hv m hp
  have zr' : Zone m.f dI r' := by unfold Zone; omega
  have zt : Zone m.f dI m.t := by unfold Zone; omega
  have zf : Zone m.f dI m.f := by unfold Zone; omega
  have htr' : m.t ≠ r' := fun e => by rw [e] at htx; omega
  have hk' : KingAt (apply p m).b p.wtm m.t := by
    constructor
    · rw [hb m.t, if_neg htr', if_neg hrt.symm, if_pos rfl]; exact hk.1
    · intro s hs
      rw [hb s] at hs
      by_cases h1 : s = r'
      · rw [if_pos h1] at hs; exact absurd hs (rook_ne_king _)
      rw [if_neg h1] at hs
      by_cases h2 : s = r
      · rw [if_pos h2] at hs; exact absurd hs (zero_ne_king _)
      rw [if_neg h2] at hs
      by_cases h3 : s = m.t
      · exact h3
      rw [if_neg h3] at hs
      by_cases h4 : s = m.f
      · rw [if_pos h4] at hs; exact absurd hs (zero_ne_king _)
      rw [if_neg h4] at hs
      exact absurd (hk.2 s hs) h4
  have B1 : ∀ q, ¬ Zone m.f dI q → (apply p m).b[q] = p.b[q] := by
    intro q hq
    have ne : ∀ s, Zone m.f dI s → q ≠ s := fun s hs e => hq (e ▸ hs)
    rw [hb q, if_neg (ne _ zr'), if_neg (ne _ hrz), if_neg (ne _ zt), if_neg (ne _ zf)]
  unfold safeAfter
  rw [inCheck_of_kingAt _ hv' _ m.t hk']
  apply congrArg not
  refine castle_sqAttacked p.b (apply p m).b p.wtm m.f m.t (occBB p.b &&& ~~~sqBit m.f) (occBB (apply p m).b) dI B1 ?_ hdI
    hty hfx htx ?_ ?_ ?_ ?_
  · intro q hq
    refine ⟨hzone q hq, ?_⟩
    rw [hb q]
    by_cases h1 : q = r'
    · rw [if_pos h1]; exact own_not_rook _
    rw [if_neg h1]
    by_cases h2 : q = r
    · rw [if_pos h2]; exact own_zero _
    rw [if_neg h2]
    by_cases h3 : q = m.t
    · rw [if_pos h3, hk.1]; exact own_not_king _
    rw [if_neg h3]
    by_cases h4 : q = m.f
    · rw [if_pos h4]; exact own_zero _
    rw [if_neg h4]
    exact hzone q hq
  · intro q hq
    have hqf : q ≠ m.f := fun e => hq (e ▸ zf : Zone m.f dI q)
    rw [tst_and, tst_not, tst_sqBit, tst_occBB _ hv, tst_occBB _ hv', B1 q hq, decide_eq_false hqf]
    exact Bool.and_true _
  · intro q hqf
    rw [tst_and, tst_not, tst_sqBit, decide_eq_false hqf]
    exact Bool.and_true _
  · intro q hy hx
    have : q = r' := Sq.ext_xy q r' (by omega) (by omega)
    rw [tst_occBB _ hv', this, hb r', if_pos rfl]
    exact bne_iff_ne.2 (rook_ne_zero _)
  · rw [← inCheck_of_kingAt _ hv _ m.f hk]; exact hnic

theorem isLegal_castle_short (p : Pos) (k : Sq) (hv : ValidB p.b) (hk : KingAt p.b p.wtm k) (m : Mv) (hp : pseudo p m = true)
    (hfk : m.f = k) (ht : m.t.val = m.f.val + 2) :
    (!sqAttacked p.b p.wtm m.t (occBB p.b &&& ~~~sqBit m.f)) = safeAfter p m := by
  subst hfk
  have hkind := (congrArg kind hk.1).trans (kind_king p.wtm)
  obtain ⟨hpr, hcase⟩ := pseudo_king_val p m hp hkind
  have hhc : m.f.val = (if p.wtm then 4 else 60) ∧ castleOk p true = true := by
    rcases hcase with h | h | h
    · omega
    · exact ⟨h.2.1, h.2.2⟩
    · omega
  obtain ⟨hhome, hco⟩ := hhc
  obtain ⟨_, e1, e2, e3⟩ := castleOk_short p hco
  rw [← hhome] at e1 e2 e3
  have hf4 := home_cases hhome
  have htt := m.t.isLt
  refine castle_legal p hv m hk hp (-1) ⟨m.f.val + 3, by omega⟩ ⟨m.f.val + 1, by omega⟩ ?_ ?_ (castleOk_notInCheck p true hco) (Or.inr rfl)
    (by unfold Sq.x; omega) (by unfold Sq.y; omega) (by unfold Sq.x; omega) (by unfold Sq.x Sq.y; simp only; omega)
    (by unfold Zone Sq.x Sq.y; simp only; omega) (fun e => by have := congrArg Fin.val e; simp only at this; omega)
  · intro q
    rw [apply_b_short p m hkind hpr ht q]
    simp only [Fin.ext_iff, eq_comm]
  · intro q hq
    have hq' : q.val = m.f.val ∨ q.val = m.f.val + 1 ∨ q.val = m.f.val + 2 ∨ q.val = m.f.val + 3 := by
      unfold Zone Sq.x Sq.y at hq; have := q.isLt; have := hq.2.1 rfl; omega
    rcases hq' with h | h | h | h
    · rw [Fin.ext h, hk.1]; exact own_not_king _
    · rw [← getP_val p.b q _ h, e1]; exact own_zero _
    · rw [← getP_val p.b q _ h, e2]; exact own_zero _
    · rw [← getP_val p.b q _ h, e3]; exact own_not_rook _

theorem isLegal_castle_long (p : Pos) (k : Sq) (hv : ValidB p.b) (hk : KingAt p.b p.wtm k) (m : Mv) (hp : pseudo p m = true)
    (hfk : m.f = k) (ht : m.t.val + 2 = m.f.val) :
    (!sqAttacked p.b p.wtm m.t (occBB p.b &&& ~~~sqBit m.f)) = safeAfter p m := by
  subst hfk
  have hkind := (congrArg kind hk.1).trans (kind_king p.wtm)
  obtain ⟨hpr, hcase⟩ := pseudo_king_val p m hp hkind
  have hhc : m.f.val = (if p.wtm then 4 else 60) ∧ castleOk p false = true := by
    rcases hcase with h | h | h
    · omega
    · omega
    · exact ⟨h.2.1, h.2.2⟩
  obtain ⟨hhome, hco⟩ := hhc
  obtain ⟨_, e1, e2, e3, e4⟩ := castleOk_long p hco
  rw [← hhome] at e1 e2 e3 e4
  have hf4 := home_cases hhome
  refine castle_legal p hv m hk hp 1 ⟨m.f.val - 4, by omega⟩ ⟨m.f.val - 1, by omega⟩ ?_ ?_ (castleOk_notInCheck p false hco) (Or.inl rfl)
    (by unfold Sq.x; omega) (by unfold Sq.y; omega) (by unfold Sq.x; omega) (by unfold Sq.x Sq.y; simp only; omega)
    (by unfold Zone Sq.x Sq.y; simp only; omega) (fun e => by have := congrArg Fin.val e; simp only at this; omega)
  · intro q
    rw [apply_b_long p m hkind hpr ht q]
    simp only [Fin.ext_iff, eq_comm]
  · intro q hq
    have hq' : q.val = m.f.val ∨ q.val + 1 = m.f.val ∨ q.val + 2 = m.f.val ∨ q.val + 3 = m.f.val ∨ q.val + 4 = m.f.val := by
      unfold Zone Sq.x Sq.y at hq; have := hq.2.2 rfl; omega
    rcases hq' with h | h | h | h | h
    · rw [Fin.ext h, hk.1]; exact own_not_king _
    · rw [← getP_val p.b q (m.f.val - 1) (by omega), e1]; exact own_zero _
    · rw [← getP_val p.b q (m.f.val - 2) (by omega), e2]; exact own_zero _
    · rw [← getP_val p.b q (m.f.val - 3) (by omega), e3]; exact own_zero _
    · rw [← getP_val p.b q (m.f.val - 4) (by omega), e4]; exact own_not_rook _

/-- **`MoveGen::isLegal` on a pseudo-legal move, called with the correct in-check flag, says whether the mover's
    king is attacked after the move** — all five paths of moveGen.cpp:621-659. -/
theorem isLegal_eq (p : Pos) (k : Sq) (hv : ValidB p.b) (hk : KingAt p.b p.wtm k) (m : Mv) (hp : pseudo p m = true) :
    isLegal p k m (Chess.inCheck p.b p.wtm) = safeAfter p m := by
  cases hchk : Chess.inCheck p.b p.wtm
  · unfold isLegal
    simp only [Bool.false_eq_true, if_false]
    split
    · rename_i hf
      have hfk : m.f = k := by simpa using hf
      by_cases hc : m.t.val = m.f.val + 2
      · exact isLegal_castle_short p k hv hk m hp hfk hc
      · by_cases hc2 : m.t.val + 2 = m.f.val
        · exact isLegal_castle_long p k hv hk m hp hfk hc2
        · exact isLegal_kingStep p k hv hk m hp hfk ⟨hc, hc2⟩
    · rename_i hf
      have hfk : m.f ≠ k := by simpa using hf
      split
      · rename_i hc
        simp only [Bool.and_eq_true, bne_iff_ne, ne_eq, Bool.or_eq_true, and_sqBit_eq_zero, Bool.not_eq_true', beq_iff_eq] at hc
        obtain ⟨hep, hc⟩ := hc
        symm
        by_cases hvis : Visible (occBB p.b) k m.f
        · rcases hc with ⟨h1, h2⟩ | hdir
          · rcases hvis with h | h
            · rw [h] at h1; cases h1
            · rw [h] at h2; cases h2
          · exact same_ray_safe p k hv hk m hp hchk hfk hep hdir hvis
        · exact isLegal_notVisible p k hv hk m hp hchk hfk hep hvis
      · unfold safeAfter; rw [inCheckAfter_eq p hv m hp]
  · exact isLegal_inCheck p k hv hk m hp hchk

/-- the moves `isLegal` accepts among the pseudo-legal ones are exactly the specification's legal moves -/
theorem isLegal_legalB (p : Pos) (k : Sq) (hv : ValidB p.b) (hk : KingAt p.b p.wtm k) (m : Mv) :
    (pseudo p m && isLegal p k m (Chess.inCheck p.b p.wtm)) = legalB p m := by
  unfold legalB
  cases hp : pseudo p m
  · rw [Bool.false_and, Bool.false_and]
  · rw [isLegal_eq p k hv hk m hp]; rfl

end Chess.Texel
