import TexelVerif.Chess.FenRT
/-! After the C17 repair every accepted FEN has both counters in `0 … 65535`. -/
namespace Chess

theorem clampCounter_range (v : Int) : 0 ≤ clampCounter v ∧ clampCounter v ≤ 65535 := by
  unfold clampCounter maxMoveCounter; omega

theorem counterOfWord_range (w : List Char) (d : Int) (hd : 0 ≤ d ∧ d ≤ 65535) :
    0 ≤ counterOfWord w d ∧ counterOfWord w d ≤ 65535 := by
  unfold counterOfWord
  split
  · exact clampCounter_range _
  · exact hd

theorem counterField_range (w : List Char) (d : Int) (hd : 0 ≤ d ∧ d ≤ 65535) :
    0 ≤ counterField w d ∧ counterField w d ≤ 65535 := by
  unfold counterField
  split
  · exact hd
  · exact counterOfWord_range w d hd

/-- **the repaired reader**: both counters of an accepted FEN are in `0 … 65535` -/
theorem readFENRaw_counters (s : String) (r : RawPos) (h : readFENRaw s = .ok r) :
    0 ≤ r.hmc ∧ r.hmc ≤ 65535 ∧ 0 ≤ r.fmc ∧ r.fmc ≤ 65535 := by
  obtain ⟨b, sc, rest, h1⟩ := readFENRaw_inv s r h
  obtain ⟨cm, ep, _, hw, fw, _, hfin⟩ := fenReadRest_inv b sc rest r h1
  obtain ⟨_, _, _, _, hh, hf, _⟩ := finishRead_inv _ _ _ _ _ _ _ hfin
  rw [hh, hf]
  exact ⟨(counterField_range hw 0 (by omega)).1, (counterField_range hw 0 (by omega)).2,
    (counterField_range fw 1 (by omega)).1, (counterField_range fw 1 (by omega)).2⟩

end Chess
