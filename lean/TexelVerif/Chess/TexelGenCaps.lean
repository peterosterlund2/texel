import TexelVerif.Chess.TexelGenNodup
import TexelVerif.Chess.TexelGenMore
/-!
`MoveGen::pseudoLegalCaptures` omits no pseudo-legal capture (promotions to queen or knight; rook and bishop
under-promotions are deliberately not generated): `captures_complete`.
-/
namespace Chess.Texel
open PosImpl (BB getP getP_eq)

theorem mem_addPawnQN (w : Bool) (mask : BB) (delta : Int) (m : Mv) :
    m ∈ addPawnMovesQN w mask delta ↔
      (tst mask m.t = true ∧ m.f = sqOff m.t delta ∧
        (if tst maskRow1Row8 m.t then (m.promo = pc w 2 ∨ m.promo = pc w 5) else m.promo = 0)) := by
  unfold addPawnMovesQN
  simp only [List.mem_append, List.mem_flatMap, List.mem_map, mem_squaresOf, tst_and, tst_not, Bool.and_eq_true,
    List.mem_cons, List.mem_nil_iff, or_false, Bool.not_eq_true', Bool.and_eq_false_iff]
  constructor
  · rintro (⟨t, ⟨h1, h2⟩, h⟩ | ⟨t, ⟨h1, h2⟩, rfl⟩)
    · rcases h with rfl | rfl <;> simp [h1, h2]
    · rcases h2 with h2 | h2
      · rw [h1] at h2; cases h2
      · simp [h1, h2]
  · rintro ⟨h1, h2, h3⟩
    cases h8 : tst maskRow1Row8 m.t
    · rw [h8] at h3
      simp only [Bool.false_eq_true, if_false] at h3
      exact Or.inr ⟨m.t, ⟨h1, Or.inr h8⟩, by cases m; simp_all⟩
    · rw [h8] at h3
      simp only [if_true] at h3
      refine Or.inl ⟨m.t, ⟨h1, h8⟩, ?_⟩
      rcases h3 with h | h
      · exact Or.inl (by cases m; simp_all)
      · exact Or.inr (by cases m; simp_all)

theorem qn_of_promo (w : Bool) (m : Mv) (h1 : isPromoPiece w m.promo = true) (h2 : qnPromo m = true) :
    m.promo = pc w 2 ∨ m.promo = pc w 5 := by
  unfold qnPromo at h2
  rcases (isPromoPiece_iff w m.promo).1 h1 with e | e | e | e
  · exact Or.inl e
  · exact Or.inr e
  · rw [e] at h2; cases w <;> cases h2
  · rw [e] at h2; cases w <;> cases h2

/-- promotion part of `addPawnMovesQN` (the C++ `addPawnMovesByMask(…, allPromotions = false)`) from the movement rules
    and the class restriction -/
theorem promoQN_bridge (w : Bool) (m : Mv) (ht : if w then 8 ≤ m.t.val else m.t.val < 56) (h1 : promoOk w m = true)
    (h2 : qnPromo m = true) :
    (if tst maskRow1Row8 m.t then (m.promo = pc w 2 ∨ m.promo = pc w 5) else m.promo = 0) := by
  have hc := (promo_bridge w m ht).2 h1
  unfold promoCond at hc
  cases h8 : tst maskRow1Row8 m.t
  · rw [h8] at hc; simpa using hc
  · simp only [if_true]
    rw [h8] at hc
    simp only [if_true] at hc
    exact qn_of_promo w m ((isPromoPiece_iff w m.promo).2 hc) h2

theorem enemy_of_capture (p : Pos) (hv : ValidB p.b) (m : Mv) (hp : pseudo p m = true) (hne : p.b[m.t] ≠ 0) :
    own (!p.wtm) p.b[m.t] = true := by
  have h1 := pseudo_nown_t p m hp
  have := occ_code_fin ⟨p.b[m.t].toNat, p.b[m.t].toNat_lt⟩
  simp only [UInt8.ofNat_toNat] at this
  have := this (hv m.t)
  rw [bne_iff_ne.2 hne] at this
  cases hw : p.wtm <;> rw [hw] at h1 <;> simp only [Bool.not_false, Bool.not_true] <;> rw [h1] at this <;> simpa using this

theorem capPawns_eq (w : Bool) (pawns occ capT : BB) :
    (if w then
      addPawnMovesQN w ((pawns <<< 8) &&& ~~~occ &&& maskRow8) (-8) ++
      addPawnMovesQN w ((pawns <<< 7) &&& maskAToGFiles &&& capT) (-7) ++
      addPawnMovesQN w ((pawns <<< 9) &&& maskBToHFiles &&& capT) (-9)
     else
      addPawnMovesQN w ((pawns >>> 8) &&& ~~~occ &&& maskRow1) 8 ++
      addPawnMovesQN w ((pawns >>> 9) &&& maskAToGFiles &&& capT) 9 ++
      addPawnMovesQN w ((pawns >>> 7) &&& maskBToHFiles &&& capT) 7) =
    addPawnMovesQN w (shiftBy pawns (8 * fwd w) &&& ~~~occ &&& (if w then maskRow8 else maskRow1)) (-(8 * fwd w)) ++
    addPawnMovesQN w (shiftBy pawns (8 * fwd w - 1) &&& maskAToGFiles &&& capT) (-(8 * fwd w - 1)) ++
    addPawnMovesQN w (shiftBy pawns (8 * fwd w + 1) &&& maskBToHFiles &&& capT) (-(8 * fwd w + 1)) := by
  cases w <;> rfl

/-- **`MoveGen::pseudoLegalCaptures` omits no pseudo-legal capture of its class** (captures incl. en passant; promotion
    piece queen or knight) -/
theorem captures_complete (p : Pos) (k : Sq) (h : GenWF p k) (m : Mv) (hp : pseudo p m = true)
    (hc : capClass p m = true) : m ∈ pseudoLegalCaptures p k := by
  obtain ⟨hv, hk, hep⟩ := h
  unfold capClass isCaptureMv at hc
  simp only [Pos.at, Bool.and_eq_true, Bool.or_eq_true, bne_iff_ne, ne_eq, beq_iff_eq] at hc
  obtain ⟨hcap, hqn⟩ := hc
  unfold pseudoLegalCaptures
  simp only [List.mem_append]
  have hft := m.f.isLt
  have htt := m.t.isLt
  rcases kind_of_own _ _ (pseudo_own_f p m hp) with h1 | h2 | h3 | h4 | h5 | h6
  · have hfk : m.f = k := hk.2 _ (king_of_kind _ _ (pseudo_own_f p m hp) h1)
    have hne := hcap.resolve_right fun h => absurd (h1.symm.trans h.1.1) (by decide)
    have hen := enemy_of_capture p hv m hp hne
    rw [pseudo_king_iff p m h1] at hp
    obtain ⟨_, _, hft', hpr, hmv⟩ := hp
    have hstep : (dxy m.f m.t).1.natAbs ≤ 1 ∧ (dxy m.f m.t).2.natAbs ≤ 1 := by
      rcases hmv with h | ⟨a, b, c, d⟩ | ⟨a, b, c, d⟩
      · exact h
      · exact absurd (castleOk_dest_empty p m true d c ((castle_target m.f m.t (home_cases c) 2 (Or.inl rfl)).1 ⟨a, b⟩)) hne
      · exact absurd (castleOk_dest_empty p m false d c ((castle_target m.f m.t (home_cases c) (-2) (Or.inr rfl)).1 ⟨a, b⟩)) hne
    refine Or.inl (Or.inr ?_)
    rw [mem_addMovesByMask, tst_and, tst_colorBB, kingAttacks, tst_bbSq, ← hfk, Bool.and_eq_true]
    exact ⟨rfl, hpr, (kingGeom_iff' m.f m.t).2 ⟨hstep, hft'⟩, hen⟩
  · have hne := hcap.resolve_right fun h => absurd (h2.symm.trans h.1.1) (by decide)
    exact Or.inl (Or.inl (Or.inl (Or.inl (Or.inl
      (section_mem p ⟨2, by decide⟩ (by decide) (by decide) _ _ (fun f t hk => attacks_queen p.b hv f t hk) m hp h2
        (by rw [tst_colorBB]; exact enemy_of_capture p hv m hp hne))))))
  · have hne := hcap.resolve_right fun h => absurd (h3.symm.trans h.1.1) (by decide)
    exact Or.inl (Or.inl (Or.inl (Or.inl (Or.inr
      (section_mem p ⟨3, by decide⟩ (by decide) (by decide) _ _ (fun f t hk => attacks_rook p.b hv f t hk) m hp h3
        (by rw [tst_colorBB]; exact enemy_of_capture p hv m hp hne))))))
  · have hne := hcap.resolve_right fun h => absurd (h4.symm.trans h.1.1) (by decide)
    exact Or.inl (Or.inl (Or.inl (Or.inr
      (section_mem p ⟨4, by decide⟩ (by decide) (by decide) _ _ (fun f t hk => attacks_bishop p.b hv f t hk) m hp h4
        (by rw [tst_colorBB]; exact enemy_of_capture p hv m hp hne)))))
  · have hne := hcap.resolve_right fun h => absurd (h5.symm.trans h.1.1) (by decide)
    exact Or.inl (Or.inl (Or.inr
      (section_mem p ⟨5, by decide⟩ (by decide) (by decide) _ _ (fun f t hk => attacks_knight p.b f t hk) m hp h5
        (by rw [tst_colorBB]; exact enemy_of_capture p hv m hp hne))))
  · -- pawns: a push is not a capture; a capture comes from one of the two diagonal shifts
    refine Or.inr ?_
    have hb := (pc_iff _ _ ⟨6, by decide⟩ (by decide)).2 ⟨pseudo_own_f p m hp, h6⟩
    rw [pseudo_pawn_iff p m hb] at hp
    obtain ⟨hnown, hprom, hmv⟩ := hp
    have hcb := capture_bridge p hv hep p.wtm m.t
    have hδ := fwd_cases p.wtm
    have hpq := promoQN_bridge _ m hmv.rank hprom hqn
    rw [capPawns_eq]
    simp only [List.mem_append, mem_addPawnQN]
    rcases hmv with ⟨a, c⟩ | ⟨a, _, c, _⟩ | ⟨hd, hcp⟩
    · exfalso
      rcases hcap with h | ⟨_, h⟩
      · exact h c
      · apply h; unfold Sq.x; omega
    · exfalso
      rcases hcap with h | ⟨_, h⟩
      · exact h c
      · apply h; unfold Sq.x; omega
    · have hcapT : tst (colorBB p.b (!p.wtm) ||| epMask p) m.t = true := by
        rw [tst_or, tst_colorBB, tst_epMask, Bool.or_eq_true, decide_eq_true_eq]
        exact hcb.2 ⟨hnown, hcp⟩
      rcases hd with ⟨a, b⟩ | ⟨a, b⟩
      · obtain ⟨x, y⟩ := (shift_from p.b (pc p.wtm 6) (8 * fwd p.wtm - 1) m).2 ⟨a, hb⟩
        refine Or.inl (Or.inr ⟨?_, y, hpq⟩)
        rw [tst_and, tst_and, x, tst_maskAToG, hcapT]; simp [b]
      · obtain ⟨x, y⟩ := (shift_from p.b (pc p.wtm 6) (8 * fwd p.wtm + 1) m).2 ⟨a, hb⟩
        refine Or.inr ⟨?_, y, hpq⟩
        rw [tst_and, tst_and, x, tst_maskBToH, hcapT]; simp [b]

end Chess.Texel
