import TexelVerif.Chess.TexelGenLegal2
import TexelVerif.Chess.TexelGenMore
/-!
`MoveGen::pseudoLegalMoves` against the specification's movement rules, block by block: piece-type loops
(`section_iff`), king and castling (`king_section_iff`), pawns with the colour as a parameter (`pseudo_pawn_iff`,
`mem_pawnMoves`); then `mem_pseudoLegalMoves` (`m ∈ pseudoLegalMoves p k ↔ pseudo p m`) and `mem_legalMoves`.
-/
namespace Chess.Texel
open PosImpl (BB getP getP_eq)

theorem mem_addMovesByMask (sq0 : Sq) (mask : BB) (m : Mv) :
    m ∈ addMovesByMask sq0 mask ↔ (m.f = sq0 ∧ m.promo = 0 ∧ tst mask m.t = true) := by
  unfold addMovesByMask
  simp only [List.mem_map, mem_squaresOf]
  constructor
  · rintro ⟨t, ht, rfl⟩; exact ⟨rfl, rfl, ht⟩
  · rintro ⟨h1, h2, h3⟩; exact ⟨m.t, h3, by cases m; simp_all⟩

theorem mem_pieceMoves (b : Board) (w : Bool) (kd : UInt8) (att targets : Sq → BB) (m : Mv) :
    m ∈ pieceMoves b w kd att targets ↔
      (b[m.f] = pc w kd ∧ m.promo = 0 ∧ tst (att m.f) m.t = true ∧ tst (targets m.f) m.t = true) := by
  unfold pieceMoves
  simp only [List.mem_flatMap, mem_squaresOf, mem_addMovesByMask, tst_pcBB, tst_and, Bool.and_eq_true, beq_iff_eq]
  constructor
  · rintro ⟨sq, h1, rfl, h3, h4, h5⟩; exact ⟨h1, h3, h4, h5⟩
  · rintro ⟨h1, h2, h3, h4⟩; exact ⟨m.f, h1, rfl, h2, h3, h4⟩

theorem mem_addPawnDouble (mask : BB) (delta : Int) (m : Mv) :
    m ∈ addPawnDoubleMovesByMask mask delta ↔ (tst mask m.t = true ∧ m.f = sqOff m.t delta ∧ m.promo = 0) := by
  unfold addPawnDoubleMovesByMask
  simp only [List.mem_map, mem_squaresOf]
  constructor
  · rintro ⟨t, ht, rfl⟩; exact ⟨ht, rfl, rfl⟩
  · rintro ⟨h1, h2, h3⟩; exact ⟨m.t, h1, by cases m; simp_all⟩

theorem mem_addPawn (w : Bool) (mask : BB) (delta : Int) (m : Mv) :
    m ∈ addPawnMovesByMask w mask delta true ↔
      (tst mask m.t = true ∧ m.f = sqOff m.t delta ∧
        (if tst maskRow1Row8 m.t then (m.promo = pc w 2 ∨ m.promo = pc w 5 ∨ m.promo = pc w 3 ∨ m.promo = pc w 4) else m.promo = 0)) := by
  unfold addPawnMovesByMask
  simp only [List.mem_append, List.mem_flatMap, List.mem_map, mem_squaresOf, tst_and, tst_not, Bool.and_eq_true, if_true,
    List.mem_cons, List.mem_nil_iff, or_false, Bool.not_eq_true', Bool.and_eq_false_iff]
  constructor
  · rintro (⟨t, ⟨h1, h2⟩, h⟩ | ⟨t, ⟨h1, h2⟩, rfl⟩)
    · rcases h with (rfl | rfl) | (rfl | rfl) <;> simp [h1, h2]
    · rcases h2 with h2 | h2
      · rw [h1] at h2; cases h2
      · simp [h1, h2]
  · rintro ⟨h1, h2, h3⟩
    cases h8 : tst maskRow1Row8 m.t
    · rw [h8] at h3
      simp only [Bool.false_eq_true, if_false] at h3
      exact Or.inr ⟨m.t, ⟨h1, Or.inr h8⟩, by cases m; simp_all⟩
    · rw [h8] at h3
      simp only [if_true] at h3
      refine Or.inl ⟨m.t, ⟨h1, h8⟩, ?_⟩
      rcases h3 with h | h | h | h
      · exact Or.inl (Or.inl (by cases m; simp_all))
      · exact Or.inl (Or.inr (by cases m; simp_all))
      · exact Or.inr (Or.inl (by cases m; simp_all))
      · exact Or.inr (Or.inr (by cases m; simp_all))

theorem tst_shl (a : BB) (n : Nat) (t : Sq) : tst (a <<< n) t = true ↔ ∃ f : Sq, f.val + n = t.val ∧ tst a f = true := by
  unfold tst
  rw [BitVec.getLsbD_shiftLeft]
  simp only [t.isLt, decide_true, Bool.true_and, Bool.and_eq_true, Bool.not_eq_true', decide_eq_false_iff_not, Nat.not_lt]
  constructor
  · rintro ⟨h1, h2⟩
    exact ⟨⟨t.val - n, by have := t.isLt; omega⟩, by simp only; omega, h2⟩
  · rintro ⟨f, h1, h2⟩
    have : t.val - n = f.val := by omega
    exact ⟨by omega, by rw [this]; exact h2⟩

theorem tst_shr (a : BB) (n : Nat) (t : Sq) : tst (a >>> n) t = true ↔ ∃ f : Sq, f.val = t.val + n ∧ tst a f = true := by
  unfold tst
  rw [BitVec.getLsbD_ushiftRight]
  constructor
  · intro h
    have hlt : n + t.val < 64 := by
      apply Classical.byContradiction
      intro hge
      rw [BitVec.getLsbD_of_ge _ _ (by omega)] at h; cases h
    exact ⟨⟨n + t.val, hlt⟩, by simp only; omega, h⟩
  · rintro ⟨f, h1, h2⟩
    have : n + t.val = f.val := by omega
    rw [this]; exact h2

theorem tst_maskAToG : ∀ t : Sq, tst maskAToGFiles t = decide (t.val % 8 ≤ 6) := by decide +kernel
theorem tst_maskBToH : ∀ t : Sq, tst maskBToHFiles t = decide (1 ≤ t.val % 8) := by decide +kernel
theorem tst_maskRow3 : ∀ t : Sq, tst maskRow3 t = decide (t.val / 8 = 2) := by decide +kernel
theorem tst_maskRow6 : ∀ t : Sq, tst maskRow6 t = decide (t.val / 8 = 5) := by decide +kernel
theorem tst_maskRow18 : ∀ t : Sq, tst maskRow1Row8 t = decide (t.val / 8 = 0 ∨ t.val / 8 = 7) := by decide +kernel

theorem sqOff_val (t : Sq) (d : Int) (h : 0 ≤ (t.val : Int) + d ∧ (t.val : Int) + d < 64) : ((sqOff t d).val : Int) = t.val + d := by
  unfold sqOff; simp only; omega

theorem tst_colorBB (b : Board) (w : Bool) (s : Sq) : tst (colorBB b w) s = own w b[s] := tst_bbSq _ _

theorem tst_epMask (p : Pos) (t : Sq) : tst (epMask p) t = decide (p.ep = some t) := by
  unfold epMask
  cases h : p.ep with
  | none => simp
  | some e => rw [tst_sqBit]; simp [eq_comm]

theorem attacks_self (b : Board) (t : Sq) : attacks b t t = false := by
  rw [attacks_eq_atkFrom b (bbSq fun q => b[q] != 0) t t (fun q _ => tst_bbSq _ _), atkFrom_self]

theorem attacks_rook (b : Board) (hv : ValidB b) (f t : Sq) (h : kind b[f] = 3) :
    attacks b f t = tst (rookAttacks f (occBB b)) t := by
  unfold attacks; simp only [h]
  simp only [rookDirs, List.any_cons, List.any_nil, Bool.or_false, rookAttacks, tst_or,
    ray_eq_rayReach (occBB b) b (tst_occBB b hv), Bool.or_assoc]

theorem attacks_bishop (b : Board) (hv : ValidB b) (f t : Sq) (h : kind b[f] = 4) :
    attacks b f t = tst (bishopAttacks f (occBB b)) t := by
  unfold attacks; simp only [h]
  simp only [bishDirs, List.any_cons, List.any_nil, Bool.or_false, bishopAttacks, tst_or,
    ray_eq_rayReach (occBB b) b (tst_occBB b hv), Bool.or_assoc]

theorem attacks_queen (b : Board) (hv : ValidB b) (f t : Sq) (h : kind b[f] = 2) :
    attacks b f t = tst (rookAttacks f (occBB b) ||| bishopAttacks f (occBB b)) t := by
  unfold attacks; simp only [h]
  simp only [dirs8, rookDirs, bishDirs, List.cons_append, List.nil_append, List.any_cons, List.any_nil, Bool.or_false, rookAttacks,
    bishopAttacks, tst_or, ray_eq_rayReach (occBB b) b (tst_occBB b hv), Bool.or_assoc]

theorem attacks_knight (b : Board) (f t : Sq) (h : kind b[f] = 5) : attacks b f t = tst (knightAttacks f) t := by
  unfold attacks; simp only [h]
  rw [knightAttacks, tst_bbSq]; rfl

/-- the movement rules for a piece that is neither king nor pawn -/
theorem pseudo_other_iff (p : Pos) (m : Mv) (hk1 : kind p.b[m.f] ≠ 1) (hk6 : kind p.b[m.f] ≠ 6) :
    pseudo p m = true ↔
      (own p.wtm p.b[m.f] = true ∧ own p.wtm p.b[m.t] = false ∧ m.promo = 0 ∧ attacks p.b m.f m.t = true) := by
  rw [pseudo_other_eq p m hk6 hk1, Bool.and_eq_true, Bool.and_eq_true, preRule_iff, beq_iff_eq]
  constructor
  · rintro ⟨⟨h1, h2, _⟩, h4, h5⟩; exact ⟨h1, h2, h4, h5⟩
  · rintro ⟨h1, h2, h4, h5⟩
    refine ⟨⟨h1, h2, ?_⟩, h4, h5⟩
    intro e; rw [e, attacks_self] at h5; cases h5

theorem pc_iff (w : Bool) (p : Pc) (k : Fin 7) (hk : 1 ≤ k.val) :
    p = pc w (UInt8.ofNat k.val) ↔ (own w p = true ∧ kind p = UInt8.ofNat k.val) := by
  have := beq_pc w p k hk
  rw [Bool.eq_iff_iff] at this
  simpa using this

theorem mid_kind_fin : ∀ k : Fin 7, 2 ≤ k.val → k.val ≤ 5 → UInt8.ofNat k.val ≠ 1 ∧ UInt8.ofNat k.val ≠ 6 := by decide

theorem section_mem (p : Pos) (k : Fin 7) (hk2 : 2 ≤ k.val) (hk5 : k.val ≤ 5) (att targets : Sq → BB)
    (hatt : ∀ f t, kind p.b[f] = UInt8.ofNat k.val → attacks p.b f t = tst (att f) t) (m : Mv)
    (hp : pseudo p m = true) (hk : kind p.b[m.f] = UInt8.ofNat k.val) (ht : tst (targets m.f) m.t = true) :
    m ∈ pieceMoves p.b p.wtm (UInt8.ofNat k.val) att targets := by
  obtain ⟨hne1, hne6⟩ := mid_kind_fin k hk2 hk5
  rw [mem_pieceMoves, pc_iff _ _ k (by omega)]
  rw [pseudo_other_iff p m (by rw [hk]; exact hne1) (by rw [hk]; exact hne6)] at hp
  obtain ⟨h1, _, h3, h4⟩ := hp
  exact ⟨⟨h1, hk⟩, h3, by rw [← hatt _ _ hk]; exact h4, ht⟩

/-- one piece-type loop of `pseudoLegalMoves` generates exactly the pseudo-legal moves of the pieces of that type -/
theorem section_iff (p : Pos) (k : Fin 7) (hk2 : 2 ≤ k.val) (hk5 : k.val ≤ 5) (att : Sq → BB)
    (hatt : ∀ f t, kind p.b[f] = UInt8.ofNat k.val → attacks p.b f t = tst (att f) t) (m : Mv) :
    m ∈ pieceMoves p.b p.wtm (UInt8.ofNat k.val) att (fun _ => ~~~colorBB p.b p.wtm) ↔
      (pseudo p m = true ∧ kind p.b[m.f] = UInt8.ofNat k.val) := by
  obtain ⟨hne1, hne6⟩ := mid_kind_fin k hk2 hk5
  constructor
  · rw [mem_pieceMoves, pc_iff _ _ k (by omega), tst_not, tst_colorBB]
    rintro ⟨⟨h1, h2⟩, h3, h4, h5⟩
    refine ⟨?_, h2⟩
    rw [pseudo_other_iff p m (by rw [h2]; exact hne1) (by rw [h2]; exact hne6)]
    exact ⟨h1, by simpa using h5, h3, by rw [hatt _ _ h2]; exact h4⟩
  · rintro ⟨hp, h2⟩
    refine section_mem p k hk2 hk5 att _ hatt m hp h2 ?_
    rw [tst_not, tst_colorBB, pseudo_nown_t p m hp]; rfl

/-- the movement rules for the king -/
theorem pseudo_king_iff (p : Pos) (m : Mv) (hk : kind p.b[m.f] = 1) :
    pseudo p m = true ↔
      (own p.wtm p.b[m.f] = true ∧ own p.wtm p.b[m.t] = false ∧ m.f ≠ m.t ∧ m.promo = 0 ∧
        (((dxy m.f m.t).1.natAbs ≤ 1 ∧ (dxy m.f m.t).2.natAbs ≤ 1) ∨
         ((dxy m.f m.t).2 = 0 ∧ (dxy m.f m.t).1 = 2 ∧ m.f.val = (if p.wtm then 4 else 60) ∧ castleOk p true = true) ∨
         ((dxy m.f m.t).2 = 0 ∧ (dxy m.f m.t).1 = -2 ∧ m.f.val = (if p.wtm then 4 else 60) ∧ castleOk p false = true))) := by
  rw [pseudo_king_eq p m hk, Bool.and_eq_true, preRule_iff, kingRule_iff]
  exact ⟨fun ⟨⟨h1, h2, h3⟩, h4⟩ => ⟨h1, h2, h3, h4⟩, fun ⟨h1, h2, h3, h4⟩ => ⟨⟨h1, h2, h3⟩, h4⟩⟩

theorem kingGeom_iff' (f t : Sq) : kingGeom f t = true ↔
    (((dxy f t).1.natAbs ≤ 1 ∧ (dxy f t).2.natAbs ≤ 1) ∧ f ≠ t) := by
  unfold kingGeom
  simp only [Bool.and_eq_true, decide_eq_true_eq, Bool.not_eq_true', Bool.and_eq_false_iff, beq_eq_false_iff_ne, ne_eq]
  have hx := Sq.x_lt f; have hy := Sq.y_lt f; have hx' := Sq.x_lt t; have hy' := Sq.y_lt t
  constructor
  · rintro ⟨h1, h2⟩
    refine ⟨h1, ?_⟩
    intro e; subst e; rw [dxy_self] at h2; simp at h2
  · rintro ⟨h1, h2⟩
    refine ⟨h1, ?_⟩
    apply Classical.byContradiction
    intro hn
    apply h2
    unfold dxy at hn
    simp only at hn
    exact Sq.ext_xy f t (by omega) (by omega)

theorem mem_kingStep (b : Board) (w : Bool) (k : Sq) (m : Mv) :
    m ∈ addMovesByMask k (kingAttacks k &&& ~~~colorBB b w) ↔
      (m.f = k ∧ m.promo = 0 ∧ kingGeom k m.t = true ∧ own w b[m.t] = false) := by
  rw [mem_addMovesByMask, tst_and, tst_not, tst_colorBB, kingAttacks, tst_bbSq]
  simp only [Bool.and_eq_true, Bool.not_eq_true']

theorem sqBits_and_eq_zero2 (a b : Sq) (occ : BB) :
    (((sqBit a ||| sqBit b) &&& occ) == 0) = (!tst occ a && !tst occ b) := by
  rw [Bool.eq_iff_iff, bb_beq_zero_iff]
  simp only [tst_and, tst_or, tst_sqBit, Bool.and_eq_true, Bool.not_eq_true']
  constructor
  · intro h
    have h1 := h a; have h2 := h b
    simp at h1 h2
    exact ⟨h1, h2⟩
  · rintro ⟨h1, h2⟩ s
    by_cases e1 : s = a
    · subst e1; simp [h1]
    · by_cases e2 : s = b
      · subst e2; simp [h2]
      · simp [e1, e2]

theorem sqBits_and_eq_zero3 (a b c : Sq) (occ : BB) :
    (((sqBit a ||| sqBit b ||| sqBit c) &&& occ) == 0) = (!tst occ a && !tst occ b && !tst occ c) := by
  rw [Bool.eq_iff_iff, bb_beq_zero_iff]
  simp only [tst_and, tst_or, tst_sqBit, Bool.and_eq_true, Bool.not_eq_true']
  constructor
  · intro h
    have h1 := h a; have h2 := h b; have h3 := h c
    simp at h1 h2 h3
    exact ⟨⟨h1, h2⟩, h3⟩
  · rintro ⟨⟨h1, h2⟩, h3⟩ s
    by_cases e1 : s = a
    · subst e1; simp [h1]
    · by_cases e2 : s = b
      · subst e2; simp [h2]
      · by_cases e3 : s = c
        · subst e3; simp [h3]
        · simp [e1, e2, e3]

theorem mem_ite_singleton {α : Type} (c : Bool) (x m : α) : m ∈ (if c = true then [x] else []) ↔ (c = true ∧ m = x) := by
  cases c <;> simp

theorem occ_zero (b : Board) (hv : ValidB b) (q : Sq) : tst (occBB b) q = false ↔ b[q] = 0 := by
  rw [tst_occBB b hv]; simp

theorem mem_castle_white (p : Pos) (hw : p.wtm = true) (k : Sq) (hv : ValidB p.b) (hk : KingAt p.b true k) (m : Mv) :
    m ∈ castleMoves p k ↔
      (m.f = k ∧ m.promo = 0 ∧
       ((m.t = sq 6 ∧ m.f = sq 4 ∧ castleOk p true = true) ∨ (m.t = sq 2 ∧ m.f = sq 4 ∧ castleOk p false = true))) := by
  unfold castleMoves
  simp only [hw, if_true]
  by_cases hk0 : k = sq 4
  · subst hk0
    simp only [beq_self_eq_true, if_true, List.mem_append, mem_ite_singleton]
    have hic : Chess.inCheck p.b true = sqAttacked p.b true (sq 4) (occBB p.b) := inCheck_of_kingAt _ hv _ _ hk
    have hk4 : getP p.b 4 = WKING := by rw [getP_val p.b (sq 4) 4 rfl]; exact hk.1
    have s7 : sqOff (sq 4) 3 = sq 7 := by decide
    have s5 : sqOff (sq 4) 1 = sq 5 := by decide
    have s6 : sqOff (sq 4) 2 = sq 6 := by decide
    have s0 : sqOff (sq 4) (-4) = sq 0 := by decide
    have s3 : sqOff (sq 4) (-1) = sq 3 := by decide
    have s2 : sqOff (sq 4) (-2) = sq 2 := by decide
    have b1 : (1 : UInt8) <<< (1 : Nat).toUInt8 = 2 := by decide
    have b0 : (1 : UInt8) <<< (0 : Nat).toUInt8 = 1 := by decide
    have q5 : (⟨(4 + 1) % 64, Nat.mod_lt _ (by decide)⟩ : Sq) = sq 5 := by decide
    have q3 : (⟨(4 - 1) % 64, Nat.mod_lt _ (by decide)⟩ : Sq) = sq 3 := by decide
    have hsp : ∀ t, attackedBy p.b false t = sqAttacked p.b true t (occBB p.b) := fun t => (sqAttacked_spec p.b hv true t).symm
    rw [castleOk_iff p true, castleOk_iff p false]
    simp only [hw, if_true, if_false, Bool.false_eq_true, hk4, true_and, s7, s5, s6, s0, s3, s2, b1, b0, q5, q3, sqBits_and_eq_zero2, sqBits_and_eq_zero3,
      Bool.and_eq_true, occ_zero _ hv, beq_iff_eq, Bool.not_eq_true', hic, hsp, Bool.not_true,
      getP_val p.b (sq 5) 5 rfl, getP_val p.b (sq 6) 6 rfl, getP_val p.b (sq 7) 7 rfl,
      getP_val p.b (sq 3) 3 rfl, getP_val p.b (sq 2) 2 rfl, getP_val p.b (sq 1) 1 rfl, getP_val p.b (sq 0) 0 rfl]
    have hr : pc true 3 = WROOK := rfl
    simp only [hr, mv_eq_iff]
    constructor
    · rintro (⟨⟨⟨⟨⟨hright, hf, hg⟩, hrook⟩, hnochk⟩, hpass⟩, m1, m2, m3⟩ | ⟨⟨⟨⟨⟨hright, ⟨hb, hc⟩, hd⟩, hrook⟩, hnochk⟩, hpass⟩, m1, m2, m3⟩)
      · exact ⟨m1, m3, Or.inl ⟨m2, m1, hright, hnochk, hf, hg, hrook, hpass⟩⟩
      · exact ⟨m1, m3, Or.inr ⟨m2, m1, hright, hnochk, hd, hc, hb, hrook, hpass⟩⟩
    · rintro ⟨m1, m3, (⟨m2, _, hright, hnochk, hf, hg, hrook, hpass⟩ | ⟨m2, _, hright, hnochk, hd, hc, hb, hrook, hpass⟩)⟩
      · exact Or.inl ⟨⟨⟨⟨⟨hright, hf, hg⟩, hrook⟩, hnochk⟩, hpass⟩, m1, m2, m3⟩
      · exact Or.inr ⟨⟨⟨⟨⟨hright, ⟨hb, hc⟩, hd⟩, hrook⟩, hnochk⟩, hpass⟩, m1, m2, m3⟩
  · have : (k == sq 4) = false := by simpa using hk0
    simp only [this, Bool.false_eq_true, if_false, List.not_mem_nil, false_iff]
    rintro ⟨m1, _, (⟨_, m2, _⟩ | ⟨_, m2, _⟩)⟩ <;> exact hk0 (m1.symm.trans m2)
theorem mem_castle_black (p : Pos) (hw : p.wtm = false) (k : Sq) (hv : ValidB p.b) (hk : KingAt p.b false k) (m : Mv) :
    m ∈ castleMoves p k ↔
      (m.f = k ∧ m.promo = 0 ∧
       ((m.t = sq 62 ∧ m.f = sq 60 ∧ castleOk p true = true) ∨ (m.t = sq 58 ∧ m.f = sq 60 ∧ castleOk p false = true))) := by
  unfold castleMoves
  simp only [hw, Bool.false_eq_true, if_false]
  by_cases hk0 : k = sq 60
  · subst hk0
    simp only [beq_self_eq_true, if_true, List.mem_append, mem_ite_singleton]
    have hic : Chess.inCheck p.b false = sqAttacked p.b false (sq 60) (occBB p.b) := inCheck_of_kingAt _ hv _ _ hk
    have hk4 : getP p.b 60 = BKING := by rw [getP_val p.b (sq 60) 60 rfl]; exact hk.1
    have s7 : sqOff (sq 60) 3 = sq 63 := by decide
    have s5 : sqOff (sq 60) 1 = sq 61 := by decide
    have s6 : sqOff (sq 60) 2 = sq 62 := by decide
    have s0 : sqOff (sq 60) (-4) = sq 56 := by decide
    have s3 : sqOff (sq 60) (-1) = sq 59 := by decide
    have s2 : sqOff (sq 60) (-2) = sq 58 := by decide
    have b1 : (1 : UInt8) <<< (3 : Nat).toUInt8 = 8 := by decide
    have b0 : (1 : UInt8) <<< (2 : Nat).toUInt8 = 4 := by decide
    have q5 : (⟨(60 + 1) % 64, Nat.mod_lt _ (by decide)⟩ : Sq) = sq 61 := by decide
    have q3 : (⟨(60 - 1) % 64, Nat.mod_lt _ (by decide)⟩ : Sq) = sq 59 := by decide
    have hsp : ∀ t, attackedBy p.b true t = sqAttacked p.b false t (occBB p.b) := fun t => (sqAttacked_spec p.b hv false t).symm
    rw [castleOk_iff p true, castleOk_iff p false]
    simp only [hw, if_true, if_false, Bool.false_eq_true, hk4, true_and, s7, s5, s6, s0, s3, s2, b1, b0, q5, q3, sqBits_and_eq_zero2, sqBits_and_eq_zero3,
      Bool.and_eq_true, occ_zero _ hv, beq_iff_eq, Bool.not_eq_true', hic, hsp, Bool.not_false,
      getP_val p.b (sq 61) 61 rfl, getP_val p.b (sq 62) 62 rfl, getP_val p.b (sq 63) 63 rfl,
      getP_val p.b (sq 59) 59 rfl, getP_val p.b (sq 58) 58 rfl, getP_val p.b (sq 57) 57 rfl, getP_val p.b (sq 56) 56 rfl]
    have hr : pc false 3 = BROOK := rfl
    simp only [hr, mv_eq_iff]
    constructor
    · rintro (⟨⟨⟨⟨⟨hright, hf, hg⟩, hrook⟩, hnochk⟩, hpass⟩, m1, m2, m3⟩ | ⟨⟨⟨⟨⟨hright, ⟨hb, hc⟩, hd⟩, hrook⟩, hnochk⟩, hpass⟩, m1, m2, m3⟩)
      · exact ⟨m1, m3, Or.inl ⟨m2, m1, hright, hnochk, hf, hg, hrook, hpass⟩⟩
      · exact ⟨m1, m3, Or.inr ⟨m2, m1, hright, hnochk, hd, hc, hb, hrook, hpass⟩⟩
    · rintro ⟨m1, m3, (⟨m2, _, hright, hnochk, hf, hg, hrook, hpass⟩ | ⟨m2, _, hright, hnochk, hd, hc, hb, hrook, hpass⟩)⟩
      · exact Or.inl ⟨⟨⟨⟨⟨hright, hf, hg⟩, hrook⟩, hnochk⟩, hpass⟩, m1, m2, m3⟩
      · exact Or.inr ⟨⟨⟨⟨⟨hright, ⟨hb, hc⟩, hd⟩, hrook⟩, hnochk⟩, hpass⟩, m1, m2, m3⟩
  · have : (k == sq 60) = false := by simpa using hk0
    simp only [this, Bool.false_eq_true, if_false, List.not_mem_nil, false_iff]
    rintro ⟨m1, _, (⟨_, m2, _⟩ | ⟨_, m2, _⟩)⟩ <;> exact hk0 (m1.symm.trans m2)

def fwd (w : Bool) : Int := if w then 1 else -1

/-- a pawn move in square indices: a push, a double push from the start rank over an empty square, or a step towards the
    a- or the h-file; `push` and `cap` are what is asked of the destination of a push and of a capture -/
def PawnShape (p : Pos) (m : Mv) (push cap : Prop) : Prop :=
  ((m.t.val : Int) = m.f.val + 8 * fwd p.wtm ∧ push) ∨
  ((m.t.val : Int) = m.f.val + 16 * fwd p.wtm ∧ m.f.val / 8 = (if p.wtm then 1 else 6) ∧ push ∧
      ∃ q : Sq, (q.val : Int) = m.f.val + 8 * fwd p.wtm ∧ p.b[q] = 0) ∨
  (((m.t.val : Int) = m.f.val + (8 * fwd p.wtm - 1) ∧ m.t.val % 8 ≤ 6 ∨
    (m.t.val : Int) = m.f.val + (8 * fwd p.wtm + 1) ∧ 1 ≤ m.t.val % 8) ∧ cap)

theorem PawnShape.imp {p : Pos} {m : Mv} {push cap push' cap' : Prop} (hp : push → push') (hc : cap → cap')
    (h : PawnShape p m push cap) : PawnShape p m push' cap' :=
  Or.imp (And.imp_right hp) (Or.imp (And.imp_right (And.imp_right (And.imp_left hp))) (And.imp_right hc)) h

theorem PawnShape.rank {p : Pos} {m : Mv} {push cap : Prop} (h : PawnShape p m push cap) :
    if p.wtm then 8 ≤ m.t.val else m.t.val < 56 := by
  unfold PawnShape fwd at h
  have := m.f.isLt
  have := m.t.isLt
  cases hw : p.wtm
  · simp only [hw, Bool.false_eq_true, if_false] at h ⊢
    rcases h with h | h | ⟨h | h, _⟩ <;> omega
  · simp only [hw, if_true] at h ⊢
    rcases h with h | h | ⟨h | h, _⟩ <;> omega

theorem pseudo_pawn_iff (p : Pos) (m : Mv) (hpc : p.b[m.f] = pc p.wtm 6) :
    pseudo p m = true ↔ (own p.wtm p.b[m.t] = false ∧ promoOk p.wtm m = true ∧
      PawnShape p m (p.b[m.t] = 0) (p.b[m.t] ≠ 0 ∨ p.ep = some m.t)) := by
  have hkind : kind (pc p.wtm 6) = 6 := (kind_pc_fin p.wtm ⟨6, by decide⟩ (by decide)).1
  have hown : own p.wtm (pc p.wtm 6) = true := (kind_pc_fin p.wtm ⟨6, by decide⟩ (by decide)).2
  have hδ : (if p.wtm = true then (1 : Int) else -1) = 1 ∧ (if p.wtm = true then 1 else 6) = 1 ∨
      (if p.wtm = true then (1 : Int) else -1) = -1 ∧ (if p.wtm = true then 1 else 6) = 6 := by
    cases p.wtm
    · exact Or.inr ⟨rfl, rfl⟩
    · exact Or.inl ⟨rfl, rfl⟩
  unfold pseudo PawnShape fwd
  simp only [Pos.at, hpc, hkind, hown, Bool.true_and, Bool.and_eq_true, Bool.or_eq_true, Bool.not_eq_true', bne_iff_ne,
    beq_iff_eq, dxy, ne_eq]
  generalize (if p.wtm = true then (1 : Int) else -1) = δ at hδ ⊢
  generalize (if p.wtm = true then 1 else 6) = r at hδ ⊢
  have hft : m.f.val < 64 := m.f.isLt
  have htt : m.t.val < 64 := m.t.isLt
  simp only [Sq.x, Sq.y]
  constructor
  · rintro ⟨⟨h1, h2⟩, h3, h4⟩
    refine ⟨h1, h3, ?_⟩
    rcases h4 with (⟨⟨a, b⟩, c⟩ | ⟨⟨⟨⟨a, b⟩, c⟩, d⟩, e⟩) | ⟨⟨a, b⟩, c⟩
    · left; exact ⟨by omega, c⟩
    · right; left
      split at e
      · rename_i q hq
        rw [mkSq?_eq_some] at hq
        simp only [Sq.x, Sq.y] at hq
        exact ⟨by omega, by omega, d, q, by have := q.isLt; omega, beq_iff_eq.1 e⟩
      · cases e
    · right; right; exact ⟨by omega, c⟩
  · rintro ⟨h1, h3, h4⟩
    refine ⟨⟨h1, fun e => ?_⟩, h3, ?_⟩
    · have := congrArg Fin.val e
      omega
    · rcases h4 with ⟨a, c⟩ | ⟨a, b, c, q, d, e⟩ | ⟨a, c⟩
      · exact Or.inl (Or.inl ⟨⟨by omega, by omega⟩, c⟩)
      · refine Or.inl (Or.inr ⟨⟨⟨⟨by omega, by omega⟩, by omega⟩, c⟩, ?_⟩)
        have hq : mkSq? ((m.f.val % 8 : Nat) : Int) (((m.f.val / 8 : Nat) : Int) + δ) = some q := by
          rw [mkSq?_eq_some]; simp only [Sq.x, Sq.y]; have := q.isLt; omega
        rw [hq]; exact beq_iff_eq.2 e
      · exact Or.inr ⟨⟨by omega, by omega⟩, c⟩

/-- promotion part of `addPawnMovesByMask(…, allPromotions = true)` -/
def promoCond (w : Bool) (m : Mv) : Prop :=
  if tst maskRow1Row8 m.t then (m.promo = pc w 2 ∨ m.promo = pc w 5 ∨ m.promo = pc w 3 ∨ m.promo = pc w 4) else m.promo = 0

def shiftBy (a : BB) (d : Int) : BB := if 0 ≤ d then a <<< d.toNat else a >>> (-d).toNat

theorem tst_shiftBy (a : BB) (d : Int) (t : Sq) :
    tst (shiftBy a d) t = true ↔ ∃ f : Sq, (t.val : Int) = f.val + d ∧ tst a f = true := by
  unfold shiftBy
  split
  · rw [tst_shl]; exact exists_congr fun f => and_congr (by omega) Iff.rfl
  · rw [tst_shr]; exact exists_congr fun f => and_congr (by omega) Iff.rfl

theorem shift_from (b : Board) (pc6 : Pc) (d : Int) (m : Mv) :
    (tst (shiftBy (pcBB b pc6) d) m.t = true ∧ m.f = sqOff m.t (-d)) ↔ ((m.t.val : Int) = m.f.val + d ∧ b[m.f] = pc6) := by
  rw [tst_shiftBy]
  constructor
  · rintro ⟨⟨f', h1, h2⟩, hf⟩
    have hv := sqOff_val m.t (-d) (by have := f'.isLt; omega)
    have : m.f = f' := by apply Fin.ext; rw [hf]; omega
    subst this
    rw [tst_pcBB] at h2
    exact ⟨h1, beq_iff_eq.1 h2⟩
  · rintro ⟨h1, h2⟩
    refine ⟨⟨m.f, h1, by rw [tst_pcBB, h2]; exact beq_self_eq_true _⟩, ?_⟩
    apply Fin.ext
    have hv := sqOff_val m.t (-d) (by have := m.f.isLt; omega)
    omega

/-- the pawn block with the colour as a parameter -/
theorem pawnMoves_eq (p : Pos) : pawnMoves p =
    (let δ := fwd p.wtm
     let pawns := pcBB p.b (pc p.wtm 6)
     let occ := occBB p.b
     let capT := colorBB p.b (!p.wtm) ||| epMask p
     let m := shiftBy pawns (8 * δ) &&& ~~~occ
     addPawnMovesByMask p.wtm m (-(8 * δ)) true ++
     addPawnDoubleMovesByMask (shiftBy (m &&& (if p.wtm then maskRow3 else maskRow6)) (8 * δ) &&& ~~~occ) (-(16 * δ)) ++
     addPawnMovesByMask p.wtm (shiftBy pawns (8 * δ - 1) &&& maskAToGFiles &&& capT) (-(8 * δ - 1)) true ++
     addPawnMovesByMask p.wtm (shiftBy pawns (8 * δ + 1) &&& maskBToHFiles &&& capT) (-(8 * δ + 1)) true) := by
  unfold pawnMoves
  cases p.wtm <;> rfl

theorem tst_rank3 (w : Bool) (t : Sq) :
    tst (if w then maskRow3 else maskRow6) t = decide (t.val / 8 = if w then 2 else 5) := by
  cases w
  · exact tst_maskRow6 t
  · exact tst_maskRow3 t

/-- what is known of `fwd w` and the ranks that depend on the colour, for `omega` -/
theorem fwd_cases (w : Bool) : fwd w = 1 ∧ (if w then 1 else 6) = 1 ∧ (if w then 2 else 5) = 2 ∨
    fwd w = -1 ∧ (if w then 1 else 6) = 6 ∧ (if w then 2 else 5) = 5 := by
  cases w
  · exact Or.inr ⟨rfl, rfl, rfl⟩
  · exact Or.inl ⟨rfl, rfl, rfl⟩

theorem evasionPawnMoves_eq (p : Pos) (V : BB) : evasionPawnMoves p V =
    (let δ := fwd p.wtm
     let pawns := pcBB p.b (pc p.wtm 6)
     let occ := occBB p.b
     let capT := (colorBB p.b (!p.wtm) &&& V) ||| epMask p
     let m := shiftBy pawns (8 * δ) &&& ~~~occ
     addPawnMovesByMask p.wtm (m &&& V) (-(8 * δ)) true ++
     addPawnDoubleMovesByMask ((shiftBy (m &&& (if p.wtm then maskRow3 else maskRow6)) (8 * δ) &&& ~~~occ) &&& V) (-(16 * δ)) ++
     addPawnMovesByMask p.wtm (shiftBy pawns (8 * δ - 1) &&& maskAToGFiles &&& capT) (-(8 * δ - 1)) true ++
     addPawnMovesByMask p.wtm (shiftBy pawns (8 * δ + 1) &&& maskBToHFiles &&& capT) (-(8 * δ + 1)) true) := by
  unfold evasionPawnMoves
  cases p.wtm <;> rfl

theorem mem_evasionPawn (p : Pos) (hv : ValidB p.b) (V : BB) (m : Mv) (hb : p.b[m.f] = pc p.wtm 6)
    (hpr : promoCond p.wtm m)
    (hmv : PawnShape p m (p.b[m.t] = 0 ∧ tst V m.t = true)
      ((own (!p.wtm) p.b[m.t] = true ∧ tst V m.t = true) ∨ p.ep = some m.t)) :
    m ∈ evasionPawnMoves p V := by
  have e8 := shift_from p.b (pc p.wtm 6) (8 * fwd p.wtm) m
  have e7 := shift_from p.b (pc p.wtm 6) (8 * fwd p.wtm - 1) m
  have e9 := shift_from p.b (pc p.wtm 6) (8 * fwd p.wtm + 1) m
  have hδ := fwd_cases p.wtm
  have hft := m.f.isLt
  have htt := m.t.isLt
  rw [evasionPawnMoves_eq]
  unfold promoCond at hpr
  unfold PawnShape at hmv
  simp only [List.mem_append, mem_addPawn, mem_addPawnDouble, tst_and, tst_not, tst_or, tst_colorBB, tst_epMask, tst_maskAToG,
    tst_maskBToH, Bool.and_eq_true, Bool.not_eq_true', Bool.or_eq_true, decide_eq_true_eq, occ_zero _ hv]
  generalize fwd p.wtm = δ at *
  generalize (if p.wtm = true then 1 else 6) = r1 at *
  rcases hmv with ⟨a, c, v⟩ | ⟨a, b, ⟨c, v⟩, q, d, e⟩ | ⟨(⟨a, b⟩ | ⟨a, b⟩), c⟩
  · obtain ⟨x, y⟩ := e8.2 ⟨a, hb⟩
    exact Or.inl (Or.inl (Or.inl ⟨⟨⟨x, c⟩, v⟩, y, hpr⟩))
  · have hqq := q.isLt
    refine Or.inl (Or.inl (Or.inr ⟨⟨⟨?_, c⟩, v⟩, ?_, ?_⟩))
    · rw [tst_shiftBy]
      refine ⟨q, by omega, ?_⟩
      simp only [tst_and, tst_not, tst_rank3, Bool.and_eq_true, Bool.not_eq_true', decide_eq_true_eq, occ_zero _ hv]
      refine ⟨⟨?_, e⟩, by omega⟩
      rw [tst_shiftBy]
      exact ⟨m.f, d, by rw [tst_pcBB, hb]; exact beq_self_eq_true _⟩
    · apply Fin.ext
      have hv16 := sqOff_val m.t (-(16 * δ)) (by omega)
      omega
    · have : tst maskRow1Row8 m.t = false := by rw [tst_maskRow18]; simp; omega
      rw [this] at hpr; simpa using hpr
  · obtain ⟨x, y⟩ := e7.2 ⟨a, hb⟩
    exact Or.inl (Or.inr ⟨⟨⟨x, b⟩, c⟩, y, hpr⟩)
  · obtain ⟨x, y⟩ := e9.2 ⟨a, hb⟩
    exact Or.inr ⟨⟨⟨x, b⟩, c⟩, y, hpr⟩

/-- with every square a valid target the pawn block of `checkEvasions` is the pawn block of `pseudoLegalMoves` -/
theorem mem_evasionPawn_all (p : Pos) (m : Mv) : m ∈ evasionPawnMoves p (~~~0) ↔ m ∈ pawnMoves p := by
  rw [evasionPawnMoves_eq, pawnMoves_eq]
  simp only [List.mem_append, mem_addPawn, mem_addPawnDouble, tst_and, tst_or, tst_not, tst_zero, Bool.not_false, Bool.and_true]

theorem mem_pawnMoves (p : Pos) (hv : ValidB p.b) (m : Mv) :
    m ∈ pawnMoves p ↔ (p.b[m.f] = pc p.wtm 6 ∧ promoCond p.wtm m ∧
      PawnShape p m (p.b[m.t] = 0) (own (!p.wtm) p.b[m.t] = true ∨ p.ep = some m.t)) := by
  have ones : tst (~~~0) m.t = true := by rw [tst_not, tst_zero]; rfl
  refine ⟨?_, fun ⟨hb, hpr, hmv⟩ => (mem_evasionPawn_all p m).1 (mem_evasionPawn p hv _ m hb hpr
    (hmv.imp (fun h => ⟨h, ones⟩) (Or.imp_left fun h => ⟨h, ones⟩)))⟩
  have e8 := shift_from p.b (pc p.wtm 6) (8 * fwd p.wtm) m
  have e7 := shift_from p.b (pc p.wtm 6) (8 * fwd p.wtm - 1) m
  have e9 := shift_from p.b (pc p.wtm 6) (8 * fwd p.wtm + 1) m
  have hδ := fwd_cases p.wtm
  have hft := m.f.isLt
  have htt := m.t.isLt
  rw [pawnMoves_eq]
  unfold promoCond PawnShape
  simp only [List.mem_append, mem_addPawn, mem_addPawnDouble, tst_and, tst_not, tst_or, tst_colorBB, tst_epMask, tst_maskAToG,
    tst_maskBToH, Bool.and_eq_true, Bool.not_eq_true', Bool.or_eq_true, decide_eq_true_eq, occ_zero _ hv]
  generalize fwd p.wtm = δ at *
  generalize (if p.wtm = true then 1 else 6) = r1 at *
  rintro (((⟨⟨h1, h2⟩, h3, h4⟩ | ⟨⟨h1, h2⟩, h3, h4⟩) | ⟨⟨⟨h1, h2⟩, h5⟩, h3, h4⟩) | ⟨⟨⟨h1, h2⟩, h5⟩, h3, h4⟩)
  · obtain ⟨a, b⟩ := e8.1 ⟨h1, h3⟩
    exact ⟨b, h4, Or.inl ⟨a, h2⟩⟩
  · rw [tst_shiftBy] at h1
    obtain ⟨q, hq1, hq2⟩ := h1
    simp only [tst_and, tst_not, tst_rank3, Bool.and_eq_true, Bool.not_eq_true', decide_eq_true_eq, occ_zero _ hv] at hq2
    obtain ⟨⟨hq3, hq4⟩, hq5⟩ := hq2
    rw [tst_shiftBy] at hq3
    obtain ⟨f', hf1, hf2⟩ := hq3
    have hqq := q.isLt
    have hff := f'.isLt
    have hv16 := sqOff_val m.t (-(16 * δ)) (by omega)
    have : m.f = f' := by apply Fin.ext; rw [h3]; omega
    subst this
    rw [tst_pcBB] at hf2
    refine ⟨beq_iff_eq.1 hf2, ?_, Or.inr (Or.inl ⟨by omega, by omega, h2, q, by omega, hq4⟩)⟩
    have : tst maskRow1Row8 m.t = false := by rw [tst_maskRow18]; simp; omega
    rw [this]; simpa using h4
  · obtain ⟨a, b⟩ := e7.1 ⟨h1, h3⟩
    exact ⟨b, h4, Or.inr (Or.inr ⟨Or.inl ⟨a, h2⟩, h5⟩)⟩
  · obtain ⟨a, b⟩ := e9.1 ⟨h1, h3⟩
    exact ⟨b, h4, Or.inr (Or.inr ⟨Or.inr ⟨a, h2⟩, h5⟩)⟩

/-- the en-passant square, if any, is empty (enforced by `readFEN`, kept by `makeMove`: C02 `EpOk`) -/
def EpEmpty (p : Pos) : Prop := ∀ e, p.ep = some e → p.b[e] = 0

theorem isPromoPiece_pc_fin : ∀ (w : Bool) (j : Fin 7), 1 ≤ j.val → isPromoPiece w (pc w (UInt8.ofNat j.val)) = true →
    (pc w (UInt8.ofNat j.val) = pc w 2 ∨ pc w (UInt8.ofNat j.val) = pc w 5 ∨ pc w (UInt8.ofNat j.val) = pc w 3 ∨
     pc w (UInt8.ofNat j.val) = pc w 4) := by decide

theorem isPromoPiece_iff (w : Bool) (pr : Pc) :
    isPromoPiece w pr = true ↔ (pr = pc w 2 ∨ pr = pc w 5 ∨ pr = pc w 3 ∨ pr = pc w 4) := by
  constructor
  · intro h
    obtain ⟨j, hj, rfl⟩ := own_pc w pr (Bool.and_eq_true _ _ ▸ h).1
    exact isPromoPiece_pc_fin w j hj h
  · rintro (rfl | rfl | rfl | rfl) <;> cases w <;> rfl

theorem promo_bridge (w : Bool) (m : Mv) (ht : if w then 8 ≤ m.t.val else m.t.val < 56) :
    promoCond w m ↔ promoOk w m = true := by
  unfold promoCond promoOk
  rw [tst_maskRow18]
  have := m.t.isLt
  cases w
  · simp only [Bool.false_eq_true, if_false] at ht ⊢
    by_cases h0 : m.t.val / 8 = 0
    · have : (m.t.y == 0) = true := by simp [Sq.y, h0]
      simp only [h0, true_or, decide_true, if_true, this, isPromoPiece_iff]
    · have : (m.t.y == 0) = false := by simp [Sq.y, h0]
      have h7 : ¬ m.t.val / 8 = 7 := by omega
      simp [h0, h7, this]
  · simp only [if_true] at ht ⊢
    by_cases h7 : m.t.val / 8 = 7
    · have : (m.t.y == 7) = true := by simp [Sq.y, h7]
      simp only [h7, or_true, decide_true, if_true, this, isPromoPiece_iff]
    · have : (m.t.y == 7) = false := by simp [Sq.y, h7]
      have h0 : ¬ m.t.val / 8 = 0 := by omega
      simp [h0, h7, this]

theorem capture_bridge (p : Pos) (hv : ValidB p.b) (hep : EpEmpty p) (w : Bool) (t : Sq) :
    (own (!w) p.b[t] = true ∨ p.ep = some t) ↔ (own w p.b[t] = false ∧ (p.b[t] ≠ 0 ∨ p.ep = some t)) := by
  constructor
  · rintro (h | h)
    · have := own_excl (!w) _ h
      rw [Bool.not_not] at this
      exact ⟨this, Or.inl (own_ne_zero _ _ h)⟩
    · exact ⟨by rw [hep t h]; exact own_zero w, Or.inr h⟩
  · rintro ⟨h1, h2 | h2⟩
    · left
      have := occ_code_fin ⟨p.b[t].toNat, p.b[t].toNat_lt⟩
      simp only [UInt8.ofNat_toNat] at this
      have := this (hv t)
      have hnz : (p.b[t] != 0) = true := bne_iff_ne.2 h2
      rw [hnz] at this
      cases w
      · simp only [Bool.not_false]; rw [h1] at this; simpa using this
      · simp only [Bool.not_true]; rw [h1] at this; simpa using this
    · exact Or.inr h2

/-- the pawn block of `pseudoLegalMoves` generates exactly the pseudo-legal pawn moves -/
theorem pawn_section_iff (p : Pos) (hv : ValidB p.b) (hep : EpEmpty p) (m : Mv) :
    m ∈ pawnMoves p ↔ (pseudo p m = true ∧ kind p.b[m.f] = 6) := by
  have hcb := capture_bridge p hv hep p.wtm m.t
  rw [mem_pawnMoves p hv]
  constructor
  · rintro ⟨hb, hpr, hmv⟩
    refine ⟨?_, by rw [hb]; exact (kind_pc_fin p.wtm ⟨6, by decide⟩ (by decide)).1⟩
    rw [pseudo_pawn_iff p m hb]
    refine ⟨?_, (promo_bridge _ m hmv.rank).1 hpr, hmv.imp id fun h => (hcb.1 h).2⟩
    rcases hmv with h | h | ⟨_, h⟩
    · rw [h.2]; exact own_zero _
    · rw [h.2.2.1]; exact own_zero _
    · exact (hcb.1 h).1
  · rintro ⟨hp, hk⟩
    have hb := (pc_iff _ _ ⟨6, by decide⟩ (by decide)).2 ⟨pseudo_own_f p m hp, hk⟩
    rw [pseudo_pawn_iff p m hb] at hp
    obtain ⟨h1, h2, hmv⟩ := hp
    exact ⟨hb, (promo_bridge _ m hmv.rank).2 h2, hmv.imp id fun h => hcb.2 ⟨h1, h⟩⟩

theorem castle_target (f t : Sq) (hf : f.val = 4 ∨ f.val = 60) (dx : Int) (hdx : dx = 2 ∨ dx = -2) :
    ((dxy f t).2 = 0 ∧ (dxy f t).1 = dx) ↔ (t.val : Int) = f.val + dx := by
  unfold dxy Sq.x Sq.y
  have := t.isLt
  simp only
  omega

theorem castleOk_dest_empty (p : Pos) (m : Mv) (short : Bool) (hco : castleOk p short = true)
    (hf : m.f.val = (if p.wtm then 4 else 60)) (ht : (m.t.val : Int) = m.f.val + (if short then 2 else -2)) :
    p.b[m.t] = 0 := by
  have := (castleOk_iff p short).1 hco
  simp only at this
  obtain ⟨_, _, _, hsq⟩ := this
  have htt := m.t.isLt
  cases short
  · simp only [Bool.false_eq_true, if_false] at hsq ht
    rw [← hf] at hsq
    rw [← getP_val p.b m.t (m.f.val - 2) (by omega), hsq.2.1]
  · simp only [if_true] at hsq ht
    rw [← hf] at hsq
    rw [← getP_val p.b m.t (m.f.val + 2) (by omega), hsq.2.1]

theorem king_section_iff (p : Pos) (k : Sq) (hv : ValidB p.b) (hk : KingAt p.b p.wtm k) (m : Mv) :
    (m ∈ addMovesByMask k (kingAttacks k &&& ~~~colorBB p.b p.wtm) ∨ m ∈ castleMoves p k) ↔
      (pseudo p m = true ∧ kind p.b[m.f] = 1) := by
  have hstep : ∀ (hfk : m.f = k), kind p.b[m.f] = 1 ∧ own p.wtm p.b[m.f] = true := by
    intro hfk; subst hfk; rw [hk.1]; exact ⟨kind_king _, own_king _⟩
  have hcastle : (m ∈ castleMoves p k) ↔
      (m.f = k ∧ m.promo = 0 ∧
        (((m.t.val : Int) = m.f.val + 2 ∧ m.f.val = (if p.wtm then 4 else 60) ∧ castleOk p true = true) ∨
         ((m.t.val : Int) = m.f.val + -2 ∧ m.f.val = (if p.wtm then 4 else 60) ∧ castleOk p false = true))) := by
    have alt : ∀ (n n' : Nat) (hn : n < 64) (hn' : n' < 64) (d : Int) (_ : (n' : Int) = n + d) (C : Prop),
        (m.t = sq n' hn' ∧ m.f = sq n hn ∧ C) ↔ ((m.t.val : Int) = m.f.val + d ∧ m.f.val = n ∧ C) := by
      intro n n' hn hn' d e C
      simp only [Fin.ext_iff, sq]
      exact ⟨fun ⟨a, b, c⟩ => ⟨by omega, b, c⟩, fun ⟨a, b, c⟩ => ⟨by omega, b, c⟩⟩
    cases hw : p.wtm
    · rw [hw] at hk
      rw [mem_castle_black p hw k hv hk, alt 60 62 _ _ 2 rfl, alt 60 58 _ _ (-2) rfl]
      simp only [Bool.false_eq_true, if_false]
    · rw [hw] at hk
      rw [mem_castle_white p hw k hv hk, alt 4 6 _ _ 2 rfl, alt 4 2 _ _ (-2) rfl]
      simp only [if_true]
  rw [mem_kingStep, hcastle]
  constructor
  · rintro (⟨hfk, hpr, hg, ht⟩ | ⟨hfk, hpr, hc⟩)
    · obtain ⟨h1, h2⟩ := hstep hfk
      refine ⟨?_, h1⟩
      rw [pseudo_king_iff p m h1]
      rw [← hfk, kingGeom_iff'] at hg
      exact ⟨h2, ht, hg.2, hpr, Or.inl hg.1⟩
    · obtain ⟨h1, h2⟩ := hstep hfk
      refine ⟨?_, h1⟩
      rw [pseudo_king_iff p m h1]
      rcases hc with ⟨c, d, e⟩ | ⟨c, d, e⟩
      · refine ⟨h2, by rw [castleOk_dest_empty p m true e d (by simpa using c)]; exact own_zero _, fun e' => by rw [e'] at c; omega, hpr, Or.inr (Or.inl ?_)⟩
        obtain ⟨x, y⟩ := (castle_target m.f m.t (home_cases d) 2 (Or.inl rfl)).2 c
        exact ⟨x, y, d, e⟩
      · refine ⟨h2, by rw [castleOk_dest_empty p m false e d (by simpa using c)]; exact own_zero _, fun e' => by rw [e'] at c; omega, hpr, Or.inr (Or.inr ?_)⟩
        obtain ⟨x, y⟩ := (castle_target m.f m.t (home_cases d) (-2) (Or.inr rfl)).2 c
        exact ⟨x, y, d, e⟩
  · rintro ⟨hp, h1⟩
    have hfk : m.f = k := hk.2 _ (king_of_kind _ _ (pseudo_own_f p m hp) h1)
    rw [pseudo_king_iff p m h1] at hp
    obtain ⟨_, ht, hne, hpr, hmv⟩ := hp
    rcases hmv with h | ⟨a, b, c, d⟩ | ⟨a, b, c, d⟩
    · left
      refine ⟨hfk, hpr, ?_, ht⟩
      rw [← hfk, kingGeom_iff']; exact ⟨h, hne⟩
    · right
      exact ⟨hfk, hpr, Or.inl ⟨(castle_target m.f m.t (home_cases c) 2 (Or.inl rfl)).1 ⟨a, b⟩, c, d⟩⟩
    · right
      exact ⟨hfk, hpr, Or.inr ⟨(castle_target m.f m.t (home_cases c) (-2) (Or.inr rfl)).1 ⟨a, b⟩, c, d⟩⟩

/-- well-formedness used by the generator theorems: piece codes 0..12, the mover's king on `k` and nowhere else,
    the en-passant square (if any) empty -/
structure GenWF (p : Pos) (k : Sq) : Prop where
  valid : ValidB p.b
  king : KingAt p.b p.wtm k
  ep : EpEmpty p

/-- **`MoveGen::pseudoLegalMoves` generates exactly the moves that obey the movement rules** -/
theorem mem_pseudoLegalMoves (p : Pos) (k : Sq) (h : GenWF p k) (m : Mv) :
    m ∈ pseudoLegalMoves p k ↔ pseudo p m = true := by
  obtain ⟨hv, hk, hep⟩ := h
  have sQ : m ∈ pieceMoves p.b p.wtm 2 (fun sq => rookAttacks sq (occBB p.b) ||| bishopAttacks sq (occBB p.b))
      (fun _ => ~~~colorBB p.b p.wtm) ↔ (pseudo p m = true ∧ kind p.b[m.f] = 2) :=
    section_iff p ⟨2, by decide⟩ (by decide) (by decide) _ (fun f t hk => attacks_queen p.b hv f t hk) m
  have sR : m ∈ pieceMoves p.b p.wtm 3 (fun sq => rookAttacks sq (occBB p.b)) (fun _ => ~~~colorBB p.b p.wtm) ↔
      (pseudo p m = true ∧ kind p.b[m.f] = 3) :=
    section_iff p ⟨3, by decide⟩ (by decide) (by decide) _ (fun f t hk => attacks_rook p.b hv f t hk) m
  have sB : m ∈ pieceMoves p.b p.wtm 4 (fun sq => bishopAttacks sq (occBB p.b)) (fun _ => ~~~colorBB p.b p.wtm) ↔
      (pseudo p m = true ∧ kind p.b[m.f] = 4) :=
    section_iff p ⟨4, by decide⟩ (by decide) (by decide) _ (fun f t hk => attacks_bishop p.b hv f t hk) m
  have sN : m ∈ pieceMoves p.b p.wtm 5 knightAttacks (fun _ => ~~~colorBB p.b p.wtm) ↔
      (pseudo p m = true ∧ kind p.b[m.f] = 5) :=
    section_iff p ⟨5, by decide⟩ (by decide) (by decide) _ (fun f t hk => attacks_knight p.b f t hk) m
  have sK := king_section_iff p k hv hk m
  have sP := pawn_section_iff p hv hep m
  unfold pseudoLegalMoves
  simp only [List.mem_append]
  constructor
  · rintro ((((((h | h) | h) | h) | h) | h) | h)
    · exact (sQ.1 h).1
    · exact (sR.1 h).1
    · exact (sB.1 h).1
    · exact (sK.1 (Or.inl h)).1
    · exact (sK.1 (Or.inr h)).1
    · exact (sN.1 h).1
    · exact (sP.1 h).1
  · intro hp
    rcases kind_of_own _ _ (pseudo_own_f p m hp) with h | h | h | h | h | h
    · rcases sK.2 ⟨hp, h⟩ with h' | h'
      · exact Or.inl (Or.inl (Or.inl (Or.inr h')))
      · exact Or.inl (Or.inl (Or.inr h'))
    · exact Or.inl (Or.inl (Or.inl (Or.inl (Or.inl (Or.inl (sQ.2 ⟨hp, h⟩))))))
    · exact Or.inl (Or.inl (Or.inl (Or.inl (Or.inl (Or.inr (sR.2 ⟨hp, h⟩))))))
    · exact Or.inl (Or.inl (Or.inl (Or.inl (Or.inr (sB.2 ⟨hp, h⟩)))))
    · exact Or.inl (Or.inr (sN.2 ⟨hp, h⟩))
    · exact Or.inr (sP.2 ⟨hp, h⟩)

/-- the moves the engine treats as legal (`pseudoLegalMoves`, then `removeIllegal`) are exactly the legal moves -/
theorem mem_legalMoves (p : Pos) (k : Sq) (h : GenWF p k) (m : Mv) : m ∈ legalMoves p k ↔ legalB p m = true := by
  unfold legalMoves
  rw [removeIllegal_eq p k h.valid h.king _ (fun m hm => (mem_pseudoLegalMoves p k h m).1 hm), List.mem_filter,
    mem_pseudoLegalMoves p k h]
  unfold legalB
  simp only [Bool.and_eq_true]

end Chess.Texel
