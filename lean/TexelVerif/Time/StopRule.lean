import TexelVerif.Time.Alloc
/-!
# The stop rule (property C06)

* `timeStop`, `nodeStop`, `npsSleep` : the body of `Search::shouldStop` (lib/texellib/search.cpp:436-471) as a function of
  the virtual clock, the stored limits, `searchNeedMoreTime`, and `x = (S64)(minTimeMillis * hardFactor)` (the one
  floating-point step, abstracted: the theorems only use `0 ≤ x`, true because `hardFactor ∈ [0.3, 3.5]` by
  search.cpp:266-274 and the two `std::max(hardFactor, 1.0 / 2.0)` updates).
* `rootStop` : the time test between root moves (search.cpp:254-261).
* `Th`, `Ev`, `step`, `run` : the main search thread as a sequence of events "one node searched (costs `d` ms of virtual
  time)", "shouldStop evaluated (and, when it does not stop, the MaxNPS throttle sleeps `slp` ms)", "root-move time test",
  "search ends for another reason".  Once stopped nothing moves any more, so `now` of the final state is the time at which
  the search stopped (the best move is produced without searching further nodes).
* `Disc N τ S` : the polling discipline — at most `N` nodes between two evaluations of `shouldStop`, every node costs
  between 0 and `τ`, every throttle sleep between 0 and `S`, every `x ≥ 0`.
* `run_bound` : under the discipline, with limits `0 ≤ minT ≤ maxT` and any time `B ≥ tStart + maxT`, the thread is stopped
  no later than `B + S + N·τ` (`B = max t0 (tStart + maxT)` for limits in force from `t0` on).

The three relaxed-atomic stores of `Search::timeLimit` are modelled as one atomic step (the bound counts from the last store).
-/
namespace Tm

/-- `minT` as adjusted in `shouldStop`: `if (minT >= 0 && earlyStopPercentage <= 100) minT = min((S64)(minT*hardFactor), maxT)`. -/
def softNow (l : Lim) (x : Int) : Int := if 0 ≤ l.minT ∧ l.early ≤ 100 then min x l.maxT else l.minT

/-- `timeLimit = searchNeedMoreTime ? maxT : minT`. -/
def effLimit (l : Lim) (need : Bool) (x : Int) : Int := if need then l.maxT else softNow l x

/-- `(timeLimit >= 0) && (tNow - tStart >= timeLimit)`. -/
def timeStop (elapsed : Int) (l : Lim) (need : Bool) (x : Int) : Bool :=
  decide (0 ≤ effLimit l need x ∧ effLimit l need x ≤ elapsed)

/-- `(maxNodes >= 0) && (getTotalNodes() >= maxNodes)`. -/
def nodeStop (maxNodes totNodes : Int) : Bool := decide (0 ≤ maxNodes ∧ maxNodes ≤ totNodes)

def shouldStop (elapsed : Int) (l : Lim) (need : Bool) (x maxNodes totNodes : Int) : Bool :=
  timeStop elapsed l need x || nodeStop maxNodes totNodes

/-- MaxNPS throttle after a non-stopping test: `if (totNodes*1000.0 > maxNPS*max(1,time)) sleep(totNodes*1000/maxNPS - time)`. -/
def npsSleep (maxNPS elapsed totNodes : Int) : Int :=
  if maxNPS > 0 ∧ totNodes * 1000 > maxNPS * max 1 elapsed then max 0 ((totNodes * 1000).tdiv maxNPS - elapsed) else 0

/-- `Search::setStrength`: `nodesBetweenTimeCheck = maxNPS > 0 ? clamp(maxNPS / 100, 1, 1000) : 1000`. -/
def nodesBetweenTimeCheck (maxNPS : Int) : Int := if maxNPS > 0 then clamp (maxNPS.tdiv 100) 1 1000 else 1000

/-- Time test between root moves: `timeLimit = needMoreTime ? maxT : minT; timeLimit >= 0 && tNow - tStart >= timeLimit`. -/
def rootStop (elapsed : Int) (l : Lim) (need : Bool) : Bool :=
  decide (0 ≤ (if need then l.maxT else l.minT) ∧ (if need then l.maxT else l.minT) ≤ elapsed)

theorem softNow_ok (l : Lim) (x : Int) (hl : 0 ≤ l.minT ∧ l.minT ≤ l.maxT) (hx : 0 ≤ x) :
    0 ≤ softNow l x ∧ softNow l x ≤ l.maxT := by
  unfold softNow; split <;> omega

theorem effLimit_ok (l : Lim) (need : Bool) (x : Int) (hl : 0 ≤ l.minT ∧ l.minT ≤ l.maxT) (hx : 0 ≤ x) :
    0 ≤ effLimit l need x ∧ effLimit l need x ≤ l.maxT := by
  have := softNow_ok l x hl hx
  unfold effLimit; split <;> omega

theorem timeStop_of_late (elapsed : Int) (l : Lim) (need : Bool) (x : Int) (hl : 0 ≤ l.minT ∧ l.minT ≤ l.maxT)
    (hx : 0 ≤ x) (h : l.maxT ≤ elapsed) : timeStop elapsed l need x = true := by
  have := effLimit_ok l need x hl hx
  simp only [timeStop, decide_eq_true_eq]; omega

theorem early_of_not_timeStop (elapsed : Int) (l : Lim) (need : Bool) (x : Int) (hl : 0 ≤ l.minT ∧ l.minT ≤ l.maxT)
    (hx : 0 ≤ x) (h : timeStop elapsed l need x = false) : elapsed < l.maxT := by
  have := effLimit_ok l need x hl hx
  simp only [timeStop, decide_eq_false_iff_not] at h; omega

theorem timeStop_unlimited (elapsed : Int) (l : Lim) (need : Bool) (x : Int) (h1 : l.minT = -1) (h2 : l.maxT = -1) :
    timeStop elapsed l need x = false := by
  simp only [timeStop, effLimit, softNow, h1, h2, decide_eq_false_iff_not]
  split <;> (try split) <;> omega

inductive Ev
  | tick (d : Int)
  | poll (need : Bool) (x slp : Int)
  | root (need : Bool)
  | finish
  deriving Repr

structure Th where
  now : Int
  stopped : Bool
  deriving Repr

def step (tStart : Int) (l : Lim) (s : Th) : Ev → Th
  | .tick d => if s.stopped then s else { s with now := s.now + d }
  | .poll need x slp =>
    if s.stopped then s
    else if timeStop (s.now - tStart) l need x then { s with stopped := true }
    else { s with now := s.now + slp }
  | .root need => if s.stopped then s else if rootStop (s.now - tStart) l need then { s with stopped := true } else s
  | .finish => { s with stopped := true }

def run (tStart : Int) (l : Lim) (s : Th) (evs : List Ev) : Th := evs.foldl (step tStart l) s

/-- Polling discipline; the `Nat` argument counts the nodes since the last evaluation of `shouldStop`. -/
def Disc (N : Nat) (τ S : Int) : Nat → List Ev → Prop
  | _, [] => True
  | c, .tick d :: r => 0 ≤ d ∧ d ≤ τ ∧ c + 1 ≤ N ∧ Disc N τ S (c + 1) r
  | _, .poll _ x slp :: r => 0 ≤ x ∧ 0 ≤ slp ∧ slp ≤ S ∧ Disc N τ S 0 r
  | c, .root _ :: r => Disc N τ S c r
  | c, .finish :: r => Disc N τ S c r

theorem step_stopped (tStart : Int) (l : Lim) (s : Th) (e : Ev) (h : s.stopped = true) : step tStart l s e = s := by
  cases e <;> simp [step, h]
  cases s; simp_all

theorem run_stopped (tStart : Int) (l : Lim) (evs : List Ev) (s : Th) (h : s.stopped = true) : run tStart l s evs = s := by
  induction evs with
  | nil => rfl
  | cons e r ih => simp only [run, List.foldl_cons, step_stopped tStart l s e h]; exact ih

theorem run_cons (tStart : Int) (l : Lim) (s : Th) (e : Ev) (r : List Ev) :
    run tStart l s (e :: r) = run tStart l (step tStart l s e) r := rfl

theorem run_append (tStart : Int) (l : Lim) (s : Th) (a b : List Ev) :
    run tStart l s (a ++ b) = run tStart l (run tStart l s a) b := by
  simp [run, List.foldl_append]

/-- Main invariant.  `B` is any time not before `tStart + maxT`; `c` nodes have been searched since the last test. -/
theorem run_bound (tStart : Int) (l : Lim) (N : Nat) (τ S B : Int) (hτ : 0 ≤ τ)
    (hl : 0 ≤ l.minT ∧ l.minT ≤ l.maxT) (hB : tStart + l.maxT ≤ B) :
    ∀ (evs : List Ev) (s : Th) (c : Nat), Disc N τ S c evs → c ≤ N →
      s.now ≤ B + S + (if s.stopped then (N : Int) else c) * τ → (run tStart l s evs).now ≤ B + S + N * τ := by
  intro evs
  induction evs with
  | nil =>
    intro s c _ hc h
    have : (c : Int) * τ ≤ N * τ := Int.mul_le_mul_of_nonneg_right (by omega) hτ
    split at h <;> exact Int.le_trans h (by omega)
  | cons e r ih =>
    intro s c hd hc h
    rw [run_cons]
    cases hs : s.stopped with
    | true => rw [step_stopped tStart l s e hs, run_stopped tStart l r s hs]; simpa [hs] using h
    | false =>
      simp only [hs, Bool.false_eq_true, if_false] at h
      have hcN : (c : Int) * τ ≤ N * τ := Int.mul_le_mul_of_nonneg_right (by omega) hτ
      cases e with
      | tick d =>
        obtain ⟨hd0, hd1, hcn, hr⟩ := hd
        refine ih _ (c + 1) hr hcn ?_
        have : ((c + 1 : Nat) : Int) * τ = c * τ + τ := by rw [Int.natCast_add, Int.add_mul]; omega
        simp only [step, hs, Bool.false_eq_true, if_false]; omega
      | poll need x slp =>
        obtain ⟨hx, hs0, hs1, hr⟩ := hd
        refine ih _ 0 hr (Nat.zero_le _) ?_
        cases ht : timeStop (s.now - tStart) l need x with
        | true => simp only [step, hs, ht, Bool.false_eq_true, if_false, if_true]; omega
        | false =>
          have := early_of_not_timeStop _ l need x hl hx ht
          simp only [step, hs, ht, Bool.false_eq_true, if_false]; omega
      | root need =>
        refine ih _ c hd hc ?_
        cases ht : rootStop (s.now - tStart) l need <;> simp only [step, hs, ht, Bool.false_eq_true, if_false, if_true] <;> omega
      | finish => exact ih _ c hd hc (by simp only [step, if_true]; omega)
theorem late_poll_stops (tStart : Int) (l : Lim) (s : Th) (pre suf : List Ev) (need : Bool) (x slp : Int)
    (hl : 0 ≤ l.minT ∧ l.minT ≤ l.maxT) (hx : 0 ≤ x)
    (hlate : tStart + l.maxT ≤ (run tStart l s pre).now) :
    (run tStart l s (pre ++ .poll need x slp :: suf)).stopped = true := by
  rw [run_append, run_cons]
  have hst : (step tStart l (run tStart l s pre) (.poll need x slp)).stopped = true := by
    cases h : (run tStart l s pre).stopped with
    | true => simp [step, h]
    | false =>
      have := timeStop_of_late ((run tStart l s pre).now - tStart) l need x hl hx (by omega)
      simp [step, h, this]
  rw [run_stopped _ _ _ _ hst]; exact hst

/-- `while (*ponder || *infinite) sleep(10 ms)` entered when the search stopped at `ts`, flags cleared at `tf`:
    the loop tests the flags at `ts, ts + q, ts + 2q, …` and leaves at the first test not before `tf`. -/
def waitLoopExit (ts tf q : Int) : Int := if tf ≤ ts then ts else ts + q * ((tf - ts + q - 1) / q)

theorem waitLoopExit_ge (ts tf q : Int) (hq : 0 < q) : ts ≤ waitLoopExit ts tf q ∧ tf ≤ waitLoopExit ts tf q := by
  unfold waitLoopExit
  split
  · omega
  · have h1 := Int.emod_nonneg (tf - ts + q - 1) (Int.ne_of_gt hq)
    have h2 := Int.emod_lt_of_pos (tf - ts + q - 1) hq
    have h3 := Int.mul_ediv_add_emod (tf - ts + q - 1) q
    omega

theorem waitLoopExit_le (ts tf q : Int) (hq : 0 < q) : waitLoopExit ts tf q ≤ max ts (tf + q - 1) := by
  unfold waitLoopExit
  split
  · omega
  · have h1 := Int.emod_nonneg (tf - ts + q - 1) (Int.ne_of_gt hq)
    have h3 := Int.mul_ediv_add_emod (tf - ts + q - 1) q
    omega

end Tm
