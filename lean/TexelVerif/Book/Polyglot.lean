import TexelVerif.Chess.Spec
import TexelVerif.Book.PGRandoms
/-!
# Polyglot book records, move codec and hash key (`lib/texellib/book/polyglot.cpp`)

Model of `PolyglotBook::{serialize, deSerialize, getMove, getPGMove, getHashKey}`.  Byte strings are
`List UInt8`; the 64/16-bit fields are `Nat`s (shifts and masks are written as `/ 2^k` and `% 2^k`; that this reading agrees with the C++ shifts is
proved for the five fields of `getMove` from the translated source (`Bridge.Book.getMove_unpack_eq`) and otherwise
checked by the differential tie `pgbook ser|deser|dec|enc|key`).
-/
namespace Book
open Chess

/-- the fields `deSerialize` extracts from one 16-byte record -/
structure PGEntry where
  key : Nat       -- U64, bytes 0..7 big-endian
  move : Nat      -- U16, bytes 8..9
  weight : Nat    -- U16, bytes 10..11   (bytes 12..15 "learn" are ignored)
deriving DecidableEq, Repr

/-- `v = (v << 8) | b` over the bytes -/
def beVal (bs : List UInt8) : Nat := bs.foldl (fun a b => a * 256 + b.toNat) 0

def deSerialize (d : List UInt8) : PGEntry :=
  { key := beVal (d.take 8), move := beVal ((d.drop 8).take 2), weight := beVal ((d.drop 10).take 2) }

/-- `(U8)(v >> s)` -/
def byteAt (v s : Nat) : UInt8 := UInt8.ofNat (v / 2 ^ s % 256)

def serialize (hash move weight : Nat) : List UInt8 :=
  [byteAt hash 56, byteAt hash 48, byteAt hash 40, byteAt hash 32, byteAt hash 24, byteAt hash 16, byteAt hash 8, byteAt hash 0,
   byteAt move 8, byteAt move 0, byteAt weight 8, byteAt weight 0, 0, 0, 0, 0]

/-- `Square(file, row)` for 3-bit fields -/
def mkSquare (file row : Nat) : Sq := ⟨(row % 8) * 8 + file % 8, by omega⟩

def E1 : Sq := sq 4
def E8 : Sq := sq 60
def A1 : Sq := sq 0
def C1 : Sq := sq 2
def G1 : Sq := sq 6
def H1 : Sq := sq 7
def A8 : Sq := sq 56
def C8 : Sq := sq 58
def G8 : Sq := sq 62
def H8 : Sq := sq 63

/-- the `switch (prom)` of `getMove` -/
def decodeProm (wtm : Bool) (prom : Nat) : Pc :=
  match prom with
  | 1 => if wtm then WKNIGHT else BKNIGHT
  | 2 => if wtm then WBISHOP else BBISHOP
  | 3 => if wtm then WROOK else BROOK
  | 4 => if wtm then WQUEEN else BQUEEN
  | _ => EMPTY

/-- "Convert castling moves": king-takes-own-rook becomes the king's two-square move, but only when a king of
    the right colour stands on e1 / e8 -/
def convTo (p : Pos) (from_ to : Sq) : Sq :=
  let to := if from_ = E1 ∧ p.at from_ = WKING then (if to = H1 then G1 else if to = A1 then C1 else to) else to
  if from_ = E8 ∧ p.at from_ = BKING then (if to = H8 then G8 else if to = A8 then C8 else to) else to

/-- `PolyglotBook::getMove`: decode the 16-bit move (bit 15 is ignored) -/
def getMove (p : Pos) (mv : Nat) : Mv :=
  let toFile := mv % 8
  let toRow := mv / 8 % 8
  let fromFile := mv / 64 % 8
  let fromRow := mv / 512 % 8
  let prom := mv / 4096 % 8
  let from_ := mkSquare fromFile fromRow
  let to := mkSquare toFile toRow
  { f := from_, t := convTo p from_ to, promo := decodeProm p.wtm prom }

/-- the `switch (move.promoteTo())` of `getPGMove` -/
def encodeProm (pr : Pc) : Nat :=
  if pr = WKNIGHT ∨ pr = BKNIGHT then 1
  else if pr = WBISHOP ∨ pr = BBISHOP then 2
  else if pr = WROOK ∨ pr = BROOK then 3
  else if pr = WQUEEN ∨ pr = BQUEEN then 4
  else 0

/-- destination file written by `getPGMove`: the rook's file for the king's castling moves -/
def encToX (p : Pos) (m : Mv) : Nat :=
  let toX := m.t.x
  let toX := if m.f = E1 ∧ p.at m.f = WKING then (if m.t = G1 then H1.x else if m.t = C1 then A1.x else toX) else toX
  if m.f = E8 ∧ p.at m.f = BKING then (if m.t = G8 then H8.x else if m.t = C8 then A8.x else toX) else toX

/-- `PolyglotBook::getPGMove` -/
def getPGMove (p : Pos) (m : Mv) : Nat :=
  encToX p m + m.t.y * 8 + m.f.x * 64 + m.f.y * 512 + encodeProm m.promo * 4096

set_option maxRecDepth 100000 in
theorem hashRandoms_size : hashRandoms.size = 781 := by decide +kernel

/-- piece index of the polyglot format: bp wp bn wn bb wb br wr bq wq bk wk -/
def pVal (pc : Pc) : Option (Fin 12) :=
  if pc = BPAWN then some 0 else if pc = WPAWN then some 1
  else if pc = BKNIGHT then some 2 else if pc = WKNIGHT then some 3
  else if pc = BBISHOP then some 4 else if pc = WBISHOP then some 5
  else if pc = BROOK then some 6 else if pc = WROOK then some 7
  else if pc = BQUEEN then some 8 else if pc = WQUEEN then some 9
  else if pc = BKING then some 10 else if pc = WKING then some 11
  else none

def rnd (i : Nat) (h : i < 781 := by omega) : UInt64 := hashRandoms[i]'(by rw [hashRandoms_size]; exact h)

def pieceTerm (p : Pos) (s : Sq) : UInt64 :=
  match pVal (p.at s) with
  | some v => rnd (64 * v.val + s.val)
  | none => 0

/-- `PolyglotBook::getHashKey`: xor of the table entries for every piece, the four castling rights, the file of
    the en-passant square (whenever the position *has* an en-passant square) and the side to move (white) -/
def getHashKey (p : Pos) : UInt64 :=
  let key := allSq.foldl (fun k s => k ^^^ pieceTerm p s) 0
  let key := if p.castle &&& 2 != 0 then key ^^^ rnd 768 else key     -- h1Castle
  let key := if p.castle &&& 1 != 0 then key ^^^ rnd 769 else key     -- a1Castle
  let key := if p.castle &&& 8 != 0 then key ^^^ rnd 770 else key     -- h8Castle
  let key := if p.castle &&& 4 != 0 then key ^^^ rnd 771 else key     -- a8Castle
  let key := match p.ep with
    | some e => key ^^^ rnd (772 + e.x) (by have := Nat.mod_lt e.val (show 8 > 0 by decide); simp only [Sq.x]; omega)
    | none => key
  if p.wtm then key ^^^ rnd 780 else key

end Book
