import TexelVerif.Book.Polyglot
import TexelVerif.Chess.SpecLemmas
/-! Lemmas about the polyglot record and move codecs. -/
namespace Book
open Chess


theorem byteAt_toNat (v s : Nat) : (byteAt v s).toNat = v / 2 ^ s % 256 := by
  unfold byteAt
  rw [UInt8.toNat_ofNat']
  exact Nat.mod_eq_of_lt (Nat.mod_lt _ (by decide))

/-- the `n` low bytes of `v`, most significant first: what `serialize` writes for one field -/
def beBytes (v : Nat) : Nat → List UInt8
  | 0 => []
  | n+1 => byteAt v (8 * n) :: beBytes v n

theorem foldl_beBytes (v n a : Nat) :
    (beBytes v n).foldl (fun a b => a * 256 + b.toNat) a = a * 256 ^ n + v % 256 ^ n := by
  induction n generalizing a with
  | zero => simp [beBytes, Nat.mod_one]
  | succ n ih =>
    have h8 : 2 ^ (8 * n) = 256 ^ n := Nat.pow_mul 2 8 n
    rw [beBytes, List.foldl_cons, ih, byteAt_toNat, h8, Nat.pow_succ, Nat.mod_mul, Nat.add_mul, Nat.mul_assoc,
      Nat.mul_comm 256 (256 ^ n), Nat.add_assoc, Nat.mul_comm (_ % 256), Nat.add_comm (256 ^ n * _)]

theorem beVal_beBytes (v n : Nat) : beVal (beBytes v n) = v % 256 ^ n := by
  rw [beVal, foldl_beBytes, Nat.zero_mul, Nat.zero_add]

theorem deSerialize_serialize (hash move weight : Nat) (hh : hash < 2 ^ 64) (hm : move < 2 ^ 16) (hw : weight < 2 ^ 16) :
    deSerialize (serialize hash move weight) = { key := hash, move := move, weight := weight } := by
  show PGEntry.mk (beVal (beBytes hash 8)) (beVal (beBytes move 2)) (beVal (beBytes weight 2)) = _
  rw [beVal_beBytes, beVal_beBytes, beVal_beBytes, Nat.mod_eq_of_lt hh, Nat.mod_eq_of_lt hm, Nat.mod_eq_of_lt hw]

theorem serialize_length (hash move weight : Nat) : (serialize hash move weight).length = 16 := rfl

theorem beVal_append_lt (bs : List UInt8) (a : Nat) :
    bs.foldl (fun a b => a * 256 + b.toNat) a < (a + 1) * 256 ^ bs.length := by
  induction bs generalizing a with
  | nil => simp
  | cons b bs ih =>
    simp only [List.foldl, List.length_cons]
    have hb : b.toNat < 256 := b.toNat_lt
    have h1 := ih (a * 256 + b.toNat)
    have h2 : (a * 256 + b.toNat + 1) * 256 ^ bs.length ≤ ((a + 1) * 256) * 256 ^ bs.length :=
      Nat.mul_le_mul_right _ (by omega)
    rw [Nat.pow_succ, Nat.mul_comm (256 ^ bs.length) 256, ← Nat.mul_assoc]
    omega

theorem beVal_lt (bs : List UInt8) : beVal bs < 256 ^ bs.length := by
  have := beVal_append_lt bs 0
  simpa [beVal] using this

theorem deSerialize_weight_lt (d : List UInt8) : (deSerialize d).weight < 65536 := by
  have h := beVal_lt ((d.drop 10).take 2)
  have hl : ((d.drop 10).take 2).length ≤ 2 := by simp [List.length_take]; omega
  have : 256 ^ ((d.drop 10).take 2).length ≤ 256 ^ 2 := Nat.pow_le_pow_right (by decide) hl
  simp only [deSerialize]
  omega


theorem mkSquare_xy (s : Sq) : mkSquare s.x s.y = s := by
  apply Fin.ext
  simp only [mkSquare, Sq.x, Sq.y]
  have := s.isLt
  omega

theorem decode_fields (a b c d e : Nat) (ha : a < 8) (hb : b < 8) (hc : c < 8) (hd : d < 8) (he : e < 8) :
    (a + b * 8 + c * 64 + d * 512 + e * 4096) % 8 = a ∧
    (a + b * 8 + c * 64 + d * 512 + e * 4096) / 8 % 8 = b ∧
    (a + b * 8 + c * 64 + d * 512 + e * 4096) / 64 % 8 = c ∧
    (a + b * 8 + c * 64 + d * 512 + e * 4096) / 512 % 8 = d ∧
    (a + b * 8 + c * 64 + d * 512 + e * 4096) / 4096 % 8 = e := by
  omega

theorem decodeProm_encodeProm : ∀ (w : Bool), ∀ pr ∈ promos w, decodeProm w (encodeProm pr) = pr := by decide

theorem encodeProm_lt (pr : Pc) : encodeProm pr < 8 := by
  unfold encodeProm
  repeat' split
  all_goals omega

theorem sq_x_lt (s : Sq) : s.x < 8 := Nat.mod_lt _ (by decide)
theorem sq_y_lt (s : Sq) : s.y < 8 := by have := s.isLt; simp only [Sq.y]; omega

theorem ite_lt {c : Prop} [Decidable c] {a b n : Nat} (ha : a < n) (hb : b < n) : (if c then a else b) < n := by
  split
  · exact ha
  · exact hb

theorem encToX_lt (p : Pos) (m : Mv) : encToX p m < 8 := by
  have h1 : (if m.f = E1 ∧ p.at m.f = WKING then (if m.t = G1 then H1.x else if m.t = C1 then A1.x else m.t.x) else m.t.x) < 8 :=
    ite_lt (ite_lt (by decide) (ite_lt (by decide) (sq_x_lt _))) (sq_x_lt _)
  exact ite_lt (ite_lt (by decide) (ite_lt (by decide) h1)) h1

/-- the destination square after encoding and decoding is the original one, provided a king standing on its
    home square does not move to a rook corner (kings move one step or castle) -/
theorem convTo_encToX (p : Pos) (m : Mv)
    (h1 : m.f = E1 → p.at m.f = WKING → m.t ≠ H1 ∧ m.t ≠ A1)
    (h8 : m.f = E8 → p.at m.f = BKING → m.t ≠ H8 ∧ m.t ≠ A8) :
    convTo p m.f (mkSquare (encToX p m) m.t.y) = m.t := by
  have hxy := mkSquare_xy m.t
  unfold convTo encToX
  by_cases c1 : m.f = E1 ∧ p.at m.f = WKING
  · have c8 : ¬ (m.f = E8 ∧ p.at m.f = BKING) := by
      rintro ⟨hf, _⟩; rw [c1.1] at hf; exact absurd hf (by decide)
    obtain ⟨n1, n2⟩ := h1 c1.1 c1.2
    simp only [if_pos c1, if_neg c8]
    by_cases g : m.t = G1
    · simp only [if_pos g]; rw [g]; decide
    · by_cases c : m.t = C1
      · simp only [if_neg g, if_pos c]; rw [c]; decide
      · simp only [if_neg g, if_neg c, hxy, if_neg n1, if_neg n2]
  · by_cases c8 : m.f = E8 ∧ p.at m.f = BKING
    · obtain ⟨n1, n2⟩ := h8 c8.1 c8.2
      simp only [if_neg c1, if_pos c8]
      by_cases g : m.t = G8
      · simp only [if_pos g]; rw [g]; decide
      · by_cases c : m.t = C8
        · simp only [if_neg g, if_pos c]; rw [c]; decide
        · simp only [if_neg g, if_neg c, hxy, if_neg n1, if_neg n2]
    · simp only [if_neg c1, if_neg c8, hxy]

theorem pg_codec_core (p : Pos) (m : Mv) (hpromo : m.promo ∈ promos p.wtm)
    (h1 : m.f = E1 → p.at m.f = WKING → m.t ≠ H1 ∧ m.t ≠ A1)
    (h8 : m.f = E8 → p.at m.f = BKING → m.t ≠ H8 ∧ m.t ≠ A8) :
    getMove p (getPGMove p m) = m := by
  obtain ⟨e1, e2, e3, e4, e5⟩ := decode_fields (encToX p m) m.t.y m.f.x m.f.y (encodeProm m.promo)
    (encToX_lt p m) (sq_y_lt _) (sq_x_lt _) (sq_y_lt _) (encodeProm_lt _)
  unfold getMove getPGMove
  simp only [e1, e2, e3, e4, e5, mkSquare_xy, decodeProm_encodeProm p.wtm m.promo hpromo, convTo_encToX p m h1 h8]

/-- a pseudo-legal king move changes the file by at most two -/
theorem pseudo_king_dx (p : Pos) (m : Mv) (h : pseudo p m = true) (hk : kind (p.at m.f) = 1) :
    (dxy m.f m.t).1.natAbs ≤ 2 := by
  unfold pseudo at h
  simp only [hk, Bool.and_eq_true, Bool.or_eq_true, decide_eq_true_eq, beq_iff_eq] at h
  obtain ⟨_, _, hmv⟩ := h
  rcases hmv with (⟨h, _⟩ | ⟨⟨⟨_, h⟩, _⟩, _⟩) | ⟨⟨⟨_, h⟩, _⟩, _⟩
  · omega
  · omega
  · omega

theorem king_not_to_corner (p : Pos) (m : Mv) (h : pseudo p m = true) (home : Sq) (k : Pc) (hkk : kind k = 1)
    (hf : m.f = home) (hp : p.at m.f = k) (c : Sq) (hc : ((c.x : Int) - home.x).natAbs > 2) : m.t ≠ c := by
  intro ht
  have := pseudo_king_dx p m h (by rw [hp]; exact hkk)
  simp only [dxy, hf, ht] at this
  omega

theorem pg_codec (p : Pos) (m : Mv) (h : legalB p m = true) : getMove p (getPGMove p m) = m := by
  have hp := legalB_pseudo p m h
  refine pg_codec_core p m (pseudo_promo p m hp) ?_ ?_
  · intro hf hk
    exact ⟨king_not_to_corner p m hp E1 WKING (by decide) hf hk H1 (by decide),
           king_not_to_corner p m hp E1 WKING (by decide) hf hk A1 (by decide)⟩
  · intro hf hk
    exact ⟨king_not_to_corner p m hp E8 BKING (by decide) hf hk H8 (by decide),
           king_not_to_corner p m hp E8 BKING (by decide) hf hk A8 (by decide)⟩

end Book
