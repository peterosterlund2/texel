import TexelVerif.Book.Probe
import TexelVerif.Book.PolyglotLemmas
/-! Lemmas about the book probe model (`Book/Probe.lean`). -/
namespace Book
open Chess

/-- key of entry `i` as the probe reads it -/
def keyAt (file : List UInt8) (i : Nat) : Nat := (readEntry file (i : Int)).key

/-- a well-formed polyglot book: keys in non-decreasing order -/
def SortedBook (file : List UInt8) : Prop :=
  ∀ i j : Nat, i ≤ j → j < numEntries file → keyAt file i ≤ keyAt file j


theorem readEntry_weight_lt (file : List UInt8) (e : Int) : (readEntry file e).weight < 65536 := by
  unfold readEntry
  split
  · decide
  · simp only
    split
    · exact deSerialize_weight_lt _
    · decide


theorem bsearch_range (file : List UInt8) (key : Nat) (lo hi : Int) (h : lo < hi) :
    lo < bsearch file key lo hi ∧ bsearch file key lo hi ≤ hi := by
  induction lo, hi using bsearch.induct file key with
  | case1 lo hi hgt hlt ih =>
    have hm := midpoint_between lo hi hgt
    rw [bsearch, dif_pos hgt, if_pos hlt]
    have := ih hm.2
    omega
  | case2 lo hi hgt hlt ih =>
    have hm := midpoint_between lo hi hgt
    rw [bsearch, dif_pos hgt, if_neg hlt]
    have := ih hm.1
    omega
  | case3 lo hi hgt =>
    rw [bsearch, dif_neg hgt]
    omega

/-- every record the binary search reads lies inside the file: with `-1 ≤ lo` and `hi ≤ numEntries` the
    midpoint is a valid entry number, and both bounds are preserved -/
theorem bsearch_mid_in_range (n : Int) (lo hi : Int) (hlo : -1 ≤ lo) (hhi : hi ≤ n) (h : hi - lo > 1) :
    0 ≤ midpoint lo hi ∧ midpoint lo hi < n := by
  have := midpoint_between lo hi h
  omega

/-- the loop runs at most `k` times when `hi - lo ≤ 2^k` -/
theorem bsearchIters_le (file : List UInt8) (key : Nat) (k : Nat) :
    ∀ lo hi : Int, hi - lo ≤ (2 ^ k : Nat) → bsearchIters file key lo hi ≤ k := by
  induction k with
  | zero =>
    intro lo hi h
    rw [bsearchIters, dif_neg (by simp at h; omega)]
    exact Nat.le_refl _
  | succ k ih =>
    intro lo hi h
    rw [bsearchIters]
    split
    · rename_i hgt
      have hm := midpoint_between lo hi hgt
      have hmid := midpoint_eq lo hi
      have hp : ((2 ^ (k + 1) : Nat) : Int) = 2 * ((2 ^ k : Nat) : Int) := by
        rw [Nat.pow_succ]; omega
      split
      · have := ih (midpoint lo hi) hi (by rcases hmid with e | e <;> omega)
        omega
      · have := ih lo (midpoint lo hi) (by rcases hmid with e | e <;> omega)
        omega
    · omega

/-- the search invariant on a sorted book -/
theorem bsearch_sorted (file : List UInt8) (key : Nat) (hs : SortedBook file) (lo hi : Int)
    (hlo : -1 ≤ lo) (hlt : lo < hi) (hhi : hi ≤ (numEntries file : Int))
    (h1 : ∀ i : Nat, (i : Int) ≤ lo → keyAt file i < key)
    (h2 : ∀ i : Nat, hi ≤ (i : Int) → i < numEntries file → key ≤ keyAt file i) :
    (∀ i : Nat, (i : Int) < bsearch file key lo hi → keyAt file i < key) ∧
    (∀ i : Nat, bsearch file key lo hi ≤ (i : Int) → i < numEntries file → key ≤ keyAt file i) := by
  induction lo, hi using bsearch.induct file key with
  | case1 lo hi hgt hkey ih =>
    have hm := midpoint_between lo hi hgt
    rw [bsearch, dif_pos hgt, if_pos hkey]
    have hmid : midpoint lo hi = ((midpoint lo hi).toNat : Int) := by omega
    apply ih (by omega) hm.2 hhi
    · intro i hi'
      have hle : i ≤ (midpoint lo hi).toNat := by omega
      have hlt' : (midpoint lo hi).toNat < numEntries file := by omega
      have := hs i (midpoint lo hi).toNat hle hlt'
      have hk : keyAt file (midpoint lo hi).toNat < key := by
        unfold keyAt; rw [← hmid]; exact hkey
      omega
    · exact h2
  | case2 lo hi hgt hkey ih =>
    have hm := midpoint_between lo hi hgt
    rw [bsearch, dif_pos hgt, if_neg hkey]
    have hmid : midpoint lo hi = ((midpoint lo hi).toNat : Int) := by omega
    apply ih hlo hm.1 (by omega) h1
    intro i hi' hin
    have hle : (midpoint lo hi).toNat ≤ i := by omega
    have := hs (midpoint lo hi).toNat i hle hin
    have hk : key ≤ keyAt file (midpoint lo hi).toNat := by
      unfold keyAt; rw [← hmid]; omega
    omega
  | case3 lo hi hgt =>
    rw [bsearch, dif_neg hgt]
    exact ⟨fun i hi' => h1 i (by omega), h2⟩


theorem collectIdx_spec (file : List UInt8) (key : Nat) (s : Nat) :
    ∀ i ∈ collectIdx file key s, s ≤ i ∧ i < numEntries file ∧ keyAt file i = key := by
  induction s using collectIdx.induct file key with
  | case1 s hlt hne =>
    intro i hi
    rw [collectIdx, if_pos hlt, if_pos hne] at hi
    cases hi
  | case2 s hlt heq ih =>
    intro i hi
    rw [collectIdx, if_pos hlt, if_neg heq] at hi
    rcases List.mem_cons.mp hi with rfl | hi
    · refine ⟨Nat.le_refl _, hlt, ?_⟩
      unfold keyAt
      exact Decidable.not_not.mp heq
    · have := ih i hi
      exact ⟨by omega, this.2⟩
  | case3 s hge =>
    intro i hi
    rw [collectIdx, if_neg hge] at hi
    cases hi

theorem collectIdx_length (file : List UInt8) (key : Nat) (s : Nat) :
    (collectIdx file key s).length ≤ numEntries file - s := by
  induction s using collectIdx.induct file key with
  | case1 s hlt hne => rw [collectIdx, if_pos hlt, if_pos hne]; simp
  | case2 s hlt heq ih =>
    rw [collectIdx, if_pos hlt, if_neg heq, List.length_cons]
    omega
  | case3 s hge => rw [collectIdx, if_neg hge]; simp

/-- on a sorted book, the run collected from a position `s` at or after which no key is below `key` is exactly
    the list of entries from `s` on that carry the key -/
theorem collectIdx_sorted (file : List UInt8) (key : Nat) (hs : SortedBook file) (s : Nat)
    (h2 : ∀ i : Nat, s ≤ i → i < numEntries file → key ≤ keyAt file i) :
    collectIdx file key s = (List.range' s (numEntries file - s)).filter (fun i => keyAt file i = key) := by
  induction s using collectIdx.induct file key with
  | case1 s hlt hne =>
    rw [collectIdx, if_pos hlt, if_pos hne]
    symm
    rw [List.filter_eq_nil_iff]
    intro i hi
    rw [List.mem_range'_1] at hi
    have h3 := hs s i hi.1 (by omega)
    have h4 := h2 s (Nat.le_refl _) hlt
    have h5 : keyAt file s ≠ key := hne
    simp only [decide_eq_true_eq]
    omega
  | case2 s hlt heq ih =>
    rw [collectIdx, if_pos hlt, if_neg heq]
    have hk : keyAt file s = key := Decidable.not_not.mp heq
    have hn : numEntries file - s = (numEntries file - (s + 1)) + 1 := by omega
    rw [hn, List.range'_succ, List.filter_cons]
    simp only [hk, decide_true, if_true]
    rw [ih (fun i hi hin => h2 i (by omega) hin)]
  | case3 s hge =>
    rw [collectIdx, if_neg hge]
    have : numEntries file - s = 0 := by omega
    rw [this]; rfl

theorem candidateIdx_own_key (file : List UInt8) (key : Nat) :
    ∀ i ∈ candidateIdx file key, i < numEntries file ∧ keyAt file i = key := by
  intro i hi
  exact (collectIdx_spec file key _ i hi).2

theorem candidateIdx_sorted (file : List UInt8) (key : Nat) (hs : SortedBook file) :
    candidateIdx file key = (List.range (numEntries file)).filter (fun i => keyAt file i = key) := by
  have hr := bsearch_range file key (-1) (numEntries file) (by omega)
  have hb := bsearch_sorted file key hs (-1) (numEntries file) (Int.le_refl _) (by omega) (Int.le_refl _)
    (fun i hi => by omega) (fun i hi hin => by omega)
  generalize hrv : bsearch file key (-1) (numEntries file) = r at hr hb
  have hr0 : r = (r.toNat : Int) := by omega
  have hrn : r.toNat ≤ numEntries file := by omega
  unfold candidateIdx
  rw [hrv, collectIdx_sorted file key hs r.toNat (fun i hi hin => hb.2 i (by omega) hin)]
  have hsplit : List.range (numEntries file) = List.range' 0 r.toNat ++ List.range' r.toNat (numEntries file - r.toNat) := by
    have h := @List.range'_append_1 0 r.toNat (numEntries file - r.toNat)
    rw [Nat.zero_add] at h
    rw [List.range_eq_range', h]
    congr 1; omega
  rw [hsplit, List.filter_append]
  have hnil : (List.range' 0 r.toNat).filter (fun i => keyAt file i = key) = [] := by
    rw [List.filter_eq_nil_iff]
    intro i hi
    rw [List.mem_range'_1] at hi
    have := hb.1 i (by omega)
    simp only [decide_eq_true_eq]
    omega
  rw [hnil, List.nil_append]


theorem sum_nonneg_of (l : List Int) (h : ∀ x ∈ l, 0 ≤ x) : 0 ≤ l.sum := by
  induction l with
  | nil => simp
  | cons a l ih =>
    rw [List.sum_cons]
    have := h a List.mem_cons_self
    have := ih (fun x hx => h x (List.mem_cons_of_mem _ hx))
    omega

theorem sumIfLegal_legal (legal : List Mv) (cs : List (Mv × Int)) (s t : Int)
    (h : sumIfLegal legal cs s = some t) : ∀ c ∈ cs, c.1 ∈ legal := by
  induction cs generalizing s with
  | nil => intro c hc; cases hc
  | cons d ds ih =>
    intro c hc
    unfold sumIfLegal at h
    split at h
    · rename_i hd
      rcases List.mem_cons.mp hc with rfl | hc
      · exact List.contains_iff_mem.mp hd
      · exact ih _ h c hc
    · cases h

theorem sumIfLegal_value (legal : List Mv) (cs : List (Mv × Int)) (s : Int)
    (h : ∀ c ∈ cs, c.1 ∈ legal) : sumIfLegal legal cs s = some (s + (cs.map (fun c : Mv × Int => c.2)).sum) := by
  induction cs generalizing s with
  | nil => simp [sumIfLegal]
  | cons d ds ih =>
    unfold sumIfLegal
    have hd : legal.contains d.1 = true := List.contains_iff_mem.mpr (h d (List.mem_cons_self))
    rw [if_pos hd, ih _ (fun c hc => h c (List.mem_cons_of_mem _ hc))]
    simp only [List.map_cons, List.sum_cons]
    congr 1; omega

theorem pick_mem (cs : List (Mv × Int)) (rnd acc : Int) (m : Mv) (h : pick cs rnd acc = some m) :
    ∃ c ∈ cs, c.1 = m := by
  induction cs generalizing acc with
  | nil => cases h
  | cons d ds ih =>
    unfold pick at h
    split at h
    · exact ⟨d, List.mem_cons_self, by injection h⟩
    · obtain ⟨c, hc, e⟩ := ih _ h
      exact ⟨c, List.mem_cons_of_mem _ hc, e⟩

/-- the candidate reached by the draw equal to the total weight before it -/
theorem pick_at (pre : List (Mv × Int)) (c : Mv × Int) (post : List (Mv × Int)) (acc : Int)
    (hpre : ∀ d ∈ pre, 0 ≤ d.2) (hc : 0 < c.2) :
    pick (pre ++ c :: post) (acc + (pre.map (fun c : Mv × Int => c.2)).sum) acc = some c.1 := by
  induction pre generalizing acc with
  | nil =>
    simp only [List.nil_append, List.map_nil, List.sum_nil]
    unfold pick
    rw [if_pos (by omega)]
  | cons d ds ih =>
    have hd := hpre d List.mem_cons_self
    have hs : 0 ≤ (ds.map (fun c : Mv × Int => c.2)).sum := by
      apply sum_nonneg_of
      intro x hx
      obtain ⟨e, he, rfl⟩ := List.mem_map.mp hx
      exact hpre e (List.mem_cons_of_mem _ he)
    simp only [List.cons_append, List.map_cons, List.sum_cons]
    unfold pick
    rw [if_neg (by omega)]
    have := ih (acc + d.2) (fun e he => hpre e (List.mem_cons_of_mem _ he))
    rw [← this]
    congr 1; omega

theorem selectMove_safe (p : Pos) (cands : List (Mv × Int)) (r : Nat) :
    selectMove p cands r = none ∨
    ∃ m, selectMove p cands r = some m ∧ legalB p m = true ∧ ∃ c ∈ cands, c.1 = m := by
  unfold selectMove
  split
  · exact Or.inl rfl
  · split
    · exact Or.inl rfl
    · rename_i sum hsum
      split
      · exact Or.inl rfl
      · cases hp : pick cands ((r % sum.toNat : Nat) : Int) 0 with
        | none => exact Or.inl rfl
        | some m =>
          right
          obtain ⟨c, hc, e⟩ := pick_mem _ _ _ _ hp
          refine ⟨m, rfl, ?_, c, hc, e⟩
          have := sumIfLegal_legal _ _ _ _ hsum c hc
          rw [e] at this
          exact (mem_genLegal p m).mp this


theorem sum_le_of (l : List Int) (B : Int) (h : ∀ x ∈ l, x ≤ B) : l.sum ≤ l.length * B := by
  induction l with
  | nil => simp
  | cons a l ih =>
    rw [List.sum_cons, List.length_cons]
    have h1 := h a List.mem_cons_self
    have h2 := ih (fun x hx => h x (List.mem_cons_of_mem _ hx))
    have : ((l.length + 1 : Nat) : Int) * B = l.length * B + B := by
      rw [Int.natCast_add, Int.add_mul]; simp
    omega

theorem sum_replicate_int (n : Nat) (a : Int) : (List.replicate n a).sum = n * a := by
  induction n with
  | zero => simp
  | succ n ih =>
    rw [List.replicate_succ, List.sum_cons, ih, Int.natCast_add, Int.add_mul]
    simp only [Int.cast_ofNat_Int, Int.one_mul]; omega

theorem entriesForKey_weights (file : List UInt8) (p : Pos) (key : Nat) :
    (∀ c ∈ entriesForKey file p key, 0 ≤ c.2 ∧ c.2 ≤ 65535) ∧
    (entriesForKey file p key).length ≤ numEntries file := by
  constructor
  · intro c hc
    unfold entriesForKey at hc
    obtain ⟨i, _, rfl⟩ := List.mem_map.mp hc
    have := readEntry_weight_lt file (i : Int)
    simp only
    omega
  · unfold entriesForKey candidateIdx
    rw [List.length_map]
    have := collectIdx_length file key (bsearch file key (-1) (numEntries file)).toNat
    omega

/-- the weight sum of any probe is between 0 and 65535 · numEntries -/
theorem weight_sum_bound (file : List UInt8) (p : Pos) (key : Nat) :
    0 ≤ ((entriesForKey file p key).map (fun c : Mv × Int => c.2)).sum ∧
    ((entriesForKey file p key).map (fun c : Mv × Int => c.2)).sum ≤ (numEntries file : Int) * 65535 := by
  obtain ⟨hw, hl⟩ := entriesForKey_weights file p key
  constructor
  · apply sum_nonneg_of
    intro x hx
    obtain ⟨c, hc, rfl⟩ := List.mem_map.mp hx
    exact (hw c hc).1
  · have h := sum_le_of ((entriesForKey file p key).map (fun c : Mv × Int => c.2)) 65535 (by
      intro x hx
      obtain ⟨c, hc, rfl⟩ := List.mem_map.mp hx
      exact (hw c hc).2)
    rw [List.length_map] at h
    have : ((entriesForKey file p key).length : Int) * 65535 ≤ (numEntries file : Int) * 65535 :=
      Int.mul_le_mul_of_nonneg_right (by omega) (by decide)
    omega

end Book
