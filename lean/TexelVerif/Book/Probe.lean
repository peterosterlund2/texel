import TexelVerif.Book.Polyglot
/-!
# The book probe (`lib/texellib/book/book.cpp`, `Book::getBookEntries` / `Book::getBookMove`)

A book file is an arbitrary `List UInt8`.  The model follows the code statement by statement (after the
64-bit repair `fix: 64-bit arithmetic in the polyglot book probe`):

* `numEntries = fileLen / 16` (a trailing partial record is never looked at; a missing file has
  `tellg() = -1`, hence `numEntries = 0`, i.e. behaves as the empty byte string);
* `readEntry(entNo)`: seek to `16·entNo`, read 16 bytes, zero-fill when the read fails;
* binary search `lo = -1, hi = numEntries; while (hi - lo > 1) { mid = (lo + hi) / 2; … }` on signed integers,
  *without* assuming the file is sorted;
* collect the run of records with the probe key starting at `hi`;
* every candidate must be in the legal move list, otherwise no book move; weighted random pick.
-/
namespace Book
open Chess

def numEntries (file : List UInt8) : Nat := file.length / 16

/-- what `readEntry` leaves in the record after a failed read (all 16 bytes zero) -/
def zeroEntry : PGEntry := { key := 0, move := 0, weight := 0 }

/-- the lambda `readEntry` followed by `deSerialize`; a negative entry number is a negative seek offset, which
    fails like a short read does -/
def readEntry (file : List UInt8) (entNo : Int) : PGEntry :=
  if entNo < 0 then zeroEntry
  else
    let d := (file.drop (16 * entNo.toNat)).take 16
    if d.length = 16 then deSerialize d else zeroEntry

/-- C++ `(lo + hi) / 2` on signed integers (truncating division) -/
def midpoint (lo hi : Int) : Int := (lo + hi).tdiv 2

/-- C++ `/` truncates towards zero: floor division for a non-negative sum, ceiling for a negative one -/
theorem midpoint_eq (lo hi : Int) : midpoint lo hi = (lo + hi) / 2 ∨ midpoint lo hi = -((-(lo + hi)) / 2) := by
  unfold midpoint
  rcases Int.le_total 0 (lo + hi) with hs | hs
  · left; exact Int.tdiv_eq_ediv_of_nonneg hs
  · right
    have h2 : (lo + hi).tdiv 2 = -((-(lo + hi)).tdiv 2) := by rw [Int.neg_tdiv]; omega
    rw [h2, Int.tdiv_eq_ediv_of_nonneg (by omega)]

theorem midpoint_between (lo hi : Int) (h : hi - lo > 1) : lo < midpoint lo hi ∧ midpoint lo hi < hi := by
  rcases midpoint_eq lo hi with e | e
  · rw [e]; omega
  · rw [e]; omega

/-- the `while (hi - lo > 1)` loop; returns the final `hi` -/
def bsearch (file : List UInt8) (key : Nat) (lo hi : Int) : Int :=
  if _h : hi - lo > 1 then
    if (readEntry file (midpoint lo hi)).key < key then bsearch file key (midpoint lo hi) hi
    else bsearch file key lo (midpoint lo hi)
  else hi
termination_by (hi - lo).toNat
decreasing_by
  all_goals (have := midpoint_between lo hi _h; omega)

/-- number of iterations of the same loop (for the explicit termination bound) -/
def bsearchIters (file : List UInt8) (key : Nat) (lo hi : Int) : Nat :=
  if _h : hi - lo > 1 then
    if (readEntry file (midpoint lo hi)).key < key then bsearchIters file key (midpoint lo hi) hi + 1
    else bsearchIters file key lo (midpoint lo hi) + 1
  else 0
termination_by (hi - lo).toNat
decreasing_by
  all_goals (have := midpoint_between lo hi _h; omega)

/-- `for (entNo = hi; entNo < numEntries; entNo++) { …; if (entHash != key) break; push }`: the entry numbers pushed -/
def collectIdx (file : List UInt8) (key : Nat) (entNo : Nat) : List Nat :=
  if entNo < numEntries file then
    if (readEntry file entNo).key ≠ key then [] else entNo :: collectIdx file key (entNo + 1)
  else []
termination_by numEntries file - entNo

/-- entry numbers of the records `getBookEntries` returns for `key` -/
def candidateIdx (file : List UInt8) (key : Nat) : List Nat :=
  collectIdx file key (bsearch file key (-1) (numEntries file)).toNat

/-- `Book::getBookEntries` for a polyglot file: (move, count) pairs, the count being the 16-bit weight -/
def entriesForKey (file : List UInt8) (p : Pos) (key : Nat) : List (Mv × Int) :=
  (candidateIdx file key).map fun (i : Nat) => (getMove p (readEntry file (i : Int)).move, ((readEntry file (i : Int)).weight : Int))

/-! ### linear-time execution of `entriesForKey`

`readEntry` on a `List` walks to the record from the start of the file each time, which makes the run of a huge
equal-key book quadratic when the model is *executed* by the differential driver.  `entriesForKeyFast` walks the
run once; `entriesForKey_eq_fast` proves it equal, and `@[csimp]` lets the compiler use it.  No theorem uses it. -/

theorem readEntry_in_range (file : List UInt8) (i : Nat) (h : i < numEntries file) :
    ((file.drop (16 * i)).take 16).length = 16 ∧
    readEntry file (i : Int) = deSerialize ((file.drop (16 * i)).take 16) := by
  have hl : ((file.drop (16 * i)).take 16).length = 16 := by
    simp only [List.length_take, List.length_drop]
    unfold numEntries at h
    omega
  refine ⟨hl, ?_⟩
  unfold readEntry
  have : ¬ ((i : Int) < 0) := by omega
  simp only [this, if_false, Int.toNat_natCast, hl, if_true]

def runFast (p : Pos) (key : Nat) : List UInt8 → Nat → List (Mv × Int)
  | _, 0 => []
  | rest, k + 1 =>
    let e := deSerialize (rest.take 16)
    if e.key ≠ key then [] else (getMove p e.move, (e.weight : Int)) :: runFast p key (rest.drop 16) k

def entriesForKeyFast (file : List UInt8) (p : Pos) (key : Nat) : List (Mv × Int) :=
  let s := (bsearch file key (-1) (numEntries file)).toNat
  runFast p key (file.drop (16 * s)) (numEntries file - s)

theorem collect_eq_runFast (file : List UInt8) (p : Pos) (key : Nat) (k : Nat) :
    ∀ s, numEntries file - s = k →
      (collectIdx file key s).map (fun (i : Nat) => (getMove p (readEntry file (i : Int)).move, ((readEntry file (i : Int)).weight : Int)))
        = runFast p key (file.drop (16 * s)) k := by
  induction k with
  | zero =>
    intro s hs
    rw [collectIdx, if_neg (by omega)]
    rfl
  | succ k ih =>
    intro s hs
    have hlt : s < numEntries file := by omega
    have hr := (readEntry_in_range file s hlt).2
    rw [collectIdx, if_pos hlt]
    simp only [runFast]
    rw [← hr]
    by_cases hk : (readEntry file (s : Int)).key ≠ key
    · rw [if_pos hk, if_pos hk]; rfl
    · rw [if_neg hk, if_neg hk, List.map_cons, ih (s + 1) (by omega), List.drop_drop]
      have : 16 * (s + 1) = 16 * s + 16 := by omega
      rw [this]

@[csimp] theorem entriesForKey_eq_fast : @entriesForKey = @entriesForKeyFast := by
  funext file p key
  unfold entriesForKey entriesForKeyFast candidateIdx
  exact collect_eq_runFast file p key _ _ rfl

def getBookEntries (file : List UInt8) (p : Pos) : List (Mv × Int) :=
  entriesForKey file p (getHashKey p).toNat

/-- first loop of `getBookMove`: `none` as soon as a candidate is not in the legal list, else the weight sum -/
def sumIfLegal (legal : List Mv) : List (Mv × Int) → Int → Option Int
  | [], s => some s
  | c :: cs, s => if legal.contains c.1 then sumIfLegal legal cs (s + c.2) else none

/-- second loop: first candidate whose running sum exceeds `rnd` (`none` = the "should never get here" exit) -/
def pick : List (Mv × Int) → Int → Int → Option Mv
  | [], _, _ => none
  | c :: cs, rnd, acc => if rnd < acc + c.2 then some c.1 else pick cs rnd (acc + c.2)

/-- `Book::getBookMove` after `getBookEntries`, for any list of (move, weight) candidates — the same code serves
    the polyglot file and the built-in book.  `r` is the raw 64-bit draw `rndGen.nextU64()`. -/
def selectMove (p : Pos) (cands : List (Mv × Int)) (r : Nat) : Option Mv :=
  if cands.isEmpty then none
  else
    match sumIfLegal (genLegal p) cands 0 with
    | none => none
    | some sum => if sum ≤ 0 then none else pick cands ((r % sum.toNat : Nat) : Int) 0

/-- a probe of the polyglot file `file` -/
def getBookMove (file : List UInt8) (p : Pos) (r : Nat) : Option Mv :=
  selectMove p (getBookEntries file p) r

end Book
