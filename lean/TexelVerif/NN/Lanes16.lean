import TexelVerif.NN.Refine
/-! Transfer of the refinement theorem from exact integer lanes to the arithmetic the code really uses:
    vectors of wrapping 16-bit lanes (`Vector<S16, n1>`, `_mm*_add_epi16` / `+=` on `S16`).
    The evaluator's control flow never inspects accumulator values, so every map `φ` that respects `+` and `-`
    commutes with the whole state machine (`runTr_map`); `BitVec.ofInt 16` and lane projection are such maps. -/
namespace NN

section hom
variable {V V' : Type} [Add V] [Sub V] [Add V'] [Sub V']

/-- a map between accumulator types that respects the two operations the evaluator uses -/
structure Hom (V V' : Type) [Add V] [Sub V] [Add V'] [Sub V'] where
  f : V → V'
  add : ∀ a b, f (a + b) = f a + f b
  sub : ∀ a b, f (a - b) = f a - f b

def Net.map (φ : V → V') (N : Net V) : Net V' := { idx := N.idx, W := fun i => φ (N.W i), bias := φ N.bias }
def FLS.map (φ : V → V') (s : FLS V) : FLS V' := { l1 := φ s.l1, toAdd := s.toAdd, toSub := s.toSub, ksq := s.ksq }
def Lvl.map (φ : V → V') (l : Lvl V) : Lvl V' := { w := l.w.map φ, b := l.b.map φ }
def St.map (φ : V → V') (st : St V) : St V' := { top := st.top.map φ, below := st.below.map (Lvl.map φ), aborted := st.aborted }

variable (φ : Hom V V') (N : Net V)

theorem addRows_map (x : V) (l : List Nat) : addRows (N.map φ.f) (φ.f x) l = φ.f (addRows N x l) := by
  unfold addRows
  induction l generalizing x with
  | nil => rfl
  | cons a l ih => simp only [List.foldl_cons]; rw [← ih]; simp only [Net.map, φ.add]

theorem subRows_map (x : V) (l : List Nat) : subRows (N.map φ.f) (φ.f x) l = φ.f (subRows N x l) := by
  unfold subRows
  induction l generalizing x with
  | nil => rfl
  | cons a l ih => simp only [List.foldl_cons]; rw [← ih]; simp only [Net.map, φ.sub]

theorem fresh_map (c : Bool) (k : Sq) (b : Board) : fresh (N.map φ.f) c k b = φ.f (fresh N c k b) := by
  unfold fresh
  have : activeFeatures (N.map φ.f) c k b = activeFeatures N c k b := rfl
  rw [this]
  exact addRows_map φ N N.bias _

theorem applyPending_map (s : FLS V) : applyPending (N.map φ.f) (s.map φ.f) = φ.f (applyPending N s) := by
  unfold applyPending
  simp only [FLS.map]
  rw [addRows_map, subRows_map]

theorem flush1_map (c : Bool) (s : FLS V) (k : Sq) (b : Board) :
    flush1 (N.map φ.f) c (s.map φ.f) k b = (flush1 N c s k b).map φ.f := by
  unfold flush1
  have hk : (s.map φ.f).ksq = s.ksq := rfl
  rw [hk]
  split
  · simp only [FLS.map]
    rw [← applyPending_map φ N s]; rfl
  · simp only [FLS.map, fresh_map]

theorem clear_map (s : FLS V) : (s.map φ.f).clear = (s.clear).map φ.f := rfl

theorem pushSub_map (s : FLS V) (i : Nat) : pushSub (s.map φ.f) i = (pushSub s i).map φ.f := by
  unfold pushSub
  have : (s.map φ.f).toSub = s.toSub := rfl
  rw [this]; split <;> rfl

theorem pushAdd_map (s : FLS V) (i : Nat) : pushAdd (s.map φ.f) i = (pushAdd s i).map φ.f := by
  unfold pushAdd
  have : (s.map φ.f).toAdd = s.toAdd := rfl
  rw [this]; split <;> rfl

theorem setPiece1_map (c : Bool) (s : FLS V) (sq : Sq) (o n : Pc) :
    setPiece1 (N.map φ.f) c (s.map φ.f) sq o n = (setPiece1 N c s sq o n).map φ.f := by
  unfold setPiece1
  have hk : (s.map φ.f).ksq = s.ksq := rfl
  rw [hk]
  cases s.ksq with
  | none => rfl
  | some k =>
    simp only
    have hidx : ∀ p, (N.map φ.f).idx c k p sq = N.idx c k p sq := fun _ => rfl
    rw [hidx, hidx]
    have h1 : (if isNonKing o then pushSub (s.map φ.f) (N.idx c k o sq) else s.map φ.f)
        = (if isNonKing o then pushSub s (N.idx c k o sq) else s).map φ.f := by
      split
      · exact pushSub_map φ s _
      · rfl
    rw [h1]
    generalize (if isNonKing o then pushSub s (N.idx c k o sq) else s) = s1
    have hk1 : (s1.map φ.f).ksq = s1.ksq := rfl
    rw [hk1]
    cases s1.ksq with
    | none => rfl
    | some _ =>
      simp only
      split
      · exact pushAdd_map φ s1 _
      · rfl

theorem computeL1WB_map (l : Lvl V) (b : Board) :
    computeL1WB (N.map φ.f) (l.map φ.f) b = (computeL1WB N l b).map φ.f := by
  unfold computeL1WB Lvl.map
  simp only [flush1_map]

theorem pending_map (s : FLS V) : pending (s.map φ.f) = pending s := rfl

theorem bottom_map (st : St V) : (st.map φ.f).bottom = st.bottom.map φ.f := by
  unfold St.bottom
  simp only [St.map, List.getLast?_map]
  cases st.below.getLast? <;> rfl

theorem step_map (st : St V) (b : Board) (op : Op) :
    step (N.map φ.f) (st.map φ.f) b op = (step N st b op).map φ.f := by
  unfold step
  have ha : (st.map φ.f).aborted = st.aborted := rfl
  rw [ha]
  split
  · rfl
  · cases op with
    | setPiece sq o n =>
      simp only [setPiece, St.map, Lvl.map, setPiece1_map]
    | push =>
      simp only [pushState]
      have e1 : (if pending (st.map φ.f).top.w then computeL1WB (N.map φ.f) (st.map φ.f).top b else (st.map φ.f).top)
          = (if pending st.top.w then computeL1WB N st.top b else st.top).map φ.f := by
        have : (st.map φ.f).top = st.top.map φ.f := rfl
        rw [this]
        have : pending (st.top.map φ.f).w = pending st.top.w := rfl
        rw [this]
        split
        · exact computeL1WB_map φ N _ _
        · rfl
      rw [e1]
      generalize (if pending st.top.w then computeL1WB N st.top b else st.top) = t1
      have e2 : (if pending (t1.map φ.f).b then computeL1WB (N.map φ.f) (t1.map φ.f) b else t1.map φ.f)
          = (if pending t1.b then computeL1WB N t1 b else t1).map φ.f := by
        have : pending (t1.map φ.f).b = pending t1.b := rfl
        rw [this]
        split
        · exact computeL1WB_map φ N _ _
        · rfl
      rw [e2]
      have hl : (st.map φ.f).below.length = st.below.length := by simp [St.map]
      rw [hl]
      split <;> rfl
    | pop =>
      simp only [popState]
      have hb : (st.map φ.f).below = st.below.map (Lvl.map φ.f) := rfl
      rw [hb]
      cases hbl : st.below with
      | nil =>
        simp only [List.map_nil, forceFullEval, bottom_map]
        rfl
      | cons l r => rfl
    | reset =>
      simp only [forceFullEval, bottom_map]
      rfl
    | eval =>
      simp only [evalFlush]
      have : (st.map φ.f).top = st.top.map φ.f := rfl
      rw [this, computeL1WB_map]
      rfl

theorem runTr_map (tr : Trace) (st : St V) (b : Board) :
    runTr (N.map φ.f) (st.map φ.f) b tr = ((runTr N st b tr).1.map φ.f, (runTr N st b tr).2) := by
  induction tr generalizing st b with
  | nil => rfl
  | cons x tr ih =>
    obtain ⟨op, b'⟩ := x
    simp only [runTr]
    rw [step_map, ih]

theorem evalAcc_map (st : St V) (b : Board) (c : Bool) :
    evalAcc (N.map φ.f) (st.map φ.f) b c = φ.f (evalAcc N st b c) := by
  unfold evalAcc
  have : (st.map φ.f).top = st.top.map φ.f := rfl
  rw [this, computeL1WB_map]
  unfold Lvl.get Lvl.map
  cases c <;> rfl

theorem init_map (x : V) : (St.init x).map φ.f = St.init (φ.f x) := rfl

end hom


theorem ofInt_sub16 (x y : Int) : BitVec.ofInt 16 (x - y) = BitVec.ofInt 16 x - BitVec.ofInt 16 y := by
  rw [Int.sub_eq_add_neg, BitVec.ofInt_add, BitVec.ofInt_neg, BitVec.sub_eq_add_neg]

/-- reduction modulo 2^16 (two's complement `S16`) -/
def wrap16 : Hom Int (BitVec 16) := { f := BitVec.ofInt 16, add := fun _ _ => BitVec.ofInt_add _ _, sub := ofInt_sub16 }

/-- an accumulator as the code has it: a vector of wrapping 16-bit lanes (any number of lanes) -/
def Lanes := Nat → BitVec 16
instance : Add Lanes := ⟨fun a b i => a i + b i⟩
instance : Sub Lanes := ⟨fun a b i => a i - b i⟩

def lane (i : Nat) : Hom Lanes (BitVec 16) := { f := fun a => a i, add := fun _ _ => rfl, sub := fun _ _ => rfl }

/-- the exact-integer network that lane `i` of a 16-bit network is the image of -/
def Net.laneInt (N : Net Lanes) (i : Nat) : Net Int :=
  { idx := N.idx, W := fun f => (N.W f i).toInt, bias := (N.bias i).toInt }

theorem laneInt_map (N : Net Lanes) (i : Nat) : (N.laneInt i).map wrap16.f = N.map (lane i).f := by
  simp only [Net.map, Net.laneInt, wrap16, lane, BitVec.ofInt_toInt]

/-- The refinement theorem for the arithmetic of the code: 16-bit wrapping lanes, arbitrary weights. -/
theorem refines_lanes (N : Net Lanes) (tr : Trace) (b0 : Board) (x : Lanes) (hwf : WF b0 [] tr)
    (hna : (runTr N (St.init x) b0 tr).1.aborted = false) (white : Bool) :
    evalAcc N (runTr N (St.init x) b0 tr).1 (runTr N (St.init x) b0 tr).2 white
      = fresh N white (kingSq white (runTr N (St.init x) b0 tr).2) (runTr N (St.init x) b0 tr).2 := by
  funext i
  -- lane projection of the 16-bit run
  have hL := runTr_map (lane i) N tr (St.init x) b0
  have hI := runTr_map wrap16 (N.laneInt i) tr (St.init ((x i).toInt)) b0
  rw [init_map] at hL hI
  have hx : wrap16.f ((x i).toInt) = (lane i).f x := by simp [wrap16, lane, BitVec.ofInt_toInt]
  rw [laneInt_map, hx, hL] at hI
  -- boards and abort flags agree
  have hb : (runTr (N.laneInt i) (St.init ((x i).toInt)) b0 tr).2 = (runTr N (St.init x) b0 tr).2 := by
    have := congrArg Prod.snd hI; simpa using this.symm
  have hs : (runTr N (St.init x) b0 tr).1.map (lane i).f
      = (runTr (N.laneInt i) (St.init ((x i).toInt)) b0 tr).1.map wrap16.f := by
    have := congrArg Prod.fst hI; simpa using this
  have hna' : (runTr (N.laneInt i) (St.init ((x i).toInt)) b0 tr).1.aborted = false := by
    have := congrArg St.aborted hs
    simp only [St.map] at this
    rw [← this]; exact hna
  have hint := refines_int (N.laneInt i) tr b0 ((x i).toInt) hwf hna' white
  rw [hb] at hint
  -- push both sides through the homomorphisms
  have e1 := evalAcc_map (lane i) N (runTr N (St.init x) b0 tr).1 (runTr N (St.init x) b0 tr).2 white
  have e2 := evalAcc_map wrap16 (N.laneInt i) (runTr (N.laneInt i) (St.init ((x i).toInt)) b0 tr).1
    (runTr N (St.init x) b0 tr).2 white
  have f1 := fresh_map (lane i) N white (kingSq white (runTr N (St.init x) b0 tr).2) (runTr N (St.init x) b0 tr).2
  have f2 := fresh_map wrap16 (N.laneInt i) white (kingSq white (runTr N (St.init x) b0 tr).2) (runTr N (St.init x) b0 tr).2
  rw [laneInt_map] at e2 f2
  rw [← hs] at e2
  have : (lane i).f (evalAcc N (runTr N (St.init x) b0 tr).1 (runTr N (St.init x) b0 tr).2 white)
      = (lane i).f (fresh N white (kingSq white (runTr N (St.init x) b0 tr).2) (runTr N (St.init x) b0 tr).2) := by
    rw [← e1, e2, hint, ← f2, f1]
  exact this

end NN
