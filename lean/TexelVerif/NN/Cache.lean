/-! Model of the evaluation cache in `Evaluate::evalPos` (evaluate.cpp / evaluate.hpp), bit for bit:

```
EvalHashData::data            // 0-15: score + 2^15, 16-63: hash key;   initial value 0xffffffffffff0000
ehd = &evalHash[(int)key & (evalHash.size() - 1)];              // size = 2^16
if ((ehd->data ^ key) < (1 << 16)) return (ehd->data & 0xffff) - (1 << 15);
... score = <uncached evaluation> ...
ehd->data = (key & 0xffffffffffff0000ULL) + (score + (1 << 15));
```
`raw p c` stands for the uncached evaluation of position `p` under contempt `c` (a function of `p` and `c` only, by
the refinement theorem and the purity of the remaining code); `key p c` is whatever the code uses as cache key. -/
namespace NN.Cache

def emptyData : Nat := 0xffffffffffff0000
def hiMask : Nat := 0xffffffffffff0000

structure Tbl where
  data : Nat → Nat          -- slot index → 64-bit word

def Tbl.empty : Tbl := ⟨fun _ => emptyData⟩

def index (key : Nat) : Nat := key % 65536
def hit (d key : Nat) : Bool := (d ^^^ key) < 65536
def scoreOf (d : Nat) : Int := ((d &&& 0xffff : Nat) : Int) - 32768
def pack (key : Nat) (score : Int) : Nat := (key &&& hiMask) + (score + 32768).toNat

/-- what the engine evaluates and how it keys the cache -/
structure Sys (P : Type) where
  raw : P → Int → Int
  key : P → Int → Nat

/-- `Evaluate::evalPos<false>()` -/
def evalPos {P} (S : Sys P) (t : Tbl) (p : P) (c : Int) : Tbl × Int :=
  let k := S.key p c
  let d := t.data (index k)
  if hit d k then (t, scoreOf d)
  else (⟨fun i => if i = index k then pack k (S.raw p c) else t.data i⟩, S.raw p c)

/-- a sequence of evaluations (position, contempt in force) sharing one table -/
def runQ {P} (S : Sys P) (t : Tbl) : List (P × Int) → Tbl × List Int
  | [] => (t, [])
  | (p, c) :: qs =>
    let r := evalPos S t p c
    let rest := runQ S r.1 qs
    (rest.1, r.2 :: rest.2)


theorem xor_eq_zero (a b : Nat) (h : a ^^^ b = 0) : a = b := by
  have : a ^^^ (a ^^^ b) = a := by rw [h, Nat.xor_zero]
  rw [← Nat.xor_assoc, Nat.xor_self, Nat.zero_xor] at this
  exact this.symm

theorem hit_iff (d key : Nat) : hit d key = true ↔ d / 65536 = key / 65536 := by
  unfold hit
  simp only [decide_eq_true_eq]
  have e : (d ^^^ key) / 65536 = (d / 65536) ^^^ (key / 65536) := by
    have := @Nat.shiftRight_xor_distrib 16 d key
    simp only [Nat.shiftRight_eq_div_pow] at this
    exact this
  constructor
  · intro h
    have : (d ^^^ key) / 65536 = 0 := Nat.div_eq_of_lt h
    rw [e] at this
    exact xor_eq_zero _ _ this
  · intro h
    have : (d ^^^ key) / 65536 = 0 := by rw [e, h, Nat.xor_self]
    rcases Nat.div_eq_zero_iff.1 this with h | h
    · omega
    · exact h

theorem and_hiMask (k : Nat) (hk : k < 2^64) : k &&& hiMask = (k / 65536) * 65536 := by
  have hm : hiMask = (2^48 - 1) <<< 16 := by decide
  have hr : (k / 65536) * 65536 = (k >>> 16) <<< 16 := by
    rw [Nat.shiftLeft_eq, Nat.shiftRight_eq_div_pow]
  rw [hr, hm]
  apply Nat.eq_of_testBit_eq
  intro i
  rw [Nat.testBit_and, Nat.testBit_shiftLeft, Nat.testBit_shiftLeft, Nat.testBit_two_pow_sub_one, Nat.testBit_shiftRight]
  by_cases h16 : i ≥ 16
  · have e : 16 + (i - 16) = i := by omega
    rw [e]
    by_cases h64 : i - 16 < 48
    · simp [h16, h64]
    · have : k.testBit i = false := by
        apply Nat.testBit_lt_two_pow
        calc k < 2^64 := hk
          _ ≤ 2^i := Nat.pow_le_pow_right (by omega) (by omega)
      simp [this]
  · simp [h16]

theorem pack_spec (k : Nat) (v : Int) (hk : k < 2^64) (h1 : -32768 ≤ v) (h2 : v < 32768) :
    pack k v / 65536 = k / 65536 ∧ scoreOf (pack k v) = v := by
  unfold pack scoreOf
  rw [and_hiMask k hk]
  have hu : (v + 32768).toNat < 65536 := by omega
  have hmask : (0xffff : Nat) = 2^16 - 1 := by decide
  rw [hmask, Nat.and_two_pow_sub_one_eq_mod]
  have hu2 : ((v + 32768).toNat : Int) = v + 32768 := Int.toNat_of_nonneg (by omega)
  generalize (v + 32768).toNat = u at *
  constructor
  · omega
  · have : (k / 65536 * 65536 + u) % 2^16 = u := by omega
    rw [this]; omega

theorem hit_pack (k k' : Nat) (v : Int) (hk : k < 2^64) (h1 : -32768 ≤ v) (h2 : v < 32768)
    (hi : index k = index k') : hit (pack k v) k' = true ↔ k = k' := by
  rw [hit_iff, (pack_spec k v hk h1 h2).1]
  unfold index at hi
  constructor
  · intro h; omega
  · intro h; rw [h]


/-- every slot is empty or holds the exact record of one evaluation that was stored under its own key -/
def OK {P} (S : Sys P) (t : Tbl) : Prop :=
  ∀ i, t.data i = emptyData ∨ ∃ p c, index (S.key p c) = i ∧ t.data i = pack (S.key p c) (S.raw p c)

structure Hyp {P} (S : Sys P) : Prop where
  key64 : ∀ p c, S.key p c < 2^64
  range : ∀ p c, -32768 ≤ S.raw p c ∧ S.raw p c < 32768
  /-- no-collision hypothesis: two evaluations that use the same 64-bit cache key have the same value -/
  nocoll : ∀ p c p' c', S.key p c = S.key p' c' → S.raw p c = S.raw p' c'
  /-- no key has all upper 48 bits set (the pattern of a never-written slot) -/
  notEmpty : ∀ p c, S.key p c / 65536 ≠ 2^48 - 1

theorem evalPos_ok {P} (S : Sys P) (H : Hyp S) (t : Tbl) (p : P) (c : Int) (ht : OK S t) :
    (evalPos S t p c).2 = S.raw p c ∧ OK S (evalPos S t p c).1 := by
  unfold evalPos
  simp only
  by_cases hh : hit (t.data (index (S.key p c))) (S.key p c) = true
  · rw [if_pos hh]
    refine ⟨?_, ht⟩
    rcases ht (index (S.key p c)) with he | ⟨p', c', hi, hd⟩
    · rw [he, hit_iff] at hh
      have : emptyData / 65536 = 2^48 - 1 := by decide
      exact absurd (by rw [← hh, this]) (H.notEmpty p c)
    · rw [hd] at hh ⊢
      have r := H.range p' c'
      have hk := (hit_pack (S.key p' c') (S.key p c) (S.raw p' c') (H.key64 p' c') r.1 r.2 hi).1 hh
      rw [(pack_spec _ _ (H.key64 p' c') r.1 r.2).2]
      exact H.nocoll p' c' p c hk
  · rw [if_neg hh]
    refine ⟨rfl, ?_⟩
    intro i
    by_cases hi : i = index (S.key p c)
    · right; exact ⟨p, c, hi.symm, by simp [hi]⟩
    · simp only [hi, if_false]; exact ht i

theorem ok_empty {P} (S : Sys P) : OK S Tbl.empty := fun _ => Or.inl rfl

theorem runQ_ok {P} (S : Sys P) (H : Hyp S) (qs : List (P × Int)) (t : Tbl) (ht : OK S t) :
    (runQ S t qs).2 = qs.map (fun q => S.raw q.1 q.2) := by
  induction qs generalizing t with
  | nil => rfl
  | cons q qs ih =>
    obtain ⟨p, c⟩ := q
    have h := evalPos_ok S H t p c ht
    simp only [runQ, List.map_cons]
    rw [h.1, ih _ h.2]


/-- `Evaluate::setWhiteContempt` after the repair: the hash of `TranspositionTable::setWhiteContempt` with the low
    16 bits (the table index) cleared -/
def contemptHash (c : Int) : Nat :=
  let h := if c > 0 then (0x9E3779B97DE88147 * c.toNat) % 2^64
    else if c < 0 then (2^64 - 1) - (0x9E3779B97DE88147 * (-c).toNat) % 2^64
    else 0
  h &&& hiMask

/-- repaired code: key = historyHash ^ contemptHash -/
def sysFixed {P} (raw : P → Int → Int) (hist : P → Nat) : Sys P := { raw := raw, key := fun p c => hist p ^^^ contemptHash c }
/-- code before the repair: key = historyHash -/
def sysOld {P} (raw : P → Int → Int) (hist : P → Nat) : Sys P := { raw := raw, key := fun p _ => hist p }

end NN.Cache
