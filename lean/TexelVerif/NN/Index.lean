import TexelVerif.NN.Lanes16
/-! Symmetries of the real feature index function `getIndex` (nneval.cpp) and their consequence for the
    from-scratch accumulators: the colour-flipped position seen from the other perspective, and the left-right
    mirrored position seen from the same perspective, activate the same multiset of `weight1` rows. -/
namespace NN

/-- `pt = (pt >= 5) ? (pt - 5) : (pt + 5)` -/
def swapPt (pt : Nat) : Nat := if pt ≥ 5 then pt - 5 else pt + 5

/-- colour swap of a piece code -/
def flipPc (p : Pc) : Pc := if p = 0 then 0 else if p ≤ 6 then p + 6 else p - 6

/-- colour-flipped position: ranks reversed, colours swapped -/
def flipBoard (b : Board) : Board := fun s => flipPc (b (s ^^^ 56))
/-- left-right mirrored position -/
def mirrorBoard (b : Board) : Board := fun s => b (s ^^^ 7)

theorem xor56_invol : ∀ s, s < 64 → (s ^^^ 56) ^^^ 56 = s ∧ (s ^^^ 56) < 64 := by decide
theorem xor7_invol : ∀ s, s < 64 → (s ^^^ 7) ^^^ 7 = s ∧ (s ^^^ 7) < 64 := by decide
theorem xor7_56 : ∀ s, s < 64 → (s ^^^ 7) ^^^ 56 = (s ^^^ 56) ^^^ 7 := by decide

theorem swapPt_invol (pt : Nat) (h : pt < 10) : swapPt (swapPt pt) = pt := by
  unfold swapPt; split <;> split <;> omega

/-- the king bucket of `getIndex` (king file mirrored to the a–d half) -/
def kIdx (k : Sq) : Nat := (k / 8) * 4 + (if k % 8 ≥ 4 then (k % 8) ^^^ 7 else k % 8)
def flipX (k : Sq) : Bool := k % 8 ≥ 4

/-- `getIndex` written with the king bucket separated from the square part -/
theorem getIndex_eq (k : Sq) (pt : Nat) (sq : Sq) (white : Bool) :
    getIndex k pt sq white =
      (kIdx (if white then k else k ^^^ 56) * 10 + (if white then pt else swapPt pt)) * 64
        + (if flipX (if white then k else k ^^^ 56) then (if white then sq else sq ^^^ 56) ^^^ 7
           else (if white then sq else sq ^^^ 56)) := by
  unfold getIndex kIdx flipX swapPt
  simp only [decide_eq_true_eq]

theorem kIdx_mirror : ∀ k, k < 64 → kIdx (k ^^^ 7) = kIdx k ∧ flipX (k ^^^ 7) = !flipX k := by decide

/-- colour symmetry of the index function (`getIndex`): swapping perspective, piece colour and ranks is the identity -/
theorem getIndex_flip (k : Sq) (pt : Nat) (sq : Sq) (white : Bool) (hk : k < 64) (hsq : sq < 64) (hpt : pt < 10) :
    getIndex (k ^^^ 56) (swapPt pt) (sq ^^^ 56) (!white) = getIndex k pt sq white := by
  rw [getIndex_eq, getIndex_eq]
  cases white
  · simp only [Bool.not_false, if_true, Bool.false_eq_true, if_false]
  · simp only [Bool.not_true, Bool.false_eq_true, if_false, if_true]
    rw [(xor56_invol k hk).1, (xor56_invol sq hsq).1, swapPt_invol pt hpt]

/-- left-right symmetry of the index function: mirroring king square and piece square is the identity -/
theorem getIndex_mirror (k : Sq) (pt : Nat) (sq : Sq) (white : Bool) (hk : k < 64) (hsq : sq < 64) :
    getIndex (k ^^^ 7) pt (sq ^^^ 7) white = getIndex k pt sq white := by
  rw [getIndex_eq, getIndex_eq]
  cases white
  · simp only [Bool.false_eq_true, if_false]
    have hk' := (xor56_invol k hk).2
    rw [xor7_56 k hk, (kIdx_mirror _ hk').1, (kIdx_mirror _ hk').2, xor7_56 sq hsq]
    have hs' := (xor56_invol sq hsq).2
    cases flipX (k ^^^ 56)
    · simp [(xor7_invol _ hs').1]
    · simp
  · simp only [if_true]
    rw [(kIdx_mirror _ hk).1, (kIdx_mirror _ hk).2]
    cases flipX k
    · simp [(xor7_invol _ hsq).1]
    · simp

theorem kIdx_lt : ∀ k, k < 64 → kIdx k < 32 := by decide

/-- index range: every row index is inside `weight1` (`inFeatures = 32*10*64`) -/
theorem getIndex_lt (k : Sq) (pt : Nat) (sq : Sq) (white : Bool) (hk : k < 64) (hsq : sq < 64) (hpt : pt < 10) :
    getIndex k pt sq white < 32 * 10 * 64 := by
  rw [getIndex_eq]
  have h1 : kIdx (if white then k else k ^^^ 56) < 32 := by
    cases white
    · exact kIdx_lt _ (xor56_invol k hk).2
    · exact kIdx_lt _ hk
  have h2 : (if white then pt else swapPt pt) < 10 := by
    cases white
    · simp only [Bool.false_eq_true, if_false]; unfold swapPt; split <;> omega
    · exact hpt
  have hs : (if white then sq else sq ^^^ 56) < 64 := by
    cases white
    · exact (xor56_invol sq hsq).2
    · exact hsq
  generalize kIdx (if white then k else k ^^^ 56) = a at h1
  generalize (if white then pt else swapPt pt) = p at h2
  generalize (if white then sq else sq ^^^ 56) = s0 at hs
  generalize flipX (if white then k else k ^^^ 56) = fx
  have h3 : (if fx = true then s0 ^^^ 7 else s0) < 64 := by
    cases fx
    · simpa using hs
    · simpa using (xor7_invol _ hs).2
  generalize (if fx = true then s0 ^^^ 7 else s0) = s at h3
  -- restated at type `Nat`: `omega` does not see through the abbreviation `Sq`
  have h3' : @LT.lt Nat _ s 64 := h3
  omega


theorem flipPc_facts : ∀ p, p ≤ 12 →
    isNonKing (flipPc p) = isNonKing p ∧ (isNonKing p = true → ptValue (flipPc p) = swapPt (ptValue p) ∧ ptValue p < 10) ∧
    (flipPc p = 1 ↔ p = 7) ∧ (flipPc p = 7 ↔ p = 1) := by decide


theorem filterMap_congr' {α β} (f g : α → Option β) (l : List α) (h : ∀ x ∈ l, f x = g x) :
    l.filterMap f = l.filterMap g := by
  induction l with
  | nil => rfl
  | cons a l ih =>
    simp only [List.filterMap_cons]
    rw [h a (by simp), ih (fun x hx => h x (by simp [hx]))]

theorem perm_map_range_of_invol (n : Nat) (f : Nat → Nat) (h : ∀ s, s < n → f (f s) = s ∧ f s < n) :
    ((List.range n).map f).Perm (List.range n) := by
  refine (List.perm_ext_iff_of_nodup ?_ List.nodup_range).mpr ?_
  · rw [List.Nodup, List.pairwise_map]
    refine List.Pairwise.imp_of_mem ?_ (List.nodup_range (n := n))
    intro a b ha hb hab e
    rw [List.mem_range] at ha hb
    exact hab (by rw [← (h a ha).1, e, (h b hb).1])
  · intro a
    rw [List.mem_map, List.mem_range]
    constructor
    · rintro ⟨s, hs, rfl⟩; exact (h s (List.mem_range.mp hs)).2
    · intro ha; exact ⟨f a, List.mem_range.mpr (h a ha).2, (h a ha).1⟩

theorem perm56 : ((List.range 64).map (· ^^^ 56)).Perm (List.range 64) := perm_map_range_of_invol 64 _ xor56_invol
theorem perm7 : ((List.range 64).map (· ^^^ 7)).Perm (List.range 64) := perm_map_range_of_invol 64 _ xor7_invol

section feat
variable {V : Type} (N : Net V)

/-- the network uses the real index function of nneval.cpp -/
def RealIdx : Prop := ∀ c k p sq, N.idx c k p sq = realIdx c k p sq

/-- Colour flip: the flipped position seen from perspective `!c` (king on the rank-mirrored square) activates
    the same multiset of rows as the original seen from `c`. -/
theorem features_flip (hN : RealIdx N) (c : Bool) (k : Sq) (b : Board) (hk : k < 64) (hb : ∀ s, s < 64 → b s ≤ 12) :
    (activeFeatures N (!c) (k ^^^ 56) (flipBoard b)).Perm (activeFeatures N c k b) := by
  unfold activeFeatures
  let g : Nat → Option Nat := fun t => if isNonKing (b t) then some (N.idx c k (b t) t) else none
  have h1 : (List.range 64).filterMap (fun s => if isNonKing (flipBoard b s) then some (N.idx (!c) (k ^^^ 56) (flipBoard b s) s) else none)
      = (List.range 64).filterMap (g ∘ (· ^^^ 56)) := by
    apply filterMap_congr'
    intro s hs
    have hs64 : s < 64 := by simpa using hs
    have hs' := xor56_invol s hs64
    have hp := flipPc_facts (b (s ^^^ 56)) (hb _ hs'.2)
    simp only [Function.comp, g, flipBoard, hp.1]
    by_cases hnk : isNonKing (b (s ^^^ 56)) = true
    · simp only [hnk, if_true]
      have := hp.2.1 hnk
      rw [hN, hN]; unfold realIdx
      rw [this.1]
      have e := getIndex_flip k (ptValue (b (s ^^^ 56))) (s ^^^ 56) c hk hs'.2 this.2
      rw [hs'.1] at e
      rw [e]
    · simp [hnk]
  rw [h1, ← List.filterMap_map]
  exact List.Perm.filterMap g perm56

/-- Left-right mirror: the mirrored position seen from the same perspective (king on the file-mirrored square)
    activates the same multiset of rows as the original. -/
theorem features_mirror (hN : RealIdx N) (c : Bool) (k : Sq) (b : Board) (hk : k < 64) :
    (activeFeatures N c (k ^^^ 7) (mirrorBoard b)).Perm (activeFeatures N c k b) := by
  unfold activeFeatures
  let g : Nat → Option Nat := fun t => if isNonKing (b t) then some (N.idx c k (b t) t) else none
  have h1 : (List.range 64).filterMap (fun s => if isNonKing (mirrorBoard b s) then some (N.idx c (k ^^^ 7) (mirrorBoard b s) s) else none)
      = (List.range 64).filterMap (g ∘ (· ^^^ 7)) := by
    apply filterMap_congr'
    intro s hs
    have hs64 : s < 64 := by simpa using hs
    have hs' := xor7_invol s hs64
    simp only [Function.comp, g, mirrorBoard]
    by_cases hnk : isNonKing (b (s ^^^ 7)) = true
    · simp only [hnk, if_true]
      rw [hN, hN]; unfold realIdx
      have e := getIndex_mirror k (ptValue (b (s ^^^ 7))) (s ^^^ 7) c hk hs'.2
      rw [hs'.1] at e
      rw [e]
    · simp [hnk]
  rw [h1, ← List.filterMap_map]
  exact List.Perm.filterMap g perm7

end feat


theorem sumW_perm (N : Net Int) (l₁ l₂ : List Nat) (h : l₁.Perm l₂) : sumW N l₁ = sumW N l₂ := by
  unfold sumW
  induction h with
  | nil => rfl
  | cons x _ ih => simp only [List.map_cons, List.sum_cons, ih]
  | swap x y l => simp only [List.map_cons, List.sum_cons]; omega
  | trans _ _ ih1 ih2 => rw [ih1, ih2]

/-- 16-bit lane accumulators depend only on the multiset of active rows (addition of wrapping lanes commutes) -/
theorem addRows_perm_lanes (N : Net Lanes) (x : Lanes) (l₁ l₂ : List Nat) (h : l₁.Perm l₂) :
    addRows N x l₁ = addRows N x l₂ := by
  funext i
  have a1 := addRows_map (lane i) N x l₁
  have a2 := addRows_map (lane i) N x l₂
  have b1 := addRows_map wrap16 (N.laneInt i) ((x i).toInt) l₁
  have b2 := addRows_map wrap16 (N.laneInt i) ((x i).toInt) l₂
  have hx : wrap16.f ((x i).toInt) = (lane i).f x := by simp [wrap16, lane, BitVec.ofInt_toInt]
  rw [laneInt_map, hx] at b1 b2
  have : addRows (N.laneInt i) ((x i).toInt) l₁ = addRows (N.laneInt i) ((x i).toInt) l₂ := by
    rw [addRows_eq, addRows_eq, sumW_perm _ _ _ h]
  have e : (lane i).f (addRows N x l₁) = (lane i).f (addRows N x l₂) := by
    rw [← a1, b1, this, ← b2, a2]
  exact e


theorem findFrom_spec (p : Sq → Bool) (n s k : Nat) (hk : p k = true) (h1 : s ≤ k) (h2 : k < s + n)
    (hfirst : ∀ t, s ≤ t → t < k → p t = false) : findFrom p n s = k := by
  induction n generalizing s with
  | zero => omega
  | succ n ih =>
    unfold findFrom
    by_cases hs : s = k
    · subst hs; simp [hk]
    · have : p s = false := hfirst s (Nat.le_refl _) (by omega)
      simp only [this, Bool.false_eq_true, if_false]
      exact ih (s+1) (by omega) (by omega) (fun t ht1 ht2 => hfirst t (by omega) ht2)

/-- `k` is the only square holding the king of colour `c` -/
def KingAt (c : Bool) (b : Board) (k : Sq) : Prop := k < 64 ∧ ∀ s, s < 64 → (b s = kingPc c ↔ s = k)

theorem kingSq_of_kingAt (c : Bool) (b : Board) (k : Sq) (h : KingAt c b k) : kingSq c b = k := by
  obtain ⟨hk64', hiff⟩ := h
  have hk64 : @LT.lt Nat _ k 64 := hk64'
  unfold kingSq
  apply findFrom_spec _ 64 0 k
  · simp [(hiff k hk64).2 rfl]
  · omega
  · omega
  · intro t _ ht
    have ht64 : t < 64 := by omega
    have : ¬ b t = kingPc c := fun e => by have h' : @Eq Nat t k := (hiff t ht64).1 e; omega
    simp [this]

theorem kingAt_flip (c : Bool) (b : Board) (k : Sq) (h : KingAt c b k) (hb : ∀ s, s < 64 → b s ≤ 12) :
    KingAt (!c) (flipBoard b) (k ^^^ 56) := by
  refine ⟨(xor56_invol k h.1).2, ?_⟩
  intro s hs
  have hs' := xor56_invol s hs
  have hp := flipPc_facts (b (s ^^^ 56)) (hb _ hs'.2)
  have hkk := h.2 (s ^^^ 56) hs'.2
  have hiff : (s ^^^ 56 = k ↔ s = k ^^^ 56) := by
    constructor
    · intro e; rw [← e, hs'.1]
    · intro e; rw [e, (xor56_invol k h.1).1]
  unfold flipBoard kingPc at *
  cases c
  · simp only [Bool.not_false, if_true, Bool.false_eq_true, if_false] at *
    rw [hp.2.2.1, hkk, hiff]
  · simp only [Bool.not_true, Bool.false_eq_true, if_false, if_true] at *
    rw [hp.2.2.2, hkk, hiff]

theorem kingAt_mirror (c : Bool) (b : Board) (k : Sq) (h : KingAt c b k) :
    KingAt c (mirrorBoard b) (k ^^^ 7) := by
  refine ⟨(xor7_invol k h.1).2, ?_⟩
  intro s hs
  have hs' := xor7_invol s hs
  have hkk := h.2 (s ^^^ 7) hs'.2
  have hiff : (s ^^^ 7 = k ↔ s = k ^^^ 7) := by
    constructor
    · intro e; rw [← e, hs'.1]
    · intro e; rw [e, (xor7_invol k h.1).1]
  unfold mirrorBoard
  rw [hkk, hiff]

end NN
