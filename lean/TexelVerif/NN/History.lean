import TexelVerif.NN.Refine
/-! Histories at the level of `Position` (position.cpp): make / unmake / direct `setPiece` / copy-assign /
    null move / evaluate.  Every such history produces a well-formed call trace in the sense of `NN.WF`,
    whatever squares a move rewrites (so the statement does not depend on the move encoding):
    * `makeMove` = `pushState()` first, then one truthful notification per rewritten square;
    * `unMakeMove` = detach evaluator, restore the position saved by the matching `makeMove`, `popState()`;
      that `unMakeMove` restores exactly the earlier position is property C02, here it is the definition of `unmake`;
    * copy construction / assignment / `deSerialize` / `connectPosition` = `forceFullEval()`; the game's own undo
      information survives it, so later take-backs pop an *empty* evaluator stack;
    * a null move (`setWhiteMove`, `setEpSquare`) does not call the evaluator at all.
    Caveat: `unmake` is *defined* as restoring the whole board saved by the matching `make`.  The real `unMakeMove`
    only undoes the move itself, so a direct `setPiece` between a `makeMove` and its `unMakeMove` (which no engine
    code does) makes the real history ill-formed (`OpOK` of the pop fails); the harness rejects such inputs. -/
namespace NN

inductive HOp
  | make (chg : List (Sq × Pc))
  | unmake
  | set (sq : Sq) (p : Pc)
  | assign (b' : Board)
  | null
  | eval

structure Game where
  b : Board
  undo : List Board

def hstep (g : Game) : HOp → Game × Trace
  | .make chg => ({ b := applyChanges g.b chg, undo := g.b :: g.undo }, (Op.push, g.b) :: changesTrace g.b chg)
  | .unmake => match g.undo with
    | u :: r => ({ b := u, undo := r }, [(Op.pop, u)])
    | [] => (g, [])
  | .set sq p => ({ g with b := upd g.b sq p }, [(Op.setPiece sq (g.b sq) p, upd g.b sq p)])
  | .assign b' => ({ g with b := b' }, [(Op.reset, b')])
  | .null => (g, [])
  | .eval => (g, [(Op.eval, g.b)])

def htrace (g : Game) : List HOp → Trace
  | [] => []
  | h :: hs => (hstep g h).2 ++ htrace (hstep g h).1 hs

def hfinal (g : Game) : List HOp → Game
  | [] => g
  | h :: hs => hfinal (hstep g h).1 hs

/-- squares are on the board -/
def HOK : HOp → Prop
  | .make chg => ∀ x ∈ chg, x.1 < 64
  | .set sq _ => sq < 64
  | _ => True

/-- ghost state after a trace -/
def endGhost (b : Board) (gs : List Board) : Trace → Board × List Board
  | [] => (b, gs)
  | (op, b') :: tr => endGhost b' (ghost gs b op) tr

theorem wf_append (b : Board) (gs : List Board) (t1 t2 : Trace) :
    WF b gs (t1 ++ t2) ↔ WF b gs t1 ∧ WF (endGhost b gs t1).1 (endGhost b gs t1).2 t2 := by
  induction t1 generalizing b gs with
  | nil => simp [WF, endGhost]
  | cons x t1 ih =>
    obtain ⟨op, b'⟩ := x
    simp only [List.cons_append, WF, endGhost, ih, and_assoc]

theorem endGhost_append (b : Board) (gs : List Board) (t1 t2 : Trace) :
    endGhost b gs (t1 ++ t2) = endGhost (endGhost b gs t1).1 (endGhost b gs t1).2 t2 := by
  induction t1 generalizing b gs with
  | nil => rfl
  | cons x t1 ih =>
    obtain ⟨op, b'⟩ := x
    simp only [List.cons_append, endGhost]
    exact ih _ _

theorem changes_wf (b : Board) (gs : List Board) (chg : List (Sq × Pc)) (h : ∀ x ∈ chg, x.1 < 64) :
    WF b gs (changesTrace b chg) ∧ endGhost b gs (changesTrace b chg) = (applyChanges b chg, gs) := by
  induction chg generalizing b with
  | nil => exact ⟨trivial, rfl⟩
  | cons x chg ih =>
    obtain ⟨sq, p⟩ := x
    have h1 : sq < 64 := h (sq, p) (by simp)
    have := ih (upd b sq p) (fun y hy => h y (by simp [hy]))
    simp only [changesTrace, WF, endGhost, applyChanges, ghost]
    exact ⟨⟨⟨h1, rfl, rfl⟩, this.1⟩, this.2⟩

/-- the open evaluator pushes are the most recent game moves -/
def Linked (g : Game) (gs : List Board) : Prop := ∃ rest, g.undo = gs ++ rest

theorem hstep_wf (g : Game) (gs : List Board) (h : HOp) (hok : HOK h) (hl : Linked g gs) :
    WF g.b gs (hstep g h).2 ∧ (endGhost g.b gs (hstep g h).2).1 = (hstep g h).1.b ∧
    Linked (hstep g h).1 (endGhost g.b gs (hstep g h).2).2 := by
  obtain ⟨rest, hr⟩ := hl
  cases h with
  | make chg =>
    have := changes_wf g.b (g.b :: gs) chg hok
    simp only [hstep, WF, OpOK, endGhost, ghost, this.1, this.2, and_self, true_and]
    exact ⟨rest, by simp [hr]⟩
  | unmake =>
    simp only [hstep]
    cases hu : g.undo with
    | nil => exact ⟨trivial, rfl, ⟨rest, by simpa [endGhost] using hr⟩⟩
    | cons u r =>
      simp only [WF, OpOK, endGhost, ghost, and_true, true_and]
      cases gs with
      | nil =>
        refine ⟨trivial, ⟨r, rfl⟩⟩
      | cons g0 gs' =>
        rw [hu] at hr
        simp only [List.cons_append, List.cons.injEq] at hr
        refine ⟨hr.1, ⟨rest, ?_⟩⟩
        simp [hr.2]
  | set sq p =>
    simp only [hstep, WF, OpOK, endGhost, ghost, and_true, true_and]
    exact ⟨hok, ⟨rest, hr⟩⟩
  | assign b' =>
    simp only [hstep, WF, OpOK, endGhost, ghost, and_true, true_and]
    exact ⟨g.undo, rfl⟩
  | null => exact ⟨trivial, rfl, ⟨rest, hr⟩⟩
  | eval =>
    simp only [hstep, WF, OpOK, endGhost, ghost, and_true, true_and]
    exact ⟨rest, hr⟩

theorem htrace_wf (hs : List HOp) (g : Game) (gs : List Board) (hok : ∀ h ∈ hs, HOK h) (hl : Linked g gs) :
    WF g.b gs (htrace g hs) ∧ (endGhost g.b gs (htrace g hs)).1 = (hfinal g hs).b := by
  induction hs generalizing g gs with
  | nil => exact ⟨trivial, rfl⟩
  | cons h hs ih =>
    have h1 := hstep_wf g gs h (hok h (by simp)) hl
    simp only [htrace, hfinal, wf_append]
    have h2 := ih (hstep g h).1 _ (fun x hx => hok x (by simp [hx])) h1.2.2
    rw [h1.2.1]
    refine ⟨⟨h1.1, h2.1⟩, ?_⟩
    have e := endGhost_append g.b gs (hstep g h).2 (htrace (hstep g h).1 hs)
    rw [e, h1.2.1]
    exact h2.2

/-- board component of a run = ghost board -/
theorem runTr_board {V : Type} [Add V] [Sub V] (M : Net V) (tr : Trace) (st : St V) (b : Board) (gs : List Board) :
    (runTr M st b tr).2 = (endGhost b gs tr).1 := by
  induction tr generalizing st b gs with
  | nil => rfl
  | cons x tr ih =>
    obtain ⟨op, b'⟩ := x
    simp only [runTr, endGhost]
    exact ih _ _ _

/-- `makeMove`'s rewrites stay on the board for squares on the board (used to discharge `HOK` for real moves) -/
theorem moveChanges_ok (b : Board) (frm to : Sq) (promo : Pc) (hf : frm < 64) (ht : to < 64)
    (hep : to + 8 < 64 ∨ ¬ (b to = 0 ∧ frm % 8 ≠ to % 8 ∧ b frm = 12))
    (hc : frm + 3 < 64 ∨ ¬ (to = frm + 2)) :
    ∀ x ∈ moveChanges b frm to promo, x.1 < 64 := by
  have base : ∀ x : Sq × Pc, x ∈ [(frm, (0 : Pc)), (to, if promo != 0 then promo else b frm)] ∨ x ∈ [(frm, (0 : Pc)), (to, b frm)] →
      x.1 < 64 := by
    intro x hx
    simp only [List.mem_cons, List.mem_nil_iff, or_false] at hx
    rcases hx with (rfl | rfl) | (rfl | rfl)
    · exact hf
    · exact ht
    · exact hf
    · exact ht
  intro x hx
  unfold moveChanges at hx
  simp only at hx
  by_cases hcap : (b to != 0 || b frm == 6 || b frm == 12) = true
  · -- capture or pawn move; a pawn going diagonally to an empty square takes en passant
    rw [if_pos hcap, List.mem_append] at hx
    rcases hx with hx | hx
    · by_cases hdiag : (b to == 0 && frm % 8 != to % 8) = true
      · rw [if_pos hdiag] at hx
        by_cases hw : (b frm == 6) = true
        · -- white: the captured pawn is one rank below `to`
          rw [if_pos hw, List.mem_singleton] at hx; subst hx
          exact Nat.lt_of_le_of_lt (Nat.sub_le to 8) ht
        · -- black: one rank above; on the board by `hep`
          rw [if_neg hw, List.mem_singleton] at hx; subst hx
          refine hep.resolve_right (fun h => h ?_)
          simp only [Bool.and_eq_true, beq_iff_eq, bne_iff_ne, ne_eq] at hdiag
          simp only [Bool.or_eq_true, bne_iff_ne, ne_eq, beq_iff_eq] at hcap hw
          exact ⟨hdiag.1, hdiag.2, hcap.elim (fun h => h.elim (fun h => absurd hdiag.1 h) (fun h => absurd h hw)) id⟩
      · rw [if_neg hdiag] at hx; cases hx
    · exact base x (Or.inl hx)
  · rw [if_neg hcap, List.mem_append] at hx
    rcases hx with hx | hx
    · by_cases hk : (b frm == 1 || b frm == 7) = true
      · rw [if_pos hk] at hx
        by_cases hshort : (to == frm + 2) = true
        · -- castling short: the rook goes from `frm + 3` to `frm + 1`; on the board by `hc`
          have hf3 : frm + 3 < 64 := hc.resolve_right (fun h => h (by simpa using hshort))
          rw [if_pos hshort] at hx
          simp only [List.mem_cons, List.mem_nil_iff, or_false] at hx
          rcases hx with rfl | rfl
          · exact hf3
          · exact Nat.lt_of_succ_lt (Nat.lt_of_succ_lt hf3)
        · rw [if_neg hshort] at hx
          by_cases hlong : (to + 2 == frm) = true
          · -- castling long: the rook goes from `frm - 4` to `frm - 1`
            rw [if_pos hlong] at hx
            simp only [List.mem_cons, List.mem_nil_iff, or_false] at hx
            rcases hx with rfl | rfl
            · exact Nat.lt_of_le_of_lt (Nat.sub_le frm 4) hf
            · exact Nat.lt_of_le_of_lt (Nat.sub_le frm 1) hf
          · rw [if_neg hlong] at hx; cases hx
      · rw [if_neg hk] at hx; cases hx
    · exact base x (Or.inr hx)

end NN
