import TexelVerif.TT.TableLemmas
import TexelVerif.TT.History
/-!
# C08 — transposition table never returns mixed or out-of-range data

Property theorems only; helper lemmas live in `TexelVerif/TT/*`.
-/
namespace Props.C08
open TT

/-- Every index the table computes is 4-aligned and the whole 4-slot bucket lies inside the used part,
    for every size ≥ 512 and every 64-bit key. -/
theorem index_ok (n : Nat) (hn : 512 ≤ n) (hmax : n < 2^72) (key : BitVec 64) :
    getIndex (setUsedSize n) key.toNat % 4 = 0 ∧ getIndex (setUsedSize n) key.toNat + 3 < n :=
  TT.index_ok n key.toNat hn hmax key.isLt

/-- The domain really starts at 512: a table of 260 entries computes a bucket that sticks out. -/
theorem index_small_fails : ∃ n key, n < 512 ∧ n % 4 = 0 ∧ key < 2^64 ∧ ¬ (getIndex (setUsedSize n) key + 3 < n) :=
  ⟨260, 0xffff000000000003, by decide, by decide, by decide, by decide⟩

/-- In a freshly sized (or cleared) table of at least 512 entries every probe / insert bucket is in range. -/
theorem new_table_bucket_in_range (numEntries : Nat) (h : 512 ≤ numEntries) (hmax : numEntries < 2^72) (key : W) :
    let t := Table.new numEntries
    t.index key % 4 = 0 ∧ t.index key + 3 < t.size ∧ t.slots.size = t.size := by
  have ⟨hn, hm⟩ : 512 ≤ normSize numEntries ∧ normSize numEntries < 2^72 := by unfold normSize; split <;> omega
  have := TT.index_ok (normSize numEntries) key.toNat hn hm key.isLt
  simp only [Table.new, Table.index, Array.size_replicate]
  exact ⟨this.1, this.2, trivial⟩

/-- The declared field layout: pairwise disjoint bit ranges inside the 64-bit data word. -/
def fields : List (Nat × Nat) := [(0,16), (16,16), (32,9), (41,1), (42,4), (46,2), (48,16)]

theorem fields_layout_ok :
    (∀ f ∈ fields, f.1 + f.2 ≤ 64 ∧ f.2 ≤ 32) ∧
    (∀ f ∈ fields, ∀ g ∈ fields, f ≠ g → f.1 + f.2 ≤ g.1 ∨ g.1 + g.2 ≤ f.1) := by decide

/-- Writing a field and reading it back gives the written value (truncated to the field width). -/
theorem field_write_read (d : W) (f : Nat × Nat) (hf : f ∈ fields) (v : BitVec 32) :
    getBits (setBits d f.1 f.2 v) f.1 f.2 = v &&& BitVec.ofNat 32 (2^f.2 - 1) := by
  have := fields_layout_ok.1 f hf
  exact getBits_setBits_same d f.1 f.2 v this.2 this.1

/-- Writing one field leaves every other field untouched. -/
theorem field_write_other (d : W) (f g : Nat × Nat) (hf : f ∈ fields) (hg : g ∈ fields) (hne : f ≠ g) (v : BitVec 32) :
    getBits (setBits d f.1 f.2 v) g.1 g.2 = getBits d g.1 g.2 := by
  have h1 := fields_layout_ok.1 f hf
  have h2 := fields_layout_ok.1 g hg
  exact getBits_setBits_other d f.1 f.2 g.1 g.2 v (by omega) (by omega) (fields_layout_ok.2 f hf g hg hne)

/-- xor validation: any two words (each possibly from a different writer) that validate for key `k`
    are bit-identical to the unit record a single store of `(k, w1)` writes. -/
theorem xor_hit_is_unit (w0 w1 k : W) (h : decodeKey w0 w1 = k) : (w0, w1) = encode k w1 :=
  TT.xor_hit_is_unit w0 w1 k h

/-- Relaxed-atomic over-approximation: each word load returns *some* value stored to that word.  If the
    slot's store history has no xor-coincidence for `k`, a validating probe returns a record stored as one unit. -/
theorem hit_was_stored (stores : List (W × W)) (w0 w1 k : W)
    (h0 : ∃ r ∈ stores, w0 = (encode r.1 r.2).1) (h1 : ∃ r ∈ stores, w1 = (encode r.1 r.2).2)
    (hk : decodeKey w0 w1 = k)
    (hfree : ∀ a ∈ stores, ∀ b ∈ stores, a.1 ^^^ a.2 ^^^ b.2 = k → a = b) :
    (k, w1) ∈ stores :=
  TT.hit_was_stored stores w0 w1 k h0 h1 hk hfree

/-- While an on-demand tablebase (5 MiB at the top of the table memory) is resident, every byte of every
    hash bucket lies strictly below the tablebase bytes. -/
theorem tb_region_disjoint (tableSize : Nat) (key : W) (hsz : 7 * 2^20 ≤ tableSize * 16) (hmax : tableSize < 2^72) :
    (getIndex (setUsedSize (tableSize - 327680)) key.toNat + 3) * 16 + 15 < tableSize * 16 - 5 * 2^20 :=
  TT.tb_region_disjoint tableSize key.toNat hsz hmax key.isLt

/-- Ply-relative mate scores: a score stored at ply `p1` and read at ply `p2` comes back shifted by exactly
    the ply difference (win scores down, lose scores up), as long as the stored value fits the 16-bit field. -/
theorem ply_shift_exact (d : W) (s p1 p2 : Int) (h1 : -32768 ≤ toStored s p1) (h2 : toStored s p1 ≤ 32767) :
    getScore (setScore d s p1) p2 = fromStored (toStored s p1) p2 := by
  unfold getScore; rw [rawScore_setScore d s p1 h1 h2]

theorem ply_shift_win (d : W) (s p1 p2 : Int) (hw : s > 16000) (hp : 0 ≤ p1) (hfit : s + p1 ≤ 32767) :
    getScore (setScore d s p1) p2 = s + p1 - p2 := by
  have e : toStored s p1 = s + p1 := by rw [toStored_def, if_pos hw]
  rw [ply_shift_exact d s p1 p2 (by omega) (by omega), e, fromStored_def, if_pos (by omega)]

theorem ply_shift_lose (d : W) (s p1 p2 : Int) (hl : s < -16000) (hp : 0 ≤ p1) (hfit : -32768 ≤ s - p1) :
    getScore (setScore d s p1) p2 = s - p1 + p2 := by
  have e : toStored s p1 = s - p1 := by rw [toStored_def, if_neg (by omega), if_pos hl]
  rw [ply_shift_exact d s p1 p2 (by omega) (by omega), e, fromStored_def, if_neg (by omega), if_pos (by omega)]

theorem ply_shift_normal (d : W) (s p1 p2 : Int) (h1 : -16000 ≤ s) (h2 : s ≤ 16000) :
    getScore (setScore d s p1) p2 = s := by
  have e : toStored s p1 = s := by rw [toStored_def, if_neg (by omega), if_neg (by omega)]
  rw [ply_shift_exact d s p1 p2 (by omega) (by omega), e, fromStored_def, if_neg (by omega), if_neg (by omega)]

/-- An insert writes at most one slot and only inside the four-slot bucket of its key; table geometry,
    generation and contempt hash are untouched. -/
theorem insert_stays_in_bucket (t : Table) (a : InsArgs) (i : Nat)
    (h : i < t.index (a.key ^^^ t.contempt) ∨ t.index (a.key ^^^ t.contempt) + 4 ≤ i) :
    (t.insert a).slot i = t.slot i ∧ (t.insert a).size = t.size ∧ (t.insert a).used = t.used :=
  ⟨insert_local t a i h, (insert_meta t a).1, (insert_meta t a).2.1⟩

/-- **Whatever a probe returns was stored as one unit for exactly that key** (single-threaded refinement):
    after any history of inserts, probes, generation changes, clears and contempt changes on a fresh table, a probe
    that returns `(k, d)` returns the contempt-adjusted probe key and a data word that some earlier `insert` wrote for
    that very key as one unit, up to the generation field (which probes refresh) — or the all-zero word of an empty slot,
    whose type field is `T_EMPTY` and which every caller treats as a miss. -/
theorem probe_hit_was_inserted (n : Nat) (ops : List Op) (key : W) (k d : W)
    (h : ((runOps (Table.new n) ops).probe key).2 = some (k, d)) :
    k = key ^^^ (runOps (Table.new n) ops).contempt ∧
    ((k = 0 ∧ clearGen d = clearGen 0) ∨ ∃ u ∈ unitsOf (Table.new n) ops, u.1 = k ∧ clearGen d = clearGen u.2) := by
  have hinv := inv_runOps (Table.new n) ops [(0, 0)] (inv_new n) (by simp)
  have hp := (probe_go_spec (runOps (Table.new n) ops) (key ^^^ (runOps (Table.new n) ops).contempt)
    ((runOps (Table.new n) ops).index (key ^^^ (runOps (Table.new n) ops).contempt)) _ hinv (by simp) 4 0).2 k d h
  obtain ⟨hk, u, hu, hu1, hu2⟩ := hp
  refine ⟨hk, ?_⟩
  rcases List.mem_append.1 hu with h0 | h1
  · left
    have : u = (0, 0) := by simpa using h0
    subst this
    exact ⟨by rw [hk, ← hu1], hu2⟩
  · exact Or.inr ⟨u, h1, by rw [hu1, hk], hu2⟩

-- non-vacuity: concrete instances of the hypotheses
example : (512 : Nat) ≤ 65536 ∧ (65536 : Nat) < 2^72 := by decide
example : toStored 31990 3 = 31993 ∧ (-32768 : Int) ≤ 31993 ∧ (31993 : Int) ≤ 32767 := by decide
example : (7 * 2^20 : Nat) ≤ 1048576 * 16 := by decide

/-- the ply adjustment of `getScore` followed by that of `setScore` at the same ply gives the stored value back, provided
    the mate score does not leave the mate range when it is made relative (always the case for real mate scores:
    |stored| ≥ 31000 and ply ≤ 200) -/
theorem toStored_fromStored (r p : Int) (hw : r > 16000 → r - p > 16000) (hl : r < -16000 → r + p < -16000) :
    toStored (fromStored r p) p = r := by
  rw [fromStored_def]
  by_cases h1 : r > 16000
  · rw [if_pos h1, toStored_def, if_pos (hw h1)]; omega
  · rw [if_neg h1]
    by_cases h2 : r < -16000
    · rw [if_pos h2, toStored_def, if_neg (by have := hl h2; omega), if_pos (hl h2)]; omega
    · rw [if_neg h2, toStored_def, if_neg h1, if_neg h2]

/-- **`TranspositionTable::setBusy` does not move the score**: re-storing, at ply `p`, the score an entry shows at ply
    `p` leaves the value every later reader sees (at any ply `q`) unchanged — marking an entry as "being searched"
    deep in the tree must not shift a mate distance. -/
theorem setBusy_keeps_score (d : W) (p q : Int) (hw : rawScore d > 16000 → rawScore d - p > 16000)
    (hl : rawScore d < -16000 → rawScore d + p < -16000) (h1 : -32768 ≤ rawScore d) (h2 : rawScore d ≤ 32767) :
    getScore (setScore d (getScore d p) p) q = getScore d q := by
  have e : toStored (getScore d p) p = rawScore d := toStored_fromStored _ _ hw hl
  rw [ply_shift_exact d (getScore d p) p q (by rw [e]; exact h1) (by rw [e]; exact h2), e]
  rfl

/-- the repaired `setBusy` is an `insert` whose stored key (argument key ^ contempt hash) is exactly the key field of the
    probed entry, with the busy mark set and the shown score stored back at the same ply -/
theorem setBusy_reinserts_under_probed_key (t : Table) (k d : W) (ply : Int) :
    ∃ a : InsArgs, t.setBusy k d ply = t.insert a ∧ a.key ^^^ t.contempt = k ∧ a.busy = true ∧ a.ply = ply ∧
      a.score = getScore d ply := by
  refine ⟨{ key := k ^^^ t.contempt, from_ := (getMove d).toNat % 64, to := (getMove d).toNat / 64 % 64,
            promote := (getMove d).toNat / 4096, score := getScore d ply, type := (getType d : Int), ply := ply,
            depth := (getDepth d : Int), eval := getEvalScore d, busy := true }, rfl, ?_, rfl, rfl, rfl⟩
  show (k ^^^ t.contempt) ^^^ t.contempt = k
  rw [BitVec.xor_assoc, BitVec.xor_self, BitVec.xor_zero]

/-- witness for the pinned code, which handed `k` itself to `insert`: with a non-zero contempt hash the stored key
    `k ^ contempt` is another key than the one the entry was found under -/
theorem pinned_setBusy_other_key (k c : W) (hc : c ≠ 0) : k ^^^ c ≠ k := by
  intro h
  apply hc
  have : k ^^^ (k ^^^ c) = k ^^^ k := by rw [h]
  simpa [← BitVec.xor_assoc] using this

end Props.C08
