import TexelVerif.Time.StopRule
/-!
# C06 — time limits are honoured

Property theorems only; the model is `Time/Alloc.lean` (`EngineControl::computeTimeLimit`, single-move clamp, `ponderHit`,
`stopThread`) and `Time/StopRule.lean` (`Search::shouldStop`, thread model).  All times are integers (ms of the clock
`currentTimeMillis()` returns).  Floating point enters only through `FP.ScaleOk` and `0 ≤ x` in the polling discipline.
-/
namespace Props.C06
open Tm

/-- For EVERY clock input with a mover's clock of at least 1 ms (any increments, any moves-to-go, any opponent clock,
    Ponder on or off, any parameters with `maxTimeUsage ≥ 100`): `1 ≤ soft ≤ hard ≤ time − min(BufferTime, time·9/10)`. -/
theorem limits_ok (fp : FP) (p : Params) (white ponderOpt : Bool) (g : Go)
    (hs : fp.ScaleOk) (hmu : 100 ≤ p.maxUsage)
    (hinf : g.infinite = false) (hmt : g.moveTime ≤ 0) (ht : 1 ≤ moverTime white g) :
    let a := compute fp p white ponderOpt g
    let time := moverTime white g
    1 ≤ a.minT ∧ a.minT ≤ a.maxT ∧ a.maxT ≤ time - min p.buffer (time * 9 / 10) := by
  have hm : mode g = .clock := by
    have : g.wTime ≠ 0 ∨ g.bTime ≠ 0 := by
      unfold moverTime at ht; cases white <;> simp at ht <;> omega
    simp [mode, hinf, this]; omega
  simp only [compute, hm]
  rw [← margin_eq p.buffer (moverTime white g) (by omega)]
  exact clock_ok fp p _ _ _ _ _ ponderOpt ht hmu hs

/-- When the clock is large enough for the configured buffer (`BufferTime ≤ 90 %` of the clock) the whole buffer is kept. -/
theorem limits_ok_full_buffer (fp : FP) (p : Params) (white ponderOpt : Bool) (g : Go)
    (hs : fp.ScaleOk) (hmu : 100 ≤ p.maxUsage)
    (hinf : g.infinite = false) (hmt : g.moveTime ≤ 0) (ht : 1 ≤ moverTime white g)
    (hbig : p.buffer ≤ moverTime white g * 9 / 10) :
    (compute fp p white ponderOpt g).maxT ≤ moverTime white g - p.buffer := by
  have := (limits_ok fp p white ponderOpt g hs hmu hinf hmt ht).2.2
  omega

/-- Corner "clock smaller than 10/9 of the buffer": the code keeps 90 % of the clock instead of the buffer; the hard limit
    is then at most a tenth of the clock (rounded up), and still at least 1 ms. -/
theorem limits_small_clock (fp : FP) (p : Params) (white ponderOpt : Bool) (g : Go)
    (hs : fp.ScaleOk) (hmu : 100 ≤ p.maxUsage)
    (hinf : g.infinite = false) (hmt : g.moveTime ≤ 0) (ht : 1 ≤ moverTime white g)
    (hsmall : moverTime white g * 9 / 10 < p.buffer) :
    (compute fp p white ponderOpt g).maxT ≤ moverTime white g - moverTime white g * 9 / 10 ∧
    (compute fp p white ponderOpt g).maxT ≤ (moverTime white g + 9) / 10 := by
  have := (limits_ok fp p white ponderOpt g hs hmu hinf hmt ht).2.2
  omega

/-- The literal reading "hard ≤ clock − BufferTime" cannot be met by any positive limit once the clock is not larger than
    the buffer, so `limits_ok` (budget = clock − min(buffer, 90 % of the clock)) is the strongest uniform statement. -/
theorem literal_budget_unsatisfiable (time buffer hard : Int) (h : time ≤ buffer) (h1 : 1 ≤ hard) : ¬ hard ≤ time - buffer := by
  omega

/-- `go movetime m`: soft = hard = m and no early stop. -/
theorem movetime_ok (fp : FP) (p : Params) (white ponderOpt : Bool) (g : Go) (hinf : g.infinite = false) (hmt : 0 < g.moveTime) :
    let a := compute fp p white ponderOpt g
    a.minT = g.moveTime ∧ a.maxT = g.moveTime ∧ a.early = 10000 := by
  have hm : mode g = .moveTime := by simp [mode, hinf, hmt]
  simp [compute, hm]

/-- `go infinite`, or no time control at all: no time limit (−1). -/
theorem no_time_control (fp : FP) (p : Params) (white ponderOpt : Bool) (g : Go)
    (h : g.infinite = true ∨ (g.moveTime ≤ 0 ∧ g.wTime = 0 ∧ g.bTime = 0)) :
    (compute fp p white ponderOpt g).minT = -1 ∧ (compute fp p white ponderOpt g).maxT = -1 := by
  rcases h with h | ⟨h1, h2, h3⟩
  · simp [compute, mode, h]
  · cases hi : g.infinite
    · have : ¬ g.moveTime > 0 := by omega
      simp [compute, mode, hi, this, h2, h3]
    · simp [compute, mode, hi]

/-- Every timed `go` in the domain: `1 ≤ soft ≤ hard ≤ budget`, budget = move time resp. clock minus margin. -/
theorem timed_limits_ok (fp : FP) (p : Params) (white ponderOpt : Bool) (g : Go)
    (hs : fp.ScaleOk) (hmu : 100 ≤ p.maxUsage) (hg : g.Timed white) :
    let a := compute fp p white ponderOpt g
    1 ≤ a.minT ∧ a.minT ≤ a.maxT ∧ a.maxT ≤ goBudget p white g := by
  obtain ⟨hinf, hc⟩ := hg
  by_cases hmt : 0 < g.moveTime
  · have := movetime_ok fp p white ponderOpt g hinf hmt
    simp only at this
    simp only [goBudget, if_pos hmt, this.1, this.2.1]; omega
  · have ht : 1 ≤ moverTime white g := by omega
    have := limits_ok fp p white ponderOpt g hs hmu hinf (by omega) ht
    simp only at this
    simp only [goBudget, if_neg hmt, budget, margin_eq p.buffer (moverTime white g) (by omega)]; exact this

/-- The closed form `Tm.alloc` (to which the integer slices regenerated from enginecontrol.cpp are proved equal in
    `Bridge/Time.lean`) is the clock branch of this model on the property's domain. -/
theorem translated_alloc_is_model (fp : FP) (p : Params) (time inc oTime oInc mtg : Int) (ponderOpt : Bool)
    (ht : 0 ≤ time) (hi : 0 ≤ inc) (hm : 0 ≤ mtg) (hr : 1 ≤ p.maxRem) :
    let L := alloc time inc mtg p.maxRem p.buffer (ponderBonus fp p time inc oTime oInc mtg ponderOpt)
               (fun m => fp.scale m (movesEff mtg p.maxRem) p.maxUsage)
    L.soft = clockSoft fp p time inc oTime oInc mtg ponderOpt ∧ L.hard = clockHard fp p time inc oTime oInc mtg ponderOpt :=
  alloc_eq_clock fp p time inc oTime oInc mtg ponderOpt ht hi hm hr

/-- The single-legal-move clamp keeps `1 ≤ soft ≤ hard ≤ B` (and caps both at 100 ms). -/
theorem single_move_clamp_ok (minT maxT B : Int) (h : 1 ≤ minT ∧ minT ≤ maxT ∧ maxT ≤ B) :
    1 ≤ singleMin minT maxT ∧ singleMin minT maxT ≤ singleMax maxT ∧ singleMax maxT ≤ B ∧ singleMax maxT ≤ 100 :=
  single_ok minT maxT B h

/-- What `startSearch` hands to `Search::timeLimit`, for any number of legal moves: `1 ≤ soft ≤ hard ≤ budget`. -/
theorem start_limits_ok (fp : FP) (p : Params) (white ponderOpt : Bool) (g : Go) (nMoves : Int)
    (hs : fp.ScaleOk) (hmu : 100 ≤ p.maxUsage) (hg : g.Timed white) :
    let l := startLim p (compute fp p white ponderOpt g) nMoves
    1 ≤ l.minT ∧ l.minT ≤ l.maxT ∧ l.maxT ≤ goBudget p white g := by
  have h := timed_limits_ok fp p white ponderOpt g hs hmu hg
  simp only at h
  simp only [startLim]
  split
  · have := single_ok _ _ _ h
    simp only [storeLim]; omega
  · simpa only [storeLim] using h

/-- What `ponderHit` hands to `Search::timeLimit`: `1 ≤ soft ≤ hard ≤ budget`; with a single legal move both are 1 ms. -/
theorem ponderhit_limits_ok (fp : FP) (p : Params) (white ponderOpt : Bool) (g : Go) (nMoves : Int)
    (hs : fp.ScaleOk) (hmu : 100 ≤ p.maxUsage) (hg : g.Timed white) :
    let l := ponderHitLim p (compute fp p white ponderOpt g) nMoves
    1 ≤ l.minT ∧ l.minT ≤ l.maxT ∧ l.maxT ≤ goBudget p white g ∧ (nMoves < 2 → l.maxT = 1) := by
  have h := timed_limits_ok fp p white ponderOpt g hs hmu hg
  simp only at h
  have := hit_ok _ _ _ (onePossible nMoves false) h
  refine ⟨this.1, this.2.1, this.2.2, ?_⟩
  intro hn
  simp only [ponderHitLim, storeLim, hitMax, onePossible, hn, decide_true, Bool.not_false, Bool.and_self, true_and]
  split <;> omega

/-- While pondering the search has no time limit, and `stop` installs `(0, 0)`. -/
theorem ponder_and_stop_limits (p : Params) :
    (ponderLim p).minT = -1 ∧ (ponderLim p).maxT = -1 ∧ (stopLim p).minT = 0 ∧ (stopLim p).maxT = 0 := by
  simp [ponderLim, stopLim, storeLim]

/-- Whatever `searchNeedMoreTime` and `hardFactor` say, `shouldStop` compares the elapsed time with a limit in `[0, hard]`. -/
theorem stop_rule_limit_ok (l : Lim) (need : Bool) (x : Int) (hl : 0 ≤ l.minT ∧ l.minT ≤ l.maxT) (hx : 0 ≤ x) :
    0 ≤ effLimit l need x ∧ effLimit l need x ≤ l.maxT := effLimit_ok l need x hl hx

/-- A `shouldStop` evaluated at or after `tStart + hard` stops the search. -/
theorem stop_rule_fires (tStart : Int) (l : Lim) (s : Th) (pre suf : List Ev) (need : Bool) (x slp : Int)
    (hl : 0 ≤ l.minT ∧ l.minT ≤ l.maxT) (hx : 0 ≤ x) (hlate : tStart + l.maxT ≤ (run tStart l s pre).now) :
    (run tStart l s (pre ++ .poll need x slp :: suf)).stopped = true :=
  late_poll_stops tStart l s pre suf need x slp hl hx hlate

/-- Without limits (pondering, `go infinite`) the time test never fires. -/
theorem stop_rule_unlimited (elapsed : Int) (l : Lim) (need : Bool) (x : Int) (h1 : l.minT = -1) (h2 : l.maxT = -1) :
    timeStop elapsed l need x = false := timeStop_unlimited elapsed l need x h1 h2

/-- **Stop within one polling interval.**  Limits `0 ≤ soft ≤ hard` are in force from time `t0` on; the thread searches
    nodes costing at most `τ` each, evaluates `shouldStop` at least every `N` nodes, and the MaxNPS throttle sleeps at most
    `S` after a test.  Then the search is stopped no later than `max t0 (tStart + hard) + S + N·τ`, for every event sequence. -/
theorem stop_within_poll (tStart t0 : Int) (l : Lim) (N : Nat) (τ S : Int) (evs : List Ev)
    (hτ : 0 ≤ τ) (hS : 0 ≤ S) (hl : 0 ≤ l.minT ∧ l.minT ≤ l.maxT) (hd : Disc N τ S 0 evs) :
    (run tStart l ⟨t0, false⟩ evs).now ≤ max t0 (tStart + l.maxT) + S + N * τ := by
  exact run_bound tStart l N τ S (max t0 (tStart + l.maxT)) hτ hl (by omega) evs ⟨t0, false⟩ 0 hd (by omega) (by simp; omega)

/-- `go` with a time control, not pondering: stopped by `tStart + budget + S + N·τ` (limits are installed before the search starts). -/
theorem go_deadline (fp : FP) (p : Params) (white ponderOpt : Bool) (g : Go) (nMoves tStart : Int) (N : Nat) (τ S : Int)
    (evs : List Ev) (hs : fp.ScaleOk) (hmu : 100 ≤ p.maxUsage) (hg : g.Timed white)
    (hτ : 0 ≤ τ) (hS : 0 ≤ S) (hd : Disc N τ S 0 evs) :
    (run tStart (startLim p (compute fp p white ponderOpt g) nMoves) ⟨tStart, false⟩ evs).now
      ≤ tStart + goBudget p white g + S + N * τ := by
  have h := start_limits_ok fp p white ponderOpt g nMoves hs hmu hg
  simp only at h
  have := stop_within_poll tStart tStart (startLim p (compute fp p white ponderOpt g) nMoves) N τ S evs hτ hS (by omega) hd
  omega

/-- `ponderhit` at time `t0 ≥ tStart`: stopped by `max t0 (tStart + budget) + S + N·τ`. -/
theorem ponderhit_deadline (fp : FP) (p : Params) (white ponderOpt : Bool) (g : Go) (nMoves tStart t0 : Int) (N : Nat) (τ S : Int)
    (evs : List Ev) (hs : fp.ScaleOk) (hmu : 100 ≤ p.maxUsage) (hg : g.Timed white)
    (hτ : 0 ≤ τ) (hS : 0 ≤ S) (hd : Disc N τ S 0 evs) :
    (run tStart (ponderHitLim p (compute fp p white ponderOpt g) nMoves) ⟨t0, false⟩ evs).now
      ≤ max t0 (tStart + goBudget p white g) + S + N * τ := by
  have h := ponderhit_limits_ok fp p white ponderOpt g nMoves hs hmu hg
  simp only at h
  have := stop_within_poll tStart t0 (ponderHitLim p (compute fp p white ponderOpt g) nMoves) N τ S evs hτ hS (by omega) hd
  omega

/-- `stop` at time `t0 ≥ tStart` (limits set to zero): stopped within one polling interval, by `t0 + S + N·τ`. -/
theorem stop_after_zero (p : Params) (tStart t0 : Int) (N : Nat) (τ S : Int) (evs : List Ev)
    (h0 : tStart ≤ t0) (hτ : 0 ≤ τ) (hS : 0 ≤ S) (hd : Disc N τ S 0 evs) :
    (run tStart (stopLim p) ⟨t0, false⟩ evs).now ≤ t0 + S + N * τ := by
  have := stop_within_poll tStart t0 (stopLim p) N τ S evs hτ hS (by simp [stopLim, storeLim]) hd
  have hm : (stopLim p).maxT = 0 := by simp [stopLim, storeLim]
  rw [hm] at this; omega

/-- The wait loop that holds back the best move while `ponder`/`infinite` is set leaves at most 9 ms after the flag was
    cleared (10 ms sleep quantum), and never before the search stopped. -/
theorem wait_loop_bound (ts tf : Int) :
    ts ≤ waitLoopExit ts tf 10 ∧ tf ≤ waitLoopExit ts tf 10 ∧ waitLoopExit ts tf 10 ≤ max ts (tf + 9) := by
  have h1 := waitLoopExit_ge ts tf 10 (by omega)
  have h2 := waitLoopExit_le ts tf 10 (by omega)
  omega

/-- The nominal polling period `nodesBetweenTimeCheck` is between 1 and 1000 nodes for every MaxNPS. -/
theorem poll_period_ok (maxNPS : Int) : 1 ≤ nodesBetweenTimeCheck maxNPS ∧ nodesBetweenTimeCheck maxNPS ≤ 1000 := by
  unfold nodesBetweenTimeCheck clamp; split <;> omega

/-! ## The hypotheses are satisfiable -/

example : Params.default.Ok := by simp [Params.Ok, Params.default]
example : fpExact.ScaleOk := fpExact_scaleOk
example : ({ wTime := 60000, bTime := 60000, wInc := 1000, bInc := 1000 } : Go).Timed true := by simp [Go.Timed, moverTime]
example : ({ moveTime := 5000 } : Go).Timed false := by simp [Go.Timed]
example : Disc 2 10 5 0 [.tick 10, .tick 3, .poll false 7 5, .root true, .tick 0, .poll true 0 0, .finish] := by
  simp [Disc]
/-- the default parameters on a 60 s + 1 s clock with the exact rational floating-point instance: soft 2 657 ms, hard 10 628 ms, budget 59 000 ms. -/
example : let a := compute fpExact Params.default true false { wTime := 60000, bTime := 60000, wInc := 1000, bInc := 1000 }
    (a.minT, a.maxT, goBudget Params.default true { wTime := 60000, bTime := 60000, wInc := 1000, bInc := 1000 }) = (2657, 10628, 59000) := by
  decide

end Props.C06
