import TexelVerif.Chess.UnMoveComplete
/-!
# C15 — reverse move generation is complete and consistent with forward moves

Specification (`Chess/UnMove.lean`): `Pred Q (m, ui)` — there is a predecessor `P` that counts (`wfB`: accepted
unchanged by the FEN reader, origin of a double push empty, piece counts reachable by promotions) in which `m` is
legal, playing `m` and normalising the e.p. square (`fixupEP`, as `TextIO::fixupEPSquare`) gives `Q` (board, side,
castle mask, e.p. square), and `ui = undoInfo P m` (captured piece, castle mask and e.p. square of `P`; the
half-move clock of an `UnMove` is always 0 by revmovegen.hpp's contract and is not part of `Undo`).

The oracle `unMoves all Q` (`all` = `includeAllEpSquares`) enumerates candidates from `Q` alone and keeps those for
which `Pred` holds by direct evaluation with the forward rules on `unmake Q m ui`.  The theorems say the oracle is
exactly the specification, for every position `Q` whatsoever, in both modes.  What ties this to the C++ is the
per-position set equality of `RevMoveGen::genMoves(Q, all)` with `unMoves all Q` (tools/checks/c15.py), plus the
two property predicates evaluated on the implementation alone.
-/
namespace Props.C15
open Chess

/-- **consistent** (the property's second half): every un-move listed for any position `Q`, undone with `unmake`,
    restores a position that counts, in which the move is legal, from which it leads back to `Q`, and whose captured
    piece / castle mask / e.p. square are the listed undo information -/
theorem consistent (all : Bool) (Q : Pos) (x : UnMv) (h : x ∈ unMoves all Q) :
    wfB (unmake Q x.m x.ui) = true ∧ legalB (unmake Q x.m x.ui) x.m = true ∧
    (fixupEP (apply (unmake Q x.m x.ui) x.m)).core = Q.core ∧ undoInfo (unmake Q x.m x.ui) x.m = x.ui := by
  unfold unMoves at h
  rw [List.mem_filter] at h
  have h2 := h.2
  unfold predB at h2
  simp only [Bool.and_eq_true, beq_iff_eq] at h2
  exact ⟨(wfFast_eq _).symm.trans h2.1.1.1.2, h2.1.1.2, h2.1.2, h2.2⟩

/-- every un-move the oracle lists is an un-move of the specification (either mode) -/
theorem unMoves_sound (all : Bool) (Q : Pos) (x : UnMv) (h : x ∈ unMoves all Q) : Pred Q x :=
  have ⟨hwf, hleg, hq, hui⟩ := consistent all Q x h
  ⟨unmake Q x.m x.ui, hwf, hleg, hq, hui.symm⟩

/-- in mode `includeAllEpSquares = false` an e.p. square is reported only for the e.p. capture itself -/
theorem unMoves_false_ep (Q : Pos) (x : UnMv) (h : x ∈ unMoves false Q) : x.ui.ep = none ∨ isEpUn Q x = true := by
  unfold unMoves at h
  rw [List.mem_filter] at h
  have h1 := h.1
  unfold cands at h1
  simp only [List.mem_flatMap, List.mem_map] at h1
  obtain ⟨m, _, cap, _, c, _, ep, hep, rfl⟩ := h1
  unfold epCands at hep
  simp only [Bool.false_eq_true, if_false] at hep
  unfold isEpUn
  split at hep
  · next hk =>
    simp only [List.mem_cons, List.not_mem_nil, or_false] at hep
    rcases hep with rfl | rfl
    · exact Or.inl rfl
    · right; simp only [Bool.and_eq_true, beq_iff_eq]; exact ⟨by simpa using hk, trivial⟩
  · simp only [List.mem_cons, List.not_mem_nil, or_false] at hep
    exact Or.inl hep

/-- **the oracle is exactly the specification**, for every `Q`, in both modes -/
theorem unMoves_iff (all : Bool) (Q : Pos) (x : UnMv) :
    x ∈ unMoves all Q ↔ Pred Q x ∧ (all = true ∨ x.ui.ep = none ∨ isEpUn Q x = true) := by
  constructor
  · intro h
    refine ⟨unMoves_sound all Q x h, ?_⟩
    cases all
    · exact Or.inr (unMoves_false_ep Q x h)
    · exact Or.inl rfl
  · rintro ⟨h, hm⟩
    exact unMoves_complete all Q x h hm

theorem unMovesSpec_sound (Q : Pos) (x : UnMv) (h : x ∈ unMovesSpec Q) : Pred Q x := unMoves_sound true Q x h

theorem unMovesSpec_complete (Q : Pos) (x : UnMv) (h : Pred Q x) : x ∈ unMovesSpec Q :=
  unMoves_complete true Q x h (Or.inl rfl)

theorem unMovesSpec_iff (Q : Pos) (x : UnMv) : x ∈ unMovesSpec Q ↔ Pred Q x :=
  ⟨unMovesSpec_sound Q x, unMovesSpec_complete Q x⟩

theorem pred_intro (P Q : Pos) (m : Mv) (hP : wfB P = true) (hm : legalB P m = true)
    (hQ : (fixupEP (apply P m)).core = Q.core) : Pred Q { m := m, ui := undoInfo P m } :=
  ⟨P, hP, hm, hQ, rfl⟩

/-- **complete** (the property's first half): for every predecessor `P` that counts and every legal move `m` leading
    to `Q`, the list for `Q` contains `m` together with exactly the information that restores `P` -/
theorem complete (P Q : Pos) (m : Mv) (hP : wfB P = true) (hm : legalB P m = true)
    (hQ : (fixupEP (apply P m)).core = Q.core) : { m := m, ui := undoInfo P m } ∈ unMovesSpec Q :=
  unMovesSpec_complete Q _ (pred_intro P Q m hP hm hQ)

/-- …and in mode `includeAllEpSquares = false` it contains `m` with `P`'s captured piece and castle mask, and with
    `P`'s e.p. square if `m` is the e.p. capture, none otherwise -/
theorem complete_noEp (P Q : Pos) (m : Mv) (hP : wfB P = true) (hm : legalB P m = true)
    (hQ : (fixupEP (apply P m)).core = Q.core) :
    (if isEpUn Q { m := m, ui := undoInfo P m } then { m := m, ui := undoInfo P m }
     else UnMv.noEp { m := m, ui := undoInfo P m }) ∈ unMoves false Q := by
  have hp := pred_intro P Q m hP hm hQ
  by_cases h : isEpUn Q { m := m, ui := undoInfo P m } = true
  · rw [if_pos h]; exact unMoves_complete false Q _ hp (Or.inr (Or.inr h))
  · rw [if_neg h]
    have h' : isEpUn Q { m := m, ui := undoInfo P m } = false := by simpa using h
    exact unMoves_complete false Q _ (pred_noEp Q _ hp h') (Or.inr (Or.inl rfl))

/-- **no legal predecessor is ever missing**: if the list for `Q` is empty — even in the mode without unused e.p.
    squares, which is the one the "no possible last move" test uses — then no position that counts has a legal move
    leading to `Q` -/
theorem no_unmoves_no_predecessor (Q : Pos) (h : unMoves false Q = []) :
    ¬ ∃ (P : Pos) (m : Mv), wfB P = true ∧ legalB P m = true ∧ (fixupEP (apply P m)).core = Q.core := by
  rintro ⟨P, m, hP, hm, hQ⟩
  have := complete_noEp P Q m hP hm hQ
  rw [h] at this
  cases this

/-- **repaired behaviour** (`fix: RevMoveGen::genMoves must not un-move the double push when the pawn's origin square …
    is occupied`): a position with an e.p. square has predecessors only if the square the double-pushed pawn came from,
    and the e.p. square itself, are empty — so the condition the repair adds never drops a predecessor -/
theorem ep_origin_empty (Q : Pos) (x : UnMv) (e : Sq) (h : Pred Q x) (he : Q.ep = some e) :
    Q.b.getD (if Q.wtm then e.val + 8 else e.val - 8) 0 = 0 ∧ Q.b.getD e.val 0 = 0 :=
  pred_ep_origin_empty Q x e h he

/-- the position `4k3/8/8/8/3pP3/8/4N3/4K3 b - e3` (accepted by the FEN reader; knight on the double push's origin) -/
def witnessQ : Pos :=
  { b := (Vector.replicate 64 0 |>.set 4 WKING |>.set 60 BKING |>.set 12 WKNIGHT |>.set 28 WPAWN |>.set 27 BPAWN),
    wtm := false, castle := 0, ep := some (sq 20), hmc := 0, fmc := 1 }

/-- **witness of the defect found**: `witnessQ` has no predecessor at all (the unrepaired `genMoves` listed `e2e4` for it,
    whose predecessor lacks the knight; replay: known_findings.json `ep-origin-occupied`) -/
theorem ep_origin_occupied_witness : ¬ ∃ x, Pred witnessQ x := by
  rintro ⟨x, h⟩
  have := (ep_origin_empty witnessQ x (sq 20) h rfl).1
  revert this
  decide

/-- un-making a pseudo-legal move restores the predecessor (board, side to move, castle mask, e.p. square) -/
theorem unmake_restores (P Q : Pos) (m : Mv) (hp : pseudo P m = true) (hs : epShape P = true)
    (hq : (fixupEP (apply P m)).core = Q.core) : (unmake Q m (undoInfo P m)).core = P.core :=
  unmake_core P Q m hp hs hq

/-! ## non-vacuity: the hypotheses of `complete` / `complete_noEp` are satisfiable -/

private def P0 : Pos :=
  { b := (Vector.replicate 64 0 |>.set 4 WKING |>.set 60 BKING |>.set 12 WPAWN), wtm := true, castle := 0, ep := none, hmc := 0, fmc := 1 }
private def m0 : Mv := { f := sq 12, t := sq 28, promo := 0 }
/-- a predecessor with an e.p. square: white pawn e5, black pawn d5 just double-pushed -/
private def P1 : Pos :=
  { b := (Vector.replicate 64 0 |>.set 4 WKING |>.set 60 BKING |>.set 36 WPAWN |>.set 35 BPAWN), wtm := true, castle := 0,
    ep := some (sq 43), hmc := 0, fmc := 1 }
private def m1 : Mv := { f := sq 36, t := sq 43, promo := 0 }

set_option maxRecDepth 100000 in
example : wfB P0 = true ∧ legalB P0 m0 = true := by decide +kernel
set_option maxRecDepth 100000 in
example : wfB P1 = true ∧ legalB P1 m1 = true := by
  -- `wfB` normalises the e.p. square through the whole move list; `wfFast` tests the two candidate captures
  have h : wfFast P1 = true ∧ legalB P1 m1 = true := by decide +kernel
  exact ⟨(wfFast_eq P1).symm.trans h.1, h.2⟩
set_option maxRecDepth 100000 in
example : { m := m0, ui := undoInfo P0 m0 } ∈ unMovesSpec (fixupEP (apply P0 m0)) :=
  complete P0 _ m0 (by decide +kernel) (by decide +kernel) rfl
set_option maxRecDepth 100000 in
example : isEpUn (fixupEP (apply P1 m1)) { m := m1, ui := undoInfo P1 m1 } = true := by decide +kernel

end Props.C15
