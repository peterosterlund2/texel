import TexelVerif.Uci.Impl
import TexelVerif.Uci.Lemmas
/-!
# C05 — UCI session contract

`Uci.accepts` is the executable contract; the theorems say what acceptance means in the property's own words.
The tie is the acceptance of the real (ASan/UBSan) binary's timelines for generated command scripts
(tools/checks/c05.py).  The protocol/engine thread interplay that produces the timelines is modelled in `Conc/`
(property C10); here only the command dispatch is (partial).
-/
namespace Props.C05
open Uci

/-- bookkeeping invariant: what is owed equals what was asked minus what was delivered, at every prefix -/
theorem owed_counts (tr : List Ev) (s : St) (h : run {} tr = some s) :
    s.goOwed + countOut .bestmove tr = countIn isGo tr ∧
    s.readyOwed + countOut .readyok tr = countIn (· == .isready) tr ∧
    s.uciOwed + countOut .uciok tr = countIn (· == .uci) tr := by
  simpa using run_counts tr {} s h

/-- **exactly one `bestmove` per `go`, one `readyok` per `isready`, one `uciok` per `uci`** in every accepted complete session -/
theorem accepted_counts (tr : List Ev) (h : accepts tr = true) :
    countOut .bestmove tr = countIn isGo tr ∧ countOut .readyok tr = countIn (· == .isready) tr ∧
    countOut .uciok tr = countIn (· == .uci) tr := by
  unfold accepts at h
  cases hr : run {} tr with
  | none => rw [hr] at h; cases h
  | some s =>
    rw [hr] at h
    simp only [Bool.and_eq_true, beq_iff_eq] at h
    obtain ⟨⟨h1, h2⟩, h3⟩ := h
    have := owed_counts tr s hr
    omega

/-- **no search output after a `bestmove` until the next `go`**: at every `info` line of an accepted session strictly
    more searches have been started than best moves delivered -/
theorem info_only_during_search (pre post : List Ev) (h : (run {} (pre ++ Ev.out .info :: post)).isSome = true) :
    countOut .bestmove pre < countIn isGo pre := by
  rw [run_append] at h
  cases hp : run {} pre with
  | none => rw [hp] at h; simp at h
  | some s =>
    rw [hp] at h
    have := (owed_counts pre s hp).1
    by_cases hg : s.goOwed > 0
    · omega
    · simp [run, step, hg] at h

/-- **a held search is not answered early**: when a `bestmove` arrives and only one search is outstanding, that search is
    neither an unreleased ponder search nor an unreleased infinite search -/
theorem held_not_answered (pre post : List Ev) (s : St) (hp : run {} pre = some s)
    (h : (run {} (pre ++ Ev.out .bestmove :: post)).isSome = true) :
    s.goOwed ≥ 1 ∧ (s.goOwed = 1 → s.held = false) := by
  rw [run_append, hp] at h
  by_cases h0 : s.goOwed = 0
  · simp [run, step, h0] at h
  · by_cases h1 : s.goOwed = 1 ∧ s.held = true
    · simp [run, step, h0, h1] at h
    · exact ⟨by omega, fun h1' => by simpa [h1'] using h1⟩

/-- the repaired command dispatch never dereferences a null engine object, for every command sequence -/
theorem impl_no_crash (cs : List Cmd) (e : Bool) : ∃ e', runCmds true e cs = .ok e' := by
  induction cs generalizing e with
  | nil => exact ⟨e, rfl⟩
  | cons c cs ih =>
    cases c <;> simp only [runCmds, dispatch, Bool.or_true, if_true] <;> exact ih _

/-- the pinned commit crashes on the one-command session `ponderhit` -/
theorem ponderhit_crash_witness : runCmds false false [.ponderhit] = .crash := by decide

-- non-vacuity: a typical session is accepted
example : accepts [.inp .uci, .out .idOrOption, .out .uciok, .inp .isready, .out .readyok, .inp .other,
                   .inp (.go false true), .out .info, .inp .stop, .out .info, .out .bestmove, .inp .quit] = true := by decide
example : accepts [.inp (.go false true), .out .bestmove] = false := by decide

end Props.C05
