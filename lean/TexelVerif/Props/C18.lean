import TexelVerif.Book.ProbeLemmas
/-!
# C18 — the opening book never yields an illegal move

Model: `Book/Polyglot.lean` (record and move codecs, hash key) and `Book/Probe.lean` (`getBookEntries`,
`getBookMove`), following `lib/texellib/book/{polyglot,book}.cpp` after the repair
`fix: 64-bit arithmetic in the polyglot book probe`.  A book file is an *arbitrary* `List UInt8`; a missing file
behaves as the empty list.  "Legal" is `Chess.legalB` of the shared specification; the model's legal list is
`Chess.genLegal` (its agreement with `MoveGen` is property C01).  The polyglot hash key is a definition
(`Book.getHashKey`, table `Book.hashRandoms` regenerated from the C++ source); nothing below depends on its
value, so it is tied to the code by the differential check only.
-/
namespace Props.C18
open Chess Book

/-- **No illegal move, for arbitrary bytes.**  Whatever the file contains (truncated, unsorted, corrupted,
    empty) and whatever the random draw, the probe returns no move or a move that is legal in the position. -/
theorem probe_safe (file : List UInt8) (p : Pos) (rnd : Nat) :
    getBookMove file p rnd = none ∨ ∃ m, getBookMove file p rnd = some m ∧ legalB p m = true := by
  rcases selectMove_safe p (getBookEntries file p) rnd with h | ⟨m, h, hl, _⟩
  · exact Or.inl h
  · exact Or.inr ⟨m, h, hl⟩

/-- The same for the selection step alone, with *any* candidate list and any (even negative) weights: this is
    the code path shared by the polyglot file and the built-in book (`Book::bookMap`).  The returned move is
    moreover one of the candidates. -/
theorem select_safe (p : Pos) (cands : List (Mv × Int)) (rnd : Nat) :
    selectMove p cands rnd = none ∨
    ∃ m, selectMove p cands rnd = some m ∧ legalB p m = true ∧ ∃ c ∈ cands, c.1 = m :=
  selectMove_safe p cands rnd

/-- If any candidate stored under the position's key is illegal the probe returns nothing (the
    hash-collision guard), whatever the other candidates are. -/
theorem illegal_candidate_blocks (p : Pos) (cands : List (Mv × Int)) (rnd : Nat) (c : Mv × Int)
    (hc : c ∈ cands) (hill : legalB p c.1 = false) : selectMove p cands rnd = none := by
  rcases h : sumIfLegal (genLegal p) cands 0 with _ | s
  · unfold selectMove; rw [h]; split <;> rfl
  · have := sumIfLegal_legal _ _ _ _ h c hc
    rw [mem_genLegal, hill] at this
    cases this

/-- **Only the probe key, for any file.**  Every record the probe turns into a candidate lies inside the file
    and carries exactly the probe key — sorted or not. -/
theorem only_own_key (file : List UInt8) (key : Nat) :
    ∀ i ∈ candidateIdx file key, i < numEntries file ∧ keyAt file i = key :=
  candidateIdx_own_key file key

/-- …hence a returned move is the decoding of a record stored under the position's key. -/
theorem probe_move_from_own_key (file : List UInt8) (p : Pos) (rnd : Nat) (m : Mv)
    (h : getBookMove file p rnd = some m) :
    ∃ i, i < numEntries file ∧ keyAt file i = (getHashKey p).toNat ∧ m = getMove p (readEntry file (i : Int)).move := by
  rcases selectMove_safe p (getBookEntries file p) rnd with h' | ⟨m', h', _, c, hc, e⟩
  · unfold getBookMove at h; rw [h'] at h; cases h
  · unfold getBookMove at h; rw [h'] at h
    have hm : m' = m := by injection h
    unfold getBookEntries entriesForKey at hc
    obtain ⟨i, hi, rfl⟩ := List.mem_map.mp hc
    have := candidateIdx_own_key file _ i hi
    exact ⟨i, this.1, this.2, by rw [← hm, ← e]⟩

/-- **Completeness on a well-formed (sorted) book**: the candidates are *all* records with the key, in file order. -/
theorem bsearch_complete (file : List UInt8) (key : Nat) (hs : SortedBook file) :
    candidateIdx file key = (List.range (numEntries file)).filter (fun i => keyAt file i = key) :=
  candidateIdx_sorted file key hs

/-- **Every stored move of positive weight is returned with positive probability** (well-formed book: sorted,
    and the moves stored under the position's key are legal): some 64-bit draw selects it.  (`2^52`: so that the
    weight sum, at most 65535 · 2^48, stays below the 2^64 values of the draw.) -/
theorem positive_weight_reachable (file : List UInt8) (p : Pos) (hs : SortedBook file) (hlen : file.length < 2 ^ 52)
    (i : Nat) (hi : i < numEntries file) (hk : keyAt file i = (getHashKey p).toNat)
    (hw : 0 < (readEntry file (i : Int)).weight)
    (hlegal : ∀ j, j < numEntries file → keyAt file j = (getHashKey p).toNat →
      legalB p (getMove p (readEntry file (j : Int)).move) = true) :
    ∃ r, r < 2 ^ 64 ∧ getBookMove file p r = some (getMove p (readEntry file (i : Int)).move) := by
  let key := (getHashKey p).toNat
  let f : Nat → Mv × Int := fun j => (getMove p (readEntry file (j : Int)).move, ((readEntry file (j : Int)).weight : Int))
  have hidx : i ∈ candidateIdx file key := by
    rw [candidateIdx_sorted file key hs, List.mem_filter, List.mem_range]
    exact ⟨hi, by simpa using hk⟩
  obtain ⟨pre, post, hsplit⟩ := List.append_of_mem hidx
  have hcands : getBookEntries file p = pre.map f ++ f i :: post.map f := by
    show (candidateIdx file key).map f = _
    rw [hsplit, List.map_append, List.map_cons]
  have hall : ∀ c ∈ getBookEntries file p, c.1 ∈ genLegal p := by
    intro c hc
    obtain ⟨j, hj, rfl⟩ := List.mem_map.mp (show c ∈ (candidateIdx file key).map f from hc)
    have := candidateIdx_own_key file key j hj
    exact (mem_genLegal p _).mpr (hlegal j this.1 this.2)
  have hsum := sumIfLegal_value (genLegal p) (getBookEntries file p) 0 hall
  obtain ⟨hwb, _⟩ := entriesForKey_weights file p key
  have hpre0 : ∀ d : Mv × Int, d ∈ pre.map f → 0 ≤ d.2 := by
    intro d hd
    apply (hwb d _).1
    show d ∈ (candidateIdx file key).map f
    rw [hsplit, List.map_append]
    exact List.mem_append_left _ hd
  have hpost0 : 0 ≤ ((post.map f).map (fun c : Mv × Int => c.2)).sum := by
    apply sum_nonneg_of
    intro x hx
    obtain ⟨d, hd, rfl⟩ := List.mem_map.mp hx
    apply (hwb d _).1
    show d ∈ (candidateIdx file key).map f
    rw [hsplit, List.map_append, List.map_cons]
    exact List.mem_append_right _ (List.mem_cons_of_mem _ hd)
  have hpresum : 0 ≤ ((pre.map f).map (fun c : Mv × Int => c.2)).sum := by
    apply sum_nonneg_of
    intro x hx
    obtain ⟨d, hd, rfl⟩ := List.mem_map.mp hx
    exact hpre0 d hd
  have hwi : 0 < (f i).2 := by show (0 : Int) < ((readEntry file (i : Int)).weight : Int); omega
  have htot : ((getBookEntries file p).map (fun c : Mv × Int => c.2)).sum
      = ((pre.map f).map (fun c : Mv × Int => c.2)).sum + ((f i).2 + ((post.map f).map (fun c : Mv × Int => c.2)).sum) := by
    rw [hcands, List.map_append, List.map_cons, List.sum_append, List.sum_cons]
  have hbound := (weight_sum_bound file p key).2
  have hne : (getBookEntries file p).isEmpty = false := by rw [hcands]; simp
  -- the draw: the sum of the weights of the candidates before record `i`; `selectMove` then stops at `i`
  refine ⟨(((pre.map f).map (fun c : Mv × Int => c.2)).sum).toNat, ?_, ?_⟩
  · have : ((getBookEntries file p).map (fun c : Mv × Int => c.2)).sum ≤ (numEntries file : Int) * 65535 := hbound
    unfold numEntries at this
    omega
  · unfold getBookMove selectMove
    rw [hne, hsum]
    simp only [Bool.false_eq_true, if_false, Int.zero_add]
    rw [if_neg (by omega)]
    have hmod : ((((pre.map f).map (fun c : Mv × Int => c.2)).sum).toNat % (((getBookEntries file p).map (fun c : Mv × Int => c.2)).sum).toNat : Nat)
        = (((pre.map f).map (fun c : Mv × Int => c.2)).sum).toNat := Nat.mod_eq_of_lt (by omega)
    rw [hmod, hcands]
    have := pick_at (pre.map f) (f i) (post.map f) 0 hpre0 hwi
    rw [Int.zero_add] at this
    rw [Int.toNat_of_nonneg hpresum]
    exact this

/-- **Move codec round trip**, castling included: encoding a legal move in the polyglot format and decoding it
    in the same position gives the move back. -/
theorem pg_codec (p : Pos) (m : Mv) (h : legalB p m = true) : getMove p (getPGMove p m) = m :=
  Book.pg_codec p m h

/-- **Record codec round trip** (`serialize` / `deSerialize`). -/
theorem record_codec (hash move weight : Nat) (hh : hash < 2 ^ 64) (hm : move < 2 ^ 16) (hw : weight < 2 ^ 16) :
    (serialize hash move weight).length = 16 ∧
    deSerialize (serialize hash move weight) = { key := hash, move := move, weight := weight } :=
  ⟨rfl, deSerialize_serialize hash move weight hh hm hw⟩

/-- **The binary search terminates for every file length** (the model function is total by a well-founded
    measure `hi - lo`); explicitly, the loop body runs at most `k` times when `numEntries + 1 ≤ 2^k`, sorted or not. -/
theorem bsearch_terminates (file : List UInt8) (key : Nat) (k : Nat) (h : numEntries file + 1 ≤ 2 ^ k) :
    bsearchIters file key (-1) (numEntries file) ≤ k :=
  bsearchIters_le file key k (-1) (numEntries file) (by omega)

/-- **No read outside the file**: every midpoint of the search started at `lo = -1, hi = numEntries` is a valid
    entry number, and a valid entry number is read in full (the zero-fill branch of `readEntry` is dead for a
    file that does not shrink while it is being probed). -/
theorem reads_in_range (file : List UInt8) :
    (∀ lo hi : Int, -1 ≤ lo → hi ≤ (numEntries file : Int) → hi - lo > 1 →
        0 ≤ midpoint lo hi ∧ midpoint lo hi < (numEntries file : Int) ∧ lo < midpoint lo hi ∧ midpoint lo hi < hi) ∧
    (∀ key, 0 ≤ bsearch file key (-1) (numEntries file) ∧ bsearch file key (-1) (numEntries file) ≤ (numEntries file : Int)) ∧
    (∀ i : Nat, i < numEntries file → ((file.drop (16 * i)).take 16).length = 16 ∧
        readEntry file (i : Int) = deSerialize ((file.drop (16 * i)).take 16)) := by
  refine ⟨?_, ?_, fun i hi => readEntry_in_range file i hi⟩
  · intro lo hi hlo hhi h
    have h1 := bsearch_mid_in_range (numEntries file) lo hi hlo hhi h
    have h2 := midpoint_between lo hi h
    exact ⟨h1.1, h1.2, h2.1, h2.2⟩
  · intro key
    have := bsearch_range file key (-1) (numEntries file) (by omega)
    omega

/-- **Weight sum after the repair**: at most `65535 · numEntries`, which a signed 64-bit integer holds for every
    file shorter than 2^50 bytes (65535 · 2^46 < 2^63).  (All other
    integers of the probe — entry numbers, `lo + hi`, byte offsets `16·entNo` — are bounded by the file length.) -/
theorem weight_sum_fits_s64 (file : List UInt8) (p : Pos) (hlen : file.length < 2 ^ 50) :
    0 ≤ ((getBookEntries file p).map (fun c : Mv × Int => c.2)).sum ∧ ((getBookEntries file p).map (fun c : Mv × Int => c.2)).sum < 2 ^ 63 := by
  have := weight_sum_bound file p (getHashKey p).toNat
  unfold numEntries at this
  refine ⟨this.1, ?_⟩
  show ((entriesForKey file p (getHashKey p).toNat).map (fun c : Mv × Int => c.2)).sum < 2 ^ 63
  omega

/-! ## The defects of the code before the repair (witnesses)

`int sum` + `rndGen.nextInt(sum)` in `getBookMove`, `int` entry numbers / offsets in `getBookEntries`.  The inputs
are realised as files by the check (`pgbook run 16385 …`, `pgbook run 40000 …`, `pgbook sparse 2147483664`). -/

/-- `Random::nextInt(modulo)` accepts a 30-bit draw `r` only if `r < (2^30 / modulo) * modulo` -/
def oldNextIntAccepts (modulo r : Nat) : Bool := r < (2 ^ 30 / modulo) * modulo

/-- 16385 equal-key records of weight 65535 (a 262 160-byte file) give a weight sum above 2^30 that still fits
    an `int`; for such a modulus the rejection loop of `nextInt` accepts no draw at all: the probe never returned. -/
theorem old_nextInt_hang_witness :
    (List.replicate 16385 (65535 : Int)).sum = 1073790975 ∧ (1073790975 : Int) < 2 ^ 31 ∧
    ∀ r, r < 2 ^ 30 → oldNextIntAccepts 1073790975 r = false := by
  refine ⟨by rw [sum_replicate_int]; decide, by decide, ?_⟩
  intro r _
  have h0 : 2 ^ 30 / 1073790975 = 0 := by decide
  simp [oldNextIntAccepts, h0]

/-- 32769 such records (524 304 bytes; the check uses 40 000) make the true sum exceed `INT_MAX`: signed overflow -/
theorem old_int_sum_overflow_witness : (List.replicate 32769 (65535 : Int)).sum > 2 ^ 31 - 1 := by
  rw [sum_replicate_int]; decide

/-- a file of 2 GiB + 16 bytes has entry number 2^27, whose byte offset `entNo * entSize` exceeds `INT_MAX` -/
theorem old_offset_overflow_witness :
    (List.range (numEntries (List.replicate (2 ^ 4) (0 : UInt8)))).length = 1 ∧
    ((2147483664 / 16 - 1 : Nat) : Int) * 16 > 2 ^ 31 - 1 := by
  refine ⟨by decide, by decide⟩

/-! ## non-vacuity of the hypotheses -/

/-- a two-record book with equal keys -/
def demoFile : List UInt8 := serialize 5 796 1 ++ serialize 5 796 2

theorem demoFile_sorted : SortedBook demoFile := by
  intro i j hij hj
  have h2 : numEntries demoFile = 2 := by decide
  rw [h2] at hj
  have h0 : keyAt demoFile 0 = 5 := by decide
  have h1 : keyAt demoFile 1 = 5 := by decide
  have : (i = 0 ∨ i = 1) ∧ (j = 0 ∨ j = 1) := by omega
  rcases this with ⟨rfl | rfl, rfl | rfl⟩ <;> simp [h0, h1]
example : numEntries demoFile = 2 ∧ keyAt demoFile 0 = 5 ∧ keyAt demoFile 1 = 5 := by decide
example : candidateIdx demoFile 5 = [0, 1] := by rw [bsearch_complete _ _ demoFile_sorted]; decide
example : (demoFile.length < 2 ^ 50) := by decide

end Props.C18
