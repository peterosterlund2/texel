import TexelVerif.BookBuild.Witness
import TexelVerif.BookBuild.AddPos
import TexelVerif.BookBuild.Relink
import TexelVerif.BookBuild.Serial
/-!
# C19 — book-builder graph scores stay at their defined fixed point

Property theorems only; the model is `TexelVerif/BookBuild/{Basic,Update,Link}.lean`, the proofs are in
`BookBuild/{Propagate,Invariant,Preserve,UpdateSpec,Ops,Depth,LinkSpec,AddLink,LinkNew,Sorted,AddPos,Distance,Unique,
Init,Reload,Relink,Serial,Witness}.lean`.

`fixed := true` is the algorithm of the tree *after* the commit `fix: BookNode::updateScores also queues the changed
node itself for the path-error pass`; `fixed := false` is the algorithm as found.  The line-protocol driver
(`Drv/BookBuild.lean`) runs `fixed := true`; the differential of `./check C19` ties it to the C++.
-/
namespace Props.C19
open Bk

/-- `BookNode::setSearchResult` (any best move, any score incl. mate / INVALID / IGNORE) keeps the book at its fixed point. -/
theorem setSearchResult_preserves_fixedpoint (b : Book) (i mv : Nat) (score : Int) (time : Nat)
    (h : FixedPoint b) (hi : i < b.size) : FixedPoint (setSearchResult true b i mv score time) :=
  setSearchResult_preserves b i mv score time h hi

/-- `Book::addPending` keeps the book at its fixed point. -/
theorem addPending_preserves_fixedpoint (b : Book) (i : Nat) (h : FixedPoint b) (hi : i < b.size) :
    FixedPoint (addPending true b i) :=
  addPending_preserves b i h hi

/-- `Book::removePending` keeps the book at its fixed point. -/
theorem removePending_preserves_fixedpoint (b : Book) (i : Nat) (h : FixedPoint b) (hi : i < b.size) :
    FixedPoint (removePending true b i) :=
  removePending_preserves b i h hi

/-- An explicit `node->updateScores(bookData)` keeps the book at its fixed point. -/
theorem updateScores_preserves_fixedpoint (b : Book) (i : Nat) (h : FixedPoint b) (hi : i < b.size) :
    FixedPoint (updateScores true b i) :=
  updateScores_preserves b i h hi

/-- `Book::addPosToBook` (new node, links to *all* its parents incl. transpositions, links to already existing
    children, `updateDepth` along every new link, `updateScores` on the new node) keeps the book at its fixed point.
    `AddOk` is what the chess rules guarantee about the new position's links: at least one parent, link targets exist,
    the root is nobody's child, the extended graph is acyclic (ghost rank `r'`), all parents have the same depth parity
    and all children that parity too, the parents have no book move yet for the linking move, distinct children are
    reached by distinct moves, fewer than 2^31 - 2 nodes. -/
theorem addPos_preserves_fixedpoint (b : Book) (key : Nat) (ps cs : List (Nat × Nat)) (r' : Nat → Nat)
    (h : FixedPoint b) (hA : AddOk b ps cs r') : FixedPoint (addPos true b key ps cs) :=
  addPos_preserves b key ps cs r' h hA

/-- One `parent->addChild(mv, child); child->addParent(mv, parent)` (which runs `updateDepth`) keeps links consistent
    and ranked, re-establishes every depth equation and the parity alternation, and changes nothing but the two link
    lists and depths; depths only decrease and keep parity and zero-ness. -/
theorem addLink_preserves_link_invariant (b : Book) (r : Nat → Nat) (c mv p : Nat) (hI : LinkInv b r)
    (hp : p < b.size) (hc : c < b.size) (hc0 : c ≠ 0) (hrk : r p < r c) (hpl : p = 0 ∨ parentIds (b.nd p) ≠ [])
    (hpar : parentIds (b.nd c) = [] ∨ ((b.nd p).depth + (b.nd c).depth) % 2 = 1)
    (huniq : ∀ x ∈ (b.nd p).children, x.1 = mv → x = (mv, c)) :
    LinkInv (addLink b c mv p) r ∧ AL b (addLink b c mv p) c mv p :=
  addLink_spec b r c mv p hI hp hc hc0 hrk hpl hpar huniq

/-- The core of all of the above: on a structurally sound book where only `start` and its parents may violate the
    negamax / expansion-cost equations and only `start` may violate the path-error equations, the repaired
    `updateScores` re-establishes every equation and writes nothing but the five derived score fields. -/
theorem updateScores_reaches_fixedpoint (b : Book) (start : Nat) (hS : StructOk b) (hs : start < b.size)
    (hnm : ∀ j, j < b.size → j ≠ start → j ∉ parentIds (b.nd start) → nmOk b j)
    (hpe : ∀ j, j < b.size → j ≠ start → peOk b j) :
    FixedPoint (updateScores true b start) ∧ SameBase (updateScores true b start) b := by
  refine ⟨updateScores_fixedPoint b start hS hs hnm hpe, ?_⟩
  obtain ⟨r, hr⟩ := hS.acyclic
  exact (updateScores_spec b start r hS.wf hr hs hnm hpe).1

/-- The local depth equation of `FixedPoint` means "length of a shortest chain of child links from the root". -/
theorem depth_is_shortest_distance (b : Book) (h : FixedPoint b) (j : Nat) (hj : j < b.size) :
    Path b 0 j (b.nd j).depth ∧ ∀ len, Path b 0 j len → (b.nd j).depth ≤ len :=
  depth_is_distance b h.struct j hj

/-- The fixed point is well defined: the stored fields of every node, the links, the pending set and the cost constants
    determine depth, negamax score, expansion costs and path errors of every node. -/
theorem fixedpoint_unique (b1 b2 : Book) (h1 : FixedPoint b1) (h2 : FixedPoint b2) (hg : SameGiven b1 b2) : b1 = b2 :=
  fixedPoint_unique b1 b2 h1 h2 hg

/-- `readFromFile`'s `root->updateScores` on freshly deserialised scores (all negamax scores INVALID) reaches the fixed
    point on any structurally sound book (this is the `updateChildren` branch of `updateNegaMax`, which the other
    operations never enter on a book at its fixed point). -/
theorem updateScores_from_fresh_reaches_fixedpoint (b : Book) (hS : StructOk b)
    (hfresh : ∀ j, j < b.size → (b.nd j).nm = INVALID) (hpe : ∀ j, j < b.size → j ≠ 0 → peOk b j) :
    FixedPoint (updateScores true b 0) :=
  (updateScores_init b hS hfresh hpe).1

/-- Save + reload (`writeToFile`, then `readFromFile`: fresh nodes from the stored records, depth-first relinking
    `initPositions`/`setChildRefs` along the links the chess rules give, `root->updateScores`) reproduces exactly the
    same graph and scores.  `readFromFile` clears the pending set, hence `b.pending = []`; fewer than 2^31 - 1 nodes. -/
theorem reload_roundtrip (b : Book) (h : FixedPoint b) (hp : b.pending = []) (hsmall : b.size < DEPTH_INF) :
    reload true b = b :=
  Bk.reload_roundtrip b h hp hsmall

/-- …and with marks pending before the save, the reloaded book is at its fixed point again (with no marks). -/
theorem reload_reaches_fixedpoint (b : Book) (h : FixedPoint b) (hsmall : b.size < DEPTH_INF) :
    FixedPoint (reload true b) := by
  obtain ⟨r, hr⟩ := h.acyclic
  rw [reload_eq]
  exact (relinked_spec b r h hr hsmall).init.1

/-- The 16-byte record: reading back what `serialize` wrote gives the four stored fields (U64 key, U16 move,
    S16 score, U32 time; little-endian host). -/
theorem record_roundtrip (r : Rec) (hk : r.key < 2 ^ 64) (hm : r.move < 2 ^ 16) (hs1 : -32768 ≤ r.score)
    (hs2 : r.score ≤ 32767) (ht : r.time < 2 ^ 32) : Rec.decode r.encode = some r :=
  decode_encode r hk hm hs1 hs2 ht

/-- The algorithm as found leaves the book off its fixed point: after the 4-node history of `witnessRun`
    node A's path error violates its defining equation. -/
theorem fixedpoint_broken_witness : ¬ FixedPoint (witnessRun false) :=
  fun h => absurd (h.pathErr 1 (by decide +kernel)) (by decide +kernel)

/-- The same history with the repaired algorithm satisfies every score equation. -/
theorem fixedpoint_ok_witness_fixed : ∀ i, i < (witnessRun true).size → nmOk (witnessRun true) i ∧ peOk (witnessRun true) i :=
  (scoresOkB_iff _).mp (by decide +kernel)

/-- The values of the witness, as printed by the real library before / after the repair. -/
theorem witness_values :
    ((witnessRun false).nd 1).nm = 30 ∧ ((witnessRun false).nd 1).peW = 40 ∧ ((witnessRun false).pathErrOf 1).1 = 80 ∧
    ((witnessRun true).nd 1).nm = 30 ∧ ((witnessRun true).nd 1).peW = 80 := by decide +kernel

-- non-vacuity: the hypotheses are satisfiable
example (k : Nat) (c : Costs) : FixedPoint (Book.new k c) := fixedPoint_new k c
example : (0 : Nat) < (Book.new 7 {}).size := by decide
example : AddOk (Book.new 7 {}) [(1804, 0)] [] (fun i => i) := by
  refine ⟨by simp, ?_, by simp, ?_, ?_, ?_, by simp, ?_, by simp, ?_, by simp, by decide⟩
  · intro e he; simp at he; subst he; decide
  · intro i hi; exact hi
  · intro i hi c hc
    have : i = 0 := by have : (Book.new 7 {}).size = 1 := rfl; omega
    subst this; simp [nd_new, childIds] at hc
  · intro e he; simp at he; subst he; decide
  · intro e he e' he'; simp at he he'; subst he; subst he'; rfl
  · intro e he x hx; simp at he; subst he; simp [nd_new] at hx

-- a transposition: node 3 is added under the root and gets the existing node 2 (depth 2) as its child
example : AddOk exB [(30, 0)] [(40, 2)] exR := by
  have hsz : exB.size = 3 := by decide
  have hcase : ∀ i, i < exB.size → i = 0 ∨ i = 1 ∨ i = 2 := by intro i hi; omega
  refine ⟨by simp, ?_, ?_, ?_, ?_, ?_, ?_, ?_, ?_, ?_, ?_, by decide⟩
  · intro e he; simp at he; subst he; decide
  · intro e he; simp at he; subst he; decide
  · intro i hi; rw [hsz] at hi ⊢; unfold exR; split <;> (try split) <;> omega
  · intro i hi c hc
    rcases hcase i hi with rfl | rfl | rfl
    · have : childIds (exB.nd 0) = [1] := by decide
      rw [this] at hc; simp at hc; subst hc; decide
    · have : childIds (exB.nd 1) = [2] := by decide
      rw [this] at hc; simp at hc; subst hc; decide
    · have : childIds (exB.nd 2) = [] := by decide
      rw [this] at hc; simp at hc
  · intro e he; simp at he; subst he; decide
  · intro e he; simp at he; subst he; decide
  · intro e he e' he'; simp at he he'; subst he; subst he'; rfl
  · intro e he e' he'; simp at he he'; subst he; subst he'; decide
  · intro e he x hx; simp at he; subst he
    have : (exB.nd 0).children = [(10, 1)] := by decide
    rw [this] at hx; simp at hx; subst hx; decide
  · intro e he e' he' _; simp at he he'; rw [he, he']
example : exB.pending = [] ∧ exB.size < DEPTH_INF := by decide

end Props.C19
