import TexelVerif.PosImpl.History
import TexelVerif.PosImpl.Serial
import TexelVerif.PosImpl.MatId
import TexelVerif.Chess.FenRT
import TexelVerif.Drv.Pos
/-!
# C02 — position state survives any make/unmake history intact

Model: `PosImpl/Model.lean` (every field of `PositionBase` except `pieceTypeBB_[EMPTY]`; Zobrist tables, piece
values and MatId weights are parameters).  `Inv T s` says that every redundant field of `s` equals its
from-scratch recomputation `fresh T (abs s)`; `abs s : Chess.Pos` is the essential state.  `EpOk p` says that the
e.p. flag is meaningful (square empty, the double-stepped pawn behind it) — `readFEN` enforces it, `makeMove`
re-establishes it.  Moves are quantified over *pseudo-legal* moves of the specification (`Chess.pseudo`), a
superset of the legal ones.
-/
namespace Props.C02
open Chess PosImpl

theorem fresh_inv (T : Tables) (p : Pos) : PosImpl.Inv T (fresh T p) := by
  unfold PosImpl.Inv; rfl

/-! ## the primitives keep the invariant and do to the essential state what their name says -/

theorem setPiece_inv (T : Tables) (s : PosImpl) (sq : Nat) (pc : Pc) (h : PosImpl.Inv T s) (hs : sq < 64) :
    PosImpl.Inv T (setPiece T s sq pc) ∧ abs (setPiece T s sq pc) = { abs s with b := setSq (abs s).b sq pc } :=
  Inv.of_fresh_step (setPiece T · sq pc) h (setPiece_fresh T _ 0 sq pc hs)

theorem clearPiece_inv (T : Tables) (s : PosImpl) (sq : Nat) (h : PosImpl.Inv T s) (hs : sq < 64) :
    PosImpl.Inv T (clearPiece T s sq) ∧ abs (clearPiece T s sq) = { abs s with b := setSq (abs s).b sq 0 } :=
  Inv.of_fresh_step (clearPiece T · sq) h (clearPiece_fresh T _ 0 sq hs)

/-- `movePieceNotPawn` under its calling convention: a non-empty non-pawn piece on `f`, `t` empty -/
theorem movePieceNotPawn_inv (T : Tables) (s : PosImpl) (f t : Nat) (h : PosImpl.Inv T s) (ok : MoveOkAt s.squares f t) :
    PosImpl.Inv T (movePieceNotPawn T s f t) ∧
    abs (movePieceNotPawn T s f t) = { abs s with b := setSq (setSq (abs s).b f 0) t (getP (abs s).b f) } :=
  Inv.of_fresh_step (movePieceNotPawn T · f t) h (move_fresh T _ 0 f t ok)

theorem setEpSquare_inv (T : Tables) (s : PosImpl) (e : Option Sq) (h : PosImpl.Inv T s) :
    PosImpl.Inv T (setEpSquare T s e) ∧ abs (setEpSquare T s e) = { abs s with ep := e } :=
  Inv.of_fresh_step (setEpSquare T · e) h (setEpSquare_fresh T _ 0 e)

theorem setCastleMask_inv (T : Tables) (s : PosImpl) (cm : UInt8) (h : PosImpl.Inv T s) :
    PosImpl.Inv T (setCastleMask T s cm) ∧ abs (setCastleMask T s cm) = { abs s with castle := cm } :=
  Inv.of_fresh_step (setCastleMask T · cm) h (setCastleMask_fresh T _ 0 cm)

theorem setWhiteMove_inv (T : Tables) (s : PosImpl) (w : Bool) (h : PosImpl.Inv T s) :
    PosImpl.Inv T (setWhiteMove T s w) ∧ abs (setWhiteMove T s w) = { abs s with wtm := w } :=
  Inv.of_fresh_step (setWhiteMove T · w) h (setWhiteMove_fresh T _ 0 w)

/-! ## makeMove / unMakeMove -/

private theorem make_eq (T : Tables) (s : PosImpl) (h : PosImpl.Inv T s) (he : EpOk (abs s)) (m : Mv)
    (hm : pseudo (abs s) m = true) :
    makeMove T s m = (fresh T (Chess.apply (abs s) m), uiOf (abs s) m) := by
  have e : makeMove T s m = makeMove T (fresh T (abs s)) m := by rw [← h]
  rw [e, makeMove_fresh_C T (abs s) m (makeOk_of_pseudo _ m hm he), makeC_eq_apply _ m hm he]

/-- `makeMove` keeps every redundant field right (and the e.p. flag meaningful) -/
theorem makeMove_inv (T : Tables) (s : PosImpl) (h : PosImpl.Inv T s) (he : EpOk (abs s)) (m : Mv)
    (hm : pseudo (abs s) m = true) : PosImpl.Inv T (makeMove T s m).1 ∧ EpOk (abs (makeMove T s m).1) := by
  obtain ⟨hi, ha⟩ := Inv.of_fresh (congrArg Prod.fst (make_eq T s h he m hm))
  refine ⟨hi, ?_⟩
  rw [ha, ← makeC_eq_apply _ m hm he]
  exact epOk_makeC _ m hm

/-- `makeMove` plays the move of the rules of chess on the essential state — board, side, castling rights,
    e.p. square (Texel's convention: set only when an enemy pawn stands beside the pawn), both counters -/
theorem makeMove_refines (T : Tables) (s : PosImpl) (h : PosImpl.Inv T s) (he : EpOk (abs s)) (m : Mv)
    (hm : pseudo (abs s) m = true) : abs (makeMove T s m).1 = Chess.apply (abs s) m :=
  (Inv.of_fresh (congrArg Prod.fst (make_eq T s h he m hm))).2

/-- `unMakeMove` after `makeMove` restores the position **bit for bit** (every field) -/
theorem unMake_make (T : Tables) (s : PosImpl) (h : PosImpl.Inv T s) (he : EpOk (abs s)) (m : Mv)
    (hm : pseudo (abs s) m = true) : unMakeMove T (makeMove T s m).1 m (makeMove T s m).2 = s := by
  rw [make_eq T s h he m hm]
  show unMakeMove T (fresh T (Chess.apply (abs s) m)) m (uiOf (abs s) m) = s
  rw [← makeC_eq_apply _ m hm he]
  obtain ⟨ok, hr⟩ := unmake_make_C (abs s) m hm he
  rw [unMakeMove_fresh_C T _ m _ ok, hr]
  exact h.symm

/-! ## null-move edit -/

private theorem null_eq (T : Tables) (s : PosImpl) (h : PosImpl.Inv T s) :
    nullEdit T s = (fresh T { abs s with wtm := !(abs s).wtm, ep := none, hmc := 0 }, ((abs s).ep, (abs s).hmc)) := by
  have hs : s = fresh T (abs s) := h
  have e : nullEdit T s = nullEdit T (xorHash (fresh T (abs s)) 0) := by rw [xorHash_zero, ← hs]
  rw [e]
  unfold nullEdit
  simp only [f_whiteMove, setWhiteMove_fresh, f_epSquare, setEpSquare_fresh, f_hmc, setHalfMoveClock_fresh]
  rw [xorHash_zero]

theorem nullEdit_inv (T : Tables) (s : PosImpl) (h : PosImpl.Inv T s) :
    PosImpl.Inv T (nullEdit T s).1 ∧ EpOk (abs (nullEdit T s).1) ∧
    abs (nullEdit T s).1 = { abs s with wtm := !(abs s).wtm, ep := none, hmc := 0 } := by
  rw [null_eq T s h]
  refine ⟨fresh_inv T _, ?_, rfl⟩
  intro e he; cases he

theorem nullUndo_nullEdit (T : Tables) (s : PosImpl) (h : PosImpl.Inv T s) : nullUndo T (nullEdit T s).1 (nullEdit T s).2 = s := by
  rw [null_eq T s h]
  simp only []
  rw [← xorHash_zero (fresh T _)]
  unfold nullUndo
  simp only [setEpSquare_fresh, f_whiteMove, setWhiteMove_fresh, setHalfMoveClock_fresh]
  rw [xorHash_zero]
  have : ({ b := (abs s).b, wtm := !(!(abs s).wtm), castle := (abs s).castle, ep := (abs s).ep, hmc := (abs s).hmc,
            fmc := (abs s).fmc } : Pos) = abs s := by
    cases hw : (abs s).wtm <;> (apply pos_ext <;> simp [hw])
  rw [this]; exact h.symm

/-! ## histories -/

theorem step_good (T : Tables) (c c' : Cfg) (op : Op) (hg : Good T c.cur c.stack c.saved) (hs : step T c op = some c') :
    Good T c'.cur c'.stack c'.saved := by
  obtain ⟨cur, stack, saved⟩ := c
  simp only [] at hg
  have hw : WFI T cur := by cases hg <;> assumption
  cases op with
  | mk m =>
    simp only [step] at hs
    split at hs
    · rename_i hm
      cases hs
      have hi := makeMove_inv T cur hw.1 hw.2 m hm
      exact Good.cons _ _ _ _ _ ⟨hi.1, hi.2⟩ (unMake_make T cur hw.1 hw.2 m hm) hg
    · cases hs
  | null =>
    simp only [step] at hs
    cases hs
    have hi := nullEdit_inv T cur hw.1
    exact Good.cons _ _ _ _ _ ⟨hi.1, hi.2.1⟩ (nullUndo_nullEdit T cur hw.1) hg
  | undo =>
    simp only [step] at hs
    cases hg with
    | nil s h0 => simp at hs
    | cons s f st s' sv h0 hu hr =>
      simp only [] at hs
      cases hs
      simp only []
      rw [hu]; exact hr
  | copy =>
    simp only [step] at hs
    cases hs
    exact hg

/-- **any history**: along every valid sequence of make / take-back / null-move edit / copy operations from a
    well-formed state the invariant holds, and every pending operation, when taken back, yields exactly the
    state saved before it -/
theorem history_inv (T : Tables) (ops : List Op) (c c' : Cfg) (hg : Good T c.cur c.stack c.saved)
    (hr : run T c ops = some c') : Good T c'.cur c'.stack c'.saved := by
  induction ops generalizing c with
  | nil => simp only [run] at hr; cases hr; exact hg
  | cons op ops ih =>
    simp only [run] at hr
    cases hs : step T c op with
    | none => rw [hs] at hr; cases hr
    | some c1 =>
      rw [hs] at hr
      exact ih c1 (step_good T c c1 op hg hs) hr

/-- in particular every redundant field is right after any history from a well-formed start -/
theorem history_state_inv (T : Tables) (s₀ : PosImpl) (h0 : PosImpl.Inv T s₀) (he : EpOk (abs s₀)) (ops : List Op) (c' : Cfg)
    (hr : run T { cur := s₀, stack := [], saved := [] } ops = some c') : PosImpl.Inv T c'.cur ∧ EpOk (abs c'.cur) := by
  have := history_inv T ops _ c' (Good.nil s₀ ⟨h0, he⟩) hr
  obtain ⟨cur, stack, saved⟩ := c'
  simp only [] at this ⊢
  have hw : WFI T cur := by cases this <;> assumption
  exact hw

/-- …and a take-back returns the saved copy, bit for bit -/
theorem history_takeback (T : Tables) (s : PosImpl) (f : Frame) (st : List Frame) (s' : PosImpl) (sv : List PosImpl)
    (hg : Good T s (f :: st) (s' :: sv)) :
    step T { cur := s, stack := f :: st, saved := s' :: sv } .undo = some { cur := s', stack := st, saved := sv } := by
  cases hg with
  | cons _ _ _ _ _ _ hu _ => simp only [step]; rw [hu]

/-- king squares (derived from the king bitboards) are the first square holding the king -/
theorem kingSq_inv (T : Tables) (s : PosImpl) (h : PosImpl.Inv T s) :
    s.wKingSq = (List.range 64).find? (fun i => getP s.squares i == WKING) ∧
    s.bKingSq = (List.range 64).find? (fun i => getP s.squares i == BKING) := kingSq_spec T s h

/-- every position the FEN reader accepts is a well-formed start of a history: the state built from it satisfies
    the invariant and its e.p. flag is meaningful -/
theorem accepted_start_good (T : Tables) (fen : String) (p : Pos) (h : readFEN fen = .ok p) :
    Good T (fresh T p) [] [] := by
  refine Good.nil _ ⟨fresh_inv T p, ?_⟩
  show EpOk p
  intro e he
  have hp := readFEN_epPlausible fen p h e he
  unfold epPlausible at hp
  cases hw : p.wtm
  · rw [hw] at hp
    simp only [Bool.false_eq_true, if_false] at hp ⊢
    refine ⟨?_, hp.2.2⟩
    rw [getP_eq _ _ e.isLt]; exact hp.2.1
  · rw [hw] at hp
    simp only [if_true] at hp ⊢
    refine ⟨?_, hp.2.2⟩
    rw [getP_eq _ _ e.isLt]; exact hp.2.1

/-! ## equal positions have equal keys -/

/-- positions that are equal under the repetition rule (`drawRuleEquals`) have the same hash key, pawn hash key,
    material id, bitboards and material sums -/
theorem hash_congr (T : Tables) (s t : PosImpl) (hs : PosImpl.Inv T s) (ht : PosImpl.Inv T t) (h : drawRuleEq (abs s) (abs t)) :
    s.hashKey = t.hashKey ∧ s.pHashKey = t.pHashKey ∧ s.matId = t.matId ∧ s.bb = t.bb ∧
    s.whiteBB = t.whiteBB ∧ s.blackBB = t.blackBB ∧ s.wMtrl = t.wMtrl ∧ s.bMtrl = t.bMtrl := by
  obtain ⟨h1, h2, h3, h4⟩ := h
  rw [hs, ht]
  simp only [fresh, freshHash, h1, h2, h3, h4, true_and]

/-! ## compact serialisation (position.cpp:420-499)

The field widths are the side conditions: piece codes < 16, castle mask < 16, `halfMoveClock < 256`,
`fullMoveCounter < 65536`; the e.p. square needs none (-1 ↦ 0xff ↦ -1). -/

theorem decode_serialize (s : PosImpl) (hp : ∀ i : Fin 64, s.squares[i] < 16) (hc : s.castleMask < 16)
    (hh : s.halfMoveClock < 256) (hf : s.fullMoveCounter < 65536) : decode (serialize s) = abs s :=
  PosImpl.decode_serialize s hp hc hh hf

/-- a serialised position read back is identical (every field) -/
theorem deSerialize_serialize (T : Tables) (s : PosImpl) (hI : PosImpl.Inv T s) (hp : ∀ i : Fin 64, s.squares[i] < 16)
    (hc : s.castleMask < 16) (hh : s.halfMoveClock < 256) (hf : s.fullMoveCounter < 65536) :
    deSerialize T (serialize s) = s :=
  PosImpl.deSerialize_serialize T s hI hp hc hh hf

/-- the five words fit 64 bits (so the `Nat` model of the `U64` words loses nothing) -/
theorem serialize_words_lt (s : PosImpl) (hp : ∀ i : Fin 64, s.squares[i] < 16) (hc : s.castleMask < 16)
    (hh : s.halfMoveClock < 256) (hf : s.fullMoveCounter < 65536) : ∀ w ∈ serialize s, w < 2 ^ 64 :=
  PosImpl.serialize_lt s hp hc hh hf

/-- the width conditions are necessary: `halfMoveClock = 256` is read back as 0 … -/
theorem serialize_hmc_witness :
    PosImpl.Inv T0 (witness 256 1) ∧ (witness 256 1).halfMoveClock = 256 ∧
    deSerialize T0 (serialize (witness 256 1)) ≠ witness 256 1 :=
  ⟨witness_inv 256 1, rfl, deSerialize_hmc_witness⟩

/-- … and `fullMoveCounter = 65536` is read back as 0 -/
theorem serialize_fmc_witness :
    PosImpl.Inv T0 (witness 0 65536) ∧ (witness 0 65536).fullMoveCounter = 65536 ∧
    deSerialize T0 (serialize (witness 0 65536)) ≠ witness 0 65536 :=
  ⟨witness_inv 0 65536, rfl, deSerialize_fmc_witness⟩

/-! ## FEN (textio.cpp:34-266) -/

/-- a position that the reader accepts and normalises to, written as FEN and read back, is identical -/
theorem readFEN_toFEN (p : Pos) (h : WFfen p) : readFEN (toFEN p) = .ok p := Chess.readFEN_toFEN p h

/-- without the e.p. normalisation (positions produced by raw `makeMove`): identical up to the reader's
    e.p. fix-up `fixupEP` (an e.p. square is kept only if an e.p. capture is legal) -/
theorem readFEN_toFEN_general (p : Pos) (h : WFfenPre p) : readFEN (toFEN p) = .ok (fixupEP p) :=
  Chess.readFEN_toFEN_fixup p h

/-! ## material identifier

`matIdNat c` is the mathematically exact sum of the `MatId` weights for piece counts `c`; `PromoConsistent c`
= counts that legal play can produce (extra pieces come from promoted pawns; up to 9 queens per side). -/

/-- **defect of the original code**: with six black queens the exact identifier does not fit a signed 32-bit
    `int`, so `MatId::hash += …` overflowed (undefined behaviour) -/
theorem matId_overflow_witness : ∃ c, PromoConsistent c ∧ matIdNat c ≥ 2 ^ 31 := PosImpl.matId_overflow_witness

/-- the original signed arithmetic step by step: the sixth black queen overflows -/
theorem matId_old_six_black_queens :
    ((((((some 0 : Option Int).bind (MatIdOld.addPiece · BQUEEN)).bind (MatIdOld.addPiece · BQUEEN)).bind
      (MatIdOld.addPiece · BQUEEN)).bind (MatIdOld.addPiece · BQUEEN)).bind (MatIdOld.addPiece · BQUEEN)) = some 1934295040 ∧
    MatIdOld.addPiece 1934295040 BQUEEN = none := MatIdOld.six_black_queens

/-- **second defect**: `Evaluate::materialScore` computed `(id >> 16) * 40507 + id` in signed `int`; four black
    queens already overflow it -/
theorem matKey_overflow_witness : ∃ c, PromoConsistent c ∧ matIdNat c < 2 ^ 31 ∧ keyNat (matIdNat c) ≥ 2 ^ 31 :=
  PosImpl.matKey_overflow_witness

/-- repaired (unsigned) arithmetic: both 16-bit halves stay in range, so the 32-bit sum never wraps … -/
theorem matId_in_uint32 (c : Counts) (h : PromoConsistent c) :
    whiteHalf c < 65536 ∧ blackHalf c < 65536 ∧ matIdNat c < 2 ^ 32 ∧ (BitVec.ofNat 32 (matIdNat c)).toNat = matIdNat c :=
  ⟨(half_lt c h).1, (half_lt c h).2, matId_lt c h, matId_toNat c h⟩

/-- … and the identifier is unique per material configuration that legal play can produce -/
theorem matId_injective (c₁ c₂ : Counts) (h₁ : PromoConsistent c₁) (h₂ : PromoConsistent c₂)
    (h : matIdNat c₁ = matIdNat c₂) : c₁ = c₂ := PosImpl.matId_injective c₁ c₂ h₁ h₂ h

/-- the weight table checked against `MatId::materialId[]` by the tie (`pos matw`) is the one of these theorems -/
theorem matWeights_eq : Drv.Pos.matWeights = (List.range 13).map (fun i => matW i.toUInt8) := by decide

/-- the model's `matId` field with the real weight table is that identifier (as a 32-bit value) -/
theorem matId_model (T : Tables) (hT : T.mat = matTable) (s : PosImpl) (h : PosImpl.Inv T s) :
    s.matId = BitVec.ofNat 32 (matIdNat (countsOf s.squares)) := by
  have e : s.matId = sum32 (fun sq => T.mat (getP s.squares sq)) := congrArg PosImpl.matId h
  rw [e, hT]
  exact sum32_matTable s.squares

/-! ## the hypotheses are satisfiable -/

/-- a tiny position: bare kings, white to move; the king move a1-a2 is pseudo-legal, the e.p. condition holds -/
example : let p : Pos := { b := (Vector.replicate 64 0 |>.set 0 WKING |>.set 63 BKING), wtm := true, castle := 0, ep := none, hmc := 0, fmc := 1 }
    pseudo p ⟨0, 8, 0⟩ = true ∧ EpOk p := by decide
example (T : Tables) (p : Pos) : PosImpl.Inv T (fresh T p) := fresh_inv T p
example : PromoConsistent { wq := 9, wr := 2, wb := 2, wn := 2, wp := 0, bq := 9, br := 2, bb := 2, bn := 2, bp := 0 } := by decide
example : WFfen fenStartPos := WFfen_start

end Props.C02
