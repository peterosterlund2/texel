import TexelVerif.Chess.SpecLemmas
import TexelVerif.Chess.KingRay
import TexelVerif.Chess.TexelGenEvade
import TexelVerif.Chess.TexelGenGivesCastle
import TexelVerif.Chess.TexelGenCC4
/-!
# C01 — generated legal moves are exactly the legal moves of chess

The specification (`Chess/Spec.lean`) is the trusted text.  (a) The legal-move oracle is exactly the legality predicate,
and the acceptor run over the real generator's output on every position (`Chess.genCheck`) is sound.  (b) Most of the
file: the algorithms of moveGen.cpp, as Lean models on bitboards (`Chess/TexelGen*.lean`), agree with the specification,
under hypotheses the driver re-checks on every tested position.  What ties both to the C++ is the per-position run
(tools/checks/c01.py: acceptor, and model against the real `MoveGen`) plus the exhaustive comparison of the attack
tables with the ray-walk definition.
-/
namespace Props.C01
open Chess

/-- the oracle lists exactly the moves satisfying the legality predicate -/
theorem genLegal_iff (p : Pos) (m : Mv) : m ∈ genLegal p ↔ legalB p m = true := mem_genLegal p m

/-- …and the pseudo-legal oracle exactly the moves satisfying the movement rules -/
theorem genPseudo_iff (p : Pos) (m : Mv) : m ∈ genPseudo p ↔ pseudo p m = true := mem_genPseudo p m

/-- a legal move never leaves the mover's king attacked, and obeys the movement rules -/
theorem legal_safe (p : Pos) (m : Mv) (h : legalB p m = true) :
    pseudo p m = true ∧ inCheck (apply p m).b p.wtm = false := by
  unfold legalB at h; simpa using h

private theorem reject_none {c : Bool} {s : String} {r : Option String}
    (h : (if (!c) = true then some s else r) = none) : c = true ∧ r = none := by
  cases c
  · simp at h
  · exact ⟨rfl, h⟩

private theorem all_of_genCheck_none (p : Pos) (d : GenData) (h : genCheck p d = none) :
    chkInCheck p d = true ∧ chkLengths d = true ∧ chkNodup d = true ∧ chkPseudoSound p d = true ∧
    chkPseudoComplete p d = true ∧ chkLegalSound p d = true ∧ chkLegalComplete (genLegal p) d = true ∧
    chkGives p d = true ∧ chkEvasions (genLegal p) d = true ∧ chkCaps p (genLegal p) d = true ∧
    chkCC p (genLegal p) d = true := by
  obtain ⟨h1, h⟩ := reject_none h
  obtain ⟨h2, h⟩ := reject_none h
  obtain ⟨h3, h⟩ := reject_none h
  obtain ⟨h4, h⟩ := reject_none h
  obtain ⟨h5, h⟩ := reject_none h
  obtain ⟨h6, h⟩ := reject_none h
  obtain ⟨h7, h⟩ := reject_none h
  obtain ⟨h8, h⟩ := reject_none h
  obtain ⟨h9, h⟩ := reject_none h
  obtain ⟨h10, h⟩ := reject_none h
  obtain ⟨h11, _⟩ := reject_none h
  exact ⟨h1, h2, h3, h4, h5, h6, h7, h8, h9, h10, h11⟩

/-- **Soundness of the acceptor.**  If `genCheck` accepts the implementation's data for position `p` then:
    the in-check verdict is right; the pseudo-legal list and the list after `removeIllegal` have no duplicates;
    the pseudo-legal list is exactly the set of pseudo-legal moves; the moves accepted by `isLegal`, and the
    list after `removeIllegal`, are exactly the legal moves; `givesCheck` agrees with playing the move for every
    legal move; when in check the evasion list omits no legal move; the capture list omits no legal capture
    and (when not in check) the captures-and-checks list omits no legal capture or checking move
    (promotions to queen or knight — rook/bishop under-promotions are deliberately outside these two classes). -/
theorem accepts_sound (p : Pos) (d : GenData) (h : genCheck p d = none) :
    d.inChk = inCheck p.b p.wtm ∧
    d.pseudo.Nodup ∧ d.removed.Nodup ∧
    (∀ m, m ∈ d.pseudo ↔ pseudo p m = true) ∧
    (∀ m, m ∈ d.implLegal ↔ legalB p m = true) ∧
    (∀ m, m ∈ d.removed ↔ legalB p m = true) ∧
    (∀ x ∈ (d.pseudo.zip d.legalV).zip d.givesV, x.1.2 = true → x.2 = givesCheckSpec p x.1.1) ∧
    (d.inChk = true → ∀ m, legalB p m = true → m ∈ d.ev) ∧
    (∀ m, legalB p m = true → capClass p m = true → m ∈ d.caps) ∧
    (d.inChk = false → ∀ m, legalB p m = true → ccClass p m = true → m ∈ d.cc) := by
  obtain ⟨h1, _, h3, h4, h5, h6, h7, h8, h9, h10, h11⟩ := all_of_genCheck_none p d h
  simp only [chkInCheck, beq_iff_eq] at h1
  simp only [chkNodup, Bool.and_eq_true, nodupB_iff] at h3
  simp only [chkPseudoSound, List.all_eq_true] at h4
  simp only [chkPseudoComplete, List.all_eq_true, List.contains_iff_mem, mem_genPseudo] at h5
  simp only [chkLegalSound, Bool.and_eq_true, List.all_eq_true] at h6
  simp only [chkLegalComplete, Bool.and_eq_true, List.all_eq_true, List.contains_iff_mem, mem_genLegal] at h7
  simp only [chkGives, List.all_eq_true, Bool.or_eq_true, Bool.not_eq_true', beq_iff_eq] at h8
  simp only [chkEvasions, Bool.or_eq_true, Bool.not_eq_true', List.all_eq_true, List.contains_iff_mem, mem_genLegal] at h9
  simp only [chkCaps, List.all_eq_true, List.mem_filter, List.contains_iff_mem, mem_genLegal, and_imp] at h10
  simp only [chkCC, Bool.or_eq_true, List.all_eq_true, List.mem_filter, List.contains_iff_mem, mem_genLegal, and_imp] at h11
  refine ⟨h1, h3.1, h3.2, fun m => ⟨h4 m, h5 m⟩, fun m => ⟨h6.1 m, h7.1 m⟩, fun m => ⟨h6.2 m, h7.2 m⟩, ?_, ?_, h10, ?_⟩
  · intro x hx hl
    rcases h8 x hx with h | h
    · rw [hl] at h; cases h
    · exact h
  · intro hc m hm
    rcases h9 with h | h
    · rw [hc] at h; cases h
    · exact h m hm
  · intro hc m hm hcl
    rcases h11 with h | h
    · rw [hc] at h; cases h
    · exact h m hm hcl

/-- geometric core of the king-ray shortcut in `removeIllegal` / `isLegal` (see `Chess/KingRay.lean`) -/
theorem king_ray_core (occ : Ray.Pt → Bool) (k d f t : Ray.Pt) (hd : d ≠ (0,0)) (n : Nat)
    (hnv : ¬ Ray.visible occ k d f) (hc : Ray.clear (Ray.occAfter occ f t) k d n) : Ray.clear occ k d n :=
  Ray.clear_before_of_clear_after occ k d f t hd n hnv hc

/-! ## The algorithms of moveGen.cpp themselves (model: `Chess/TexelGen.lean`, namespace `Chess.Texel`)

The model follows the C++ statement by statement on bitboards (`BitVec 64`) derived from the board; it is tied to
the real `MoveGen` by a differential run on every generated position (same move order, same verdicts).  The
hypotheses: `ValidB` (piece codes 0..12), `KingAt` (the mover's king on `k` and nowhere else — `k` is
`pos.getKingSq(wtm)`), `EpEmpty` (the en-passant square is empty); all three are enforced by `readFEN`, preserved by
`makeMove` (C02) and re-checked by the driver on every tested position (`Texel.genWFb`). -/

/-- `MoveGen::sqAttacked(pos, sq)`: `sq` is attacked by the side not to move, per the specification -/
theorem texel_sqAttacked_eq (b : Board) (hv : Texel.ValidB b) (w : Bool) (t : Sq) :
    Texel.sqAttacked b w t (Texel.occBB b) = attackedBy b (!w) t := Texel.sqAttacked_spec b hv w t

/-- general form used inside `isLegal`: piece bitboards of `b`, any occupancy `occ`, against any board `b'` that has
    this occupancy and these enemy pieces away from the target square -/
theorem texel_sqAttacked_general (b b' : Board) (w : Bool) (t : Sq) (occ : PosImpl.BB)
    (H1 : ∀ q, q ≠ t → Texel.tst occ q = (b'[q] != 0))
    (H2 : ∀ s, s ≠ t → (own (!w) b[s] = true ∨ own (!w) b'[s] = true) → b'[s] = b[s]) :
    Texel.sqAttacked b w t occ = attackedBy b' (!w) t := Texel.sqAttacked_eq b b' w t occ H1 H2

/-- `MoveGen::inCheck` is the specification's `inCheck` -/
theorem texel_inCheck_eq (b : Board) (hv : Texel.ValidB b) (w : Bool) : Texel.inCheck b w = inCheck b w :=
  Texel.inCheck_eq b hv w

/-- the sliding attack set of a rook depends on the occupancy only through the relevant-occupancy mask
    (`rMasks[sq]`: ray squares without the last square of each ray) -/
theorem rook_ray_depends_on_inner_mask (s : Sq) (occ : PosImpl.BB) :
    Texel.rookAttacks s occ = Texel.rookAttacks s (occ &&& Texel.rookInner s) := Texel.rookAttacks_inner s occ

theorem bishop_ray_depends_on_inner_mask (s : Sq) (occ : PosImpl.BB) :
    Texel.bishopAttacks s occ = Texel.bishopAttacks s (occ &&& Texel.bishopInner s) := Texel.bishopAttacks_inner s occ

private theorem table_lift (att impl tbl : Sq → PosImpl.BB → PosImpl.BB) (M : Sq → PosImpl.BB)
    (hatt : ∀ s occ, att s occ = att s (occ &&& M s)) (hshape : ∀ s occ, impl s occ = tbl s (occ &&& M s))
    (htbl : ∀ s sub, sub &&& M s = sub → tbl s sub = att s sub) : ∀ s occ, impl s occ = att s occ := by
  intro s occ
  rw [hshape, htbl s _ (by rw [BitVec.and_assoc, BitVec.and_self]), ← hatt]

/-- **Lifting the table comparison to all 2^64 occupancies.**  `BitBoard::rookAttacks(sq, occ)` is
    `rTables[sq][f(occ & rMasks[sq])]` (bitBoard.hpp:311-316); if the table agrees with the ray walk on every subset of
    the mask (what the check enumerates: all 102 400 + 5 248 subsets in the thorough tier) it agrees on every occupancy. -/
theorem rook_table_lift (impl tbl : Sq → PosImpl.BB → PosImpl.BB)
    (hshape : ∀ s occ, impl s occ = tbl s (occ &&& Texel.rookInner s))
    (htbl : ∀ s sub, sub &&& Texel.rookInner s = sub → tbl s sub = Texel.rookAttacks s sub) :
    ∀ s occ, impl s occ = Texel.rookAttacks s occ :=
  table_lift _ _ _ _ Texel.rookAttacks_inner hshape htbl

theorem bishop_table_lift (impl tbl : Sq → PosImpl.BB → PosImpl.BB)
    (hshape : ∀ s occ, impl s occ = tbl s (occ &&& Texel.bishopInner s))
    (htbl : ∀ s sub, sub &&& Texel.bishopInner s = sub → tbl s sub = Texel.bishopAttacks s sub) :
    ∀ s occ, impl s occ = Texel.bishopAttacks s occ :=
  table_lift _ _ _ _ Texel.bishopAttacks_inner hshape htbl

/-- the generator's sliding attack sets over the board's occupancy are the specification's ray walk -/
theorem texel_rookAttacks_spec (b : Board) (hv : Texel.ValidB b) (s t : Sq) :
    Texel.tst (Texel.rookAttacks s (Texel.occBB b)) t = rookDirs.any fun dd => rayReach b s t dd.1 dd.2 := by
  simp only [rookDirs, List.any_cons, List.any_nil, Bool.or_false, Texel.rookAttacks, Texel.tst_or,
    Texel.ray_eq_rayReach (Texel.occBB b) b (Texel.tst_occBB b hv), Bool.or_assoc]

theorem texel_bishopAttacks_spec (b : Board) (hv : Texel.ValidB b) (s t : Sq) :
    Texel.tst (Texel.bishopAttacks s (Texel.occBB b)) t = bishDirs.any fun dd => rayReach b s t dd.1 dd.2 := by
  simp only [bishDirs, List.any_cons, List.any_nil, Bool.or_false, Texel.bishopAttacks, Texel.tst_or,
    Texel.ray_eq_rayReach (Texel.occBB b) b (Texel.tst_occBB b hv), Bool.or_assoc]

/-- **`MoveGen::isLegal`** (all five paths of moveGen.cpp:621-659: in-check reject, slow path, king step and castling with
    the king lifted off, king-ray shortcut, same-ray shortcut): for a pseudo-legal move, called with the correct
    in-check flag, it returns "the mover's king is not attacked after the move" -/
theorem texel_isLegal_eq (p : Pos) (k : Sq) (hv : Texel.ValidB p.b) (hk : Texel.KingAt p.b p.wtm k) (m : Mv)
    (hp : pseudo p m = true) :
    Texel.isLegal p k m (inCheck p.b p.wtm) = !inCheck (apply p m).b p.wtm := Texel.isLegal_eq p k hv hk m hp

/-- …so `pseudo ∧ isLegal` is the specification's legality predicate -/
theorem texel_isLegal_legalB (p : Pos) (k : Sq) (hv : Texel.ValidB p.b) (hk : Texel.KingAt p.b p.wtm k) (m : Mv) :
    (pseudo p m && Texel.isLegal p k m (inCheck p.b p.wtm)) = legalB p m := Texel.isLegal_legalB p k hv hk m

/-- **`MoveGen::removeIllegal`** on a list of pseudo-legal moves keeps, in order, exactly those after which the mover's
    king is not attacked (king-ray shortcut of moveGen.cpp:574-618 included) -/
theorem texel_removeIllegal_eq (p : Pos) (k : Sq) (hv : Texel.ValidB p.b) (hk : Texel.KingAt p.b p.wtm k) (l : List Mv)
    (hl : ∀ m ∈ l, pseudo p m = true) :
    Texel.removeIllegal p k l = l.filter fun m => !inCheck (apply p m).b p.wtm := Texel.removeIllegal_eq p k hv hk l hl

/-- **`MoveGen::pseudoLegalMoves`** (moveGen.cpp:48-141) generates exactly the moves obeying the movement rules:
    sliders/knights/king by attack masks, castling condition by condition, pawns by shifts and file/row masks -/
theorem texel_pseudoLegal_iff (p : Pos) (k : Sq) (h : Texel.GenWF p k) (m : Mv) :
    m ∈ Texel.pseudoLegalMoves p k ↔ pseudo p m = true := Texel.mem_pseudoLegalMoves p k h m

/-- …and never emits a move twice -/
theorem texel_pseudoLegal_nodup (p : Pos) (k : Sq) (h : Texel.GenWF p k) : (Texel.pseudoLegalMoves p k).Nodup :=
  Texel.nodup_pseudoLegalMoves p k h

/-- **The list the engine treats as the legal moves (`pseudoLegalMoves` then `removeIllegal`) is a permutation of the
    legal moves of chess.** -/
theorem texel_legal_eq (p : Pos) (k : Sq) (h : Texel.GenWF p k) :
    (Texel.removeIllegal p k (Texel.pseudoLegalMoves p k)).Perm (genLegal p) := Texel.texel_legal_perm p k h

/-- **`MoveGen::pseudoLegalCaptures`** (moveGen.cpp:386-456) omits no pseudo-legal — hence no legal — capture of its class
    (captures incl. en passant, promotion piece queen or knight) -/
theorem texel_captures_complete (p : Pos) (k : Sq) (h : Texel.GenWF p k) (m : Mv) (hp : pseudo p m = true)
    (hc : capClass p m = true) : m ∈ Texel.pseudoLegalCaptures p k := Texel.captures_complete p k h m hp hc

/-- **`MoveGen::checkEvasions`** (moveGen.cpp:148-250) omits no legal move when the side to move is in check: a legal reply
    other than a king move or an en-passant capture must capture the only checking piece or land between it and the king
    (`kingThreats` has one bit, `validTargets = kingThreats | squaresBetween`).  Extra hypothesis: the kings are not adjacent. -/
theorem texel_evasions_complete (p : Pos) (k : Sq) (h : Texel.GenWF p k)
    (hkk : ∀ q, p.b[q] = Texel.pc (!p.wtm) 1 → Texel.kingGeom k q = false)
    (hchk : inCheck p.b p.wtm = true) (m : Mv) (hl : legalB p m = true) : m ∈ Texel.checkEvasions p k :=
  Texel.evasions_complete p k h hkk hchk m hl

theorem texel_kingsApart_of_check (p : Pos) (k : Sq) (h : Texel.kingsApartB p k = true) :
    ∀ q, p.b[q] = Texel.pc (!p.wtm) 1 → Texel.kingGeom k q = false := Texel.kingsApart_of_b p k h

/-- the decidable form of the hypotheses, evaluated by the driver on every tested position -/
theorem texel_genWF_of_check (p : Pos) (k : Sq) (h : Texel.genWFb p k = true) : Texel.GenWF p k := Texel.genWF_of_b p k h

/-! ## `MoveGen::givesCheck` (moveGen.cpp:458-571; model `Texel.givesCheck`, proof `Chess/TexelGenGives*.lean`)

Hypotheses `Texel.GcWF p ok`: piece codes 0..12; the side **not** to move has its king on `ok = pos.getKingSq(!wtm)` and
nowhere else; that king is not attacked (`readFEN` rejects such positions, `makeMove` of a legal move never produces
one); the en-passant square, if any, is empty, lies on the mover's sixth rank and has the double-stepped pawn behind it.
All evaluated by the driver on every tested position (`Texel.gcWFb`). -/

/-- **`MoveGen::givesCheck` for every pseudo-legal move** that does not put the mover's king next to the opponent's king:
    the verdict equals "the opponent is in check on the board after the move".  Covers the first `switch` (direct check by
    queen/rook/bishop along an open line, pawn, knight), the discovered check through the from-square (`d2 ≠ d1`: the
    piece leaves the line), the promoted piece attacking through the vacated from-square, castling (the rook, along the
    back rank through the king's home square or up its file) and en passant (lines through the captured pawn's square,
    and the rank through both vacated squares). -/
theorem texel_givesCheck_eq (p : Pos) (ok : Sq) (h : Texel.GcWF p ok) (m : Mv) (hp : pseudo p m = true)
    (hkk : kind p.b[m.f] = 1 → Texel.kingGeom ok m.t = false) :
    Texel.givesCheck p ok m = inCheck (apply p m).b (!p.wtm) := Texel.givesCheck_eq p ok h m hp hkk

/-- **`MoveGen::givesCheck` for every legal move** (a legal king move never ends next to the other king) -/
theorem texel_givesCheck_legal (p : Pos) (k ok : Sq) (h1 : Texel.GenWF p k) (h2 : Texel.GcWF p ok) (m : Mv)
    (hl : legalB p m = true) : Texel.givesCheck p ok m = inCheck (apply p m).b (!p.wtm) :=
  Texel.givesCheck_legal p k ok h1 h2 m hl

/-- the side condition on king moves cannot be dropped: Ka1-b1 next to a king on c2 is pseudo-legal, the specification
    counts the black king as attacked afterwards, `givesCheck` (rightly, for the engine never plays that move) says no -/
theorem texel_givesCheck_kings_adjacent_witness :
    let p : Pos := { b := (Vector.replicate 64 0 |>.set 0 WKING |>.set 10 BKING), wtm := true, castle := 0, ep := none, hmc := 0, fmc := 1 }
    let m : Mv := { f := sq 0, t := sq 1, promo := 0 }
    Texel.gcWFb p (sq 10) = true ∧ pseudo p m = true ∧ legalB p m = false ∧
    Texel.givesCheck p (sq 10) m = false ∧ inCheck (apply p m).b (!p.wtm) = true := by decide +kernel

/-- the decidable form of the `givesCheck` hypotheses, evaluated by the driver on every tested position -/
theorem texel_gcWF_of_check (p : Pos) (ok : Sq) (h : Texel.gcWFb p ok = true) : Texel.GcWF p ok := Texel.gcWF_of_b p ok h

/-! ## `MoveGen::pseudoLegalCapturesAndChecks` (moveGen.cpp:257-384; model `Texel.pseudoLegalCapturesAndChecks`)

What the C++ generates, precisely (`Texel.CCGen`, with `D = discovered`: every square the opponent's king sees along a
rook line if some own rook or queen would see the king with the first blockers removed, likewise for bishop lines):
queen / rook / bishop / knight — all moves of a piece on `D`, else captures and moves onto `kRookAtk` / `kBishAtk` /
`kKnightAtk` as fits the piece; king — all steps if on `D`, else captures, and every pseudo-legal castling move; pawns
(promotion piece queen or knight) — captures incl. en passant, every push of a pawn on `D` or on its seventh rank, else
pushes onto a square from which the pawn attacks the king.  The list is a superset of "captures, promotions and checks":
a piece on `D` that moves along its line, or castling without check, is generated as well. -/

/-- **exact characterisation**: the list is the set of pseudo-legal moves satisfying `CCGen` -/
theorem texel_capturesAndChecks_iff (p : Pos) (k ok : Sq) (h : Texel.GenWF p k) (m : Mv) :
    m ∈ Texel.pseudoLegalCapturesAndChecks p k ok ↔ (pseudo p m = true ∧ Texel.CCGen p ok m) := Texel.mem_cc_iff p k ok h m

/-- **soundness**: every generated move is pseudo-legal -/
theorem texel_capturesAndChecks_sound (p : Pos) (k ok : Sq) (h : Texel.GenWF p k) (m : Mv)
    (hm : m ∈ Texel.pseudoLegalCapturesAndChecks p k ok) : pseudo p m = true := Texel.cc_sound p k ok h m hm

/-- `discovered` contains every square from which a move uncovers a check (second block of `givesCheck`) -/
theorem texel_discovered_complete (b : Board) (hv : Texel.ValidB b) (w : Bool) (ok : Sq) (hK : Texel.KingAt b (!w) ok)
    (f t : Sq) (h : Texel.gcDisc b w ok f t = true) : Texel.tst (Texel.ccDiscovered b w ok) f = true :=
  Texel.disc_mem b hv w ok hK f t h

/-- **completeness**: every pseudo-legal move that captures (en passant included), promotes, or gives check — direct,
    discovered, by the castling rook or through an en-passant capture — is generated, provided the promotion piece (if
    any) is a queen or a knight and a king move does not end next to the opponent's king -/
theorem texel_capturesAndChecks_complete (p : Pos) (k ok : Sq) (h1 : Texel.GenWF p k) (h2 : Texel.GcWF p ok) (m : Mv)
    (hp : pseudo p m = true) (hkk : kind p.b[m.f] = 1 → Texel.kingGeom ok m.t = false) (hq : qnPromo m = true)
    (hc : isCaptureMv p m = true ∨ m.promo ≠ 0 ∨ givesCheckSpec p m = true) :
    m ∈ Texel.pseudoLegalCapturesAndChecks p k ok := Texel.cc_complete p k ok h1 h2 m hp hkk hq hc

/-- …in particular no legal move of the class the acceptor checks (`ccClass`: capture or check, promotion piece queen or
    knight) and no legal promotion to queen or knight is omitted -/
theorem texel_capturesAndChecks_complete_legal (p : Pos) (k ok : Sq) (h1 : Texel.GenWF p k) (h2 : Texel.GcWF p ok) (m : Mv)
    (hl : legalB p m = true) (hc : ccClass p m = true ∨ (m.promo ≠ 0 ∧ qnPromo m = true)) :
    m ∈ Texel.pseudoLegalCapturesAndChecks p k ok := by
  have hp : pseudo p m = true := (legal_safe p m hl).1
  have hkk := Texel.legal_king_apart p k ok h1 h2 m hl
  rcases hc with hc | ⟨h0, hq⟩
  · unfold ccClass at hc
    simp only [Bool.and_eq_true, Bool.or_eq_true] at hc
    refine Texel.cc_complete p k ok h1 h2 m hp hkk hc.2 ?_
    rcases hc.1 with h | h
    · exact Or.inl h
    · exact Or.inr (Or.inr h)
  · exact Texel.cc_complete p k ok h1 h2 m hp hkk hq (Or.inr (Or.inl h0))

/-- the list is a proper superset of its class: with Ke1, Rh1 against Ka8, castling O-O is generated although it neither
    captures nor gives check (the castling block of the C++ is unconditional) -/
theorem texel_capturesAndChecks_superset_witness :
    let p : Pos := { b := (Vector.replicate 64 0 |>.set 4 WKING |>.set 7 WROOK |>.set 56 BKING), wtm := true, castle := 2, ep := none, hmc := 0, fmc := 1 }
    let m : Mv := { f := sq 4, t := sq 6, promo := 0 }
    m ∈ Texel.pseudoLegalCapturesAndChecks p (sq 4) (sq 56) ∧ isCaptureMv p m = false ∧ givesCheckSpec p m = false := by decide +kernel

-- non-vacuity of the `givesCheck` hypotheses: a bare-kings position
example : Texel.GcWF { b := (Vector.replicate 64 0 |>.set 0 WKING |>.set 63 BKING), wtm := true, castle := 0, ep := none, hmc := 0, fmc := 1 } (sq 63) :=
  Texel.gcWF_of_b _ _ (by decide +kernel)

-- non-vacuity of the generator hypotheses: a bare-kings position
example : Texel.GenWF { b := (Vector.replicate 64 0 |>.set 0 WKING |>.set 63 BKING), wtm := true, castle := 0, ep := none, hmc := 0, fmc := 1 } (sq 0) :=
  Texel.genWF_of_b _ _ (by decide +kernel)

-- the oracle computes: a king in the corner of a bare-kings position has three legal moves
example : (genLegal { b := (Vector.replicate 64 0 |>.set 0 WKING |>.set 63 BKING), wtm := true, castle := 0, ep := none, hmc := 0, fmc := 1 }).length = 3 := by decide +kernel

end Props.C01
