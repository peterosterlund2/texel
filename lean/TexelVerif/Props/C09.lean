import TexelVerif.Conc.Access
import TexelVerif.Props.C10
/-! # C09 — multi-threaded operation is free of data races (model level, **partial**)

On top of the protocol model of C10, `Conc/Access.lean` lists the shared locations of the thread
communication layer with their protection discipline and the accesses of every model step.
`drf_partial`: in every reachable state, two enabled steps of different threads never perform conflicting
accesses (same location, one a write, not atomic, no common lock).

**What is missing for the full property (hence `_partial`):** the access table is read off the source by
hand.  For the data members of the six thread-layer classes its completeness and the locks it assumes are checked
statically over facts extracted from the source (`Bridge/LockFacts.lean`: `access_table_complete`,
`lock_discipline_guarded`, `atomics_are_atomic`); which thread runs which function, globals and objects reached through
pointers are *not* proved — they are validated dynamically by ThreadSanitizer runs of the real binaries
(tools/checks/c09.py).  The theorem also assumes, per `exit` event,
that the parent's thread is not running (`exitQuiet`); the acceptor checks this on every recorded destruction
(strict mode).  The original C++ code violated it occasionally (`worker-destroy-vs-poll`, found by the TSan run,
repaired in the hooked tree by reordering `~WorkerThread`). -/
namespace Conc

variable {n : Nat}

/-! ### which events touch which location, and how -/

/-- events of the thread of `v` that read `Communicator::children` of `v` without the lock -/
def childReader (r v : Fin n) : Ev n → Prop
  | .deq w => w = v
  | .pollEmpty w => w = v
  | .eInit => v = r
  | .eJobNext => v = r
  | .eStopSend => v = r
  | .eQuitSend => v = r
  | _ => False

/-- events that add or remove a child of `v` (under `v`'s queue mutex) -/
def childWriter (s : St n) (v : Fin n) : Ev n → Prop
  | .spawn _ p => p = v
  | .exit w => s.parent w = some v
  | _ => False

/-- engine-thread events that read the start-search parameters -/
def paramReader : Ev n → Prop
  | .eBegin => True
  | .eInit => True
  | .eSearchDone => True
  | .eHoldDone => True
  | .eBest => True
  | _ => False

/-- events performed by a thread that is inside a search -/
def searchReader (s : St n) : Ev n → Prop
  | .deq v => (isSearch (s.pc v) || s.pc v == .esearch) = true
  | .pollEmpty v => (isSearch (s.pc v) || s.pc v == .esearch) = true
  | .searchResult _ => True
  | .searchLeave _ _ => True
  | .eInit => True
  | .eJobNext => True
  | .eSearchDone => True
  | _ => False

/-- what `acc` guarantees about an access, by the kind of its location -/
def AccOk (r : Fin n) (s : St n) (e : Ev n) (a : Acc n) : Prop :=
  match a.loc with
  | .queue v => a.lock = some (.qmutex v)
  | .flag v => a.lock = some (.nmutex v)
  | .pending => a.lock = some .emutex
  | .counters v => thr r e = .T v
  | .job v => thr r e = .T v
  | .children v =>
      (a.write = false ∧ thr r e = .T v ∧ childReader r v e) ∨ (a.lock = some (.qmutex v) ∧ childWriter s v e)
  | .params =>
      (a.lock = some .emutex ∧ thr r e = .P ∧ ((∃ b, e = .pWr .search b) ∨ e = .pWaitStop)) ∨
      (a.write = false ∧ thr r e = .T r ∧ paramReader e)
  | .options =>
      (thr r e = .T r ∧ ∃ k, e = .eOpts k ∧ (k = true ∨ s.optsFin = false)) ∨
      (a.write = false ∧ (searchReader s e ∨ thr r e = .T r ∨ ∃ b, e = .pWr .search b))
  | .ttGen => (∃ b, e = .pWr .search b) ∨ (a.write = false ∧ searchReader s e)
  | .regs | .ttData => True

private theorem acc_ok (r : Fin n) (s : St n) (e : Ev n) : ∀ a ∈ acc r s e, AccOk r s e a := by
  cases e with
  | send w o => cases o <;> simp [acc, wr, AccOk]
  | exit w => simp only [acc]; split <;> simp_all [wr, AccOk, thr, childReader, childWriter]
  | pWr x b => cases x <;> simp [acc, wr, rd, AccOk, thr, paramReader, searchReader]
  | _ =>
    simp only [acc] <;> (try split) <;>
      simp_all [wr, rd, searchReads, AccOk, thr, childReader, childWriter, paramReader, searchReader]

theorem acc_queue (r : Fin n) (s : St n) (e : Ev n) (v : Fin n) :
    ∀ a ∈ acc r s e, a.loc = .queue v → a.lock = some (.qmutex v) := by
  intro a ha hl; have := acc_ok r s e a ha; simp only [AccOk, hl] at this; exact this

theorem acc_flag (r : Fin n) (s : St n) (e : Ev n) (v : Fin n) :
    ∀ a ∈ acc r s e, a.loc = .flag v → a.lock = some (.nmutex v) := by
  intro a ha hl; have := acc_ok r s e a ha; simp only [AccOk, hl] at this; exact this

theorem acc_pending (r : Fin n) (s : St n) (e : Ev n) :
    ∀ a ∈ acc r s e, a.loc = .pending → a.lock = some .emutex := by
  intro a ha hl; have := acc_ok r s e a ha; simp only [AccOk, hl] at this; exact this

theorem acc_counters (r : Fin n) (s : St n) (e : Ev n) (v : Fin n) :
    ∀ a ∈ acc r s e, a.loc = .counters v → thr r e = .T v := by
  intro a ha hl; have := acc_ok r s e a ha; simp only [AccOk, hl] at this; exact this

theorem acc_job (r : Fin n) (s : St n) (e : Ev n) (v : Fin n) :
    ∀ a ∈ acc r s e, a.loc = .job v → thr r e = .T v := by
  intro a ha hl; have := acc_ok r s e a ha; simp only [AccOk, hl] at this; exact this

theorem acc_children (r : Fin n) (s : St n) (e : Ev n) (v : Fin n) :
    ∀ a ∈ acc r s e, a.loc = .children v →
      (a.write = false ∧ thr r e = .T v ∧ childReader r v e) ∨ (a.lock = some (.qmutex v) ∧ childWriter s v e) := by
  intro a ha hl; have := acc_ok r s e a ha; simp only [AccOk, hl] at this; exact this

theorem acc_params (r : Fin n) (s : St n) (e : Ev n) :
    ∀ a ∈ acc r s e, a.loc = .params →
      (a.lock = some .emutex ∧ thr r e = .P ∧ ((∃ b, e = .pWr .search b) ∨ e = .pWaitStop)) ∨ (a.write = false ∧ thr r e = .T r ∧ paramReader e) := by
  intro a ha hl; have := acc_ok r s e a ha; simp only [AccOk, hl] at this; exact this

theorem acc_options (r : Fin n) (s : St n) (e : Ev n) :
    ∀ a ∈ acc r s e, a.loc = .options →
      (thr r e = .T r ∧ ∃ k, e = .eOpts k ∧ (k = true ∨ s.optsFin = false)) ∨
      (a.write = false ∧ (searchReader s e ∨ thr r e = .T r ∨ ∃ b, e = .pWr .search b)) := by
  intro a ha hl; have := acc_ok r s e a ha; simp only [AccOk, hl] at this; exact this

theorem acc_ttGen (r : Fin n) (s : St n) (e : Ev n) :
    ∀ a ∈ acc r s e, a.loc = .ttGen →
      (∃ b, e = .pWr .search b) ∨ (a.write = false ∧ searchReader s e) := by
  intro a ha hl; have := acc_ok r s e a ha; simp only [AccOk, hl] at this; exact this

/-! ### what being enabled implies -/

def pollPc : Pc → Bool
  | .poll | .search _ | .esearch | .ecollect | .equit => true
  | _ => false

theorem en_deq {r : Fin n} {s : St n} {v : Fin n} (h : (step r s (.deq v)).isSome = true) :
    s.q v ≠ [] ∧ pollPc (s.pc v) = true := by
  obtain ⟨s', hs⟩ := Step.of_isSome h
  cases hs with
  | deqW _ _ _ _ _ hq hpc =>
    refine ⟨by rw [hq]; simp, ?_⟩
    rcases hpc with e | ⟨j, e⟩ <;> rw [e] <;> rfl
  | deqSearch _ _ _ _ _ hq hpc | deqCollect _ _ _ _ _ hq hpc | deqQuit _ _ _ _ _ hq hpc =>
    exact ⟨by rw [hq]; simp, by rw [hpc]; rfl⟩

theorem en_pollEmpty {r : Fin n} {s : St n} {v : Fin n} (h : (step r s (.pollEmpty v)).isSome = true) :
    pollPc (s.pc v) = true := by
  obtain ⟨s', hs⟩ := Step.of_isSome h
  cases hs with
  | pollS _ _ _ _ hpc => rcases hpc with ⟨j, e⟩ | e <;> rw [e] <;> rfl
  | pollW _ _ _ _ hpc | pollQuit _ _ _ _ hpc | pollCollectWait _ _ _ _ hpc _ | pollCollectDone _ _ _ _ hpc _ _ =>
    rw [hpc]; rfl

theorem en_search {r : Fin n} {s : St n} {v : Fin n} :
    ((step r s (.searchResult v)).isSome = true → isSearch (s.pc v) = true) ∧
    (∀ m, (step r s (.searchLeave v m)).isSome = true → isSearch (s.pc v) = true) := by
  constructor
  · intro h
    obtain ⟨s', hs⟩ := Step.of_isSome h
    cases hs with
    | resultFwd _ _ _ _ hpc _ _ | resultDrop _ _ _ _ hpc _ => rw [hpc]; rfl
  · intro m h
    obtain ⟨s', hs⟩ := Step.of_isSome h
    cases hs with
    | leaveMax _ _ _ _ hpc | leaveStop _ _ _ _ hpc _ => rw [hpc]; rfl

theorem en_spawn {r : Fin n} {s : St n} {w p : Fin n} (h : (step r s (.spawn w p)).isSome = true) :
    mainLoopPc (s.pc r) = true ∧ s.q p = [] ∧ (p = r ∨ s.pc p = .wait) := by
  obtain ⟨s', hs⟩ := Step.of_isSome h
  cases hs with
  | spawn _ _ _ _ _ _ _ _ hm hq _ hp => exact ⟨hm, hq, hp.imp id And.left⟩

theorem en_exit {r : Fin n} {s : St n} {w : Fin n} (h : (step r s (.exit w)).isSome = true) : mainLoopPc (s.pc r) = true := by
  obtain ⟨s', hs⟩ := Step.of_isSome h
  cases hs with
  | exit _ _ _ _ _ _ hm => exact hm

theorem en_eOpts {r : Fin n} {s : St n} {k : Bool} (h : (step r s (.eOpts k)).isSome = true) :
    (s.pc r = .eOpts1 ∨ s.pc r = .epost) ∧ k = s.pend := by
  obtain ⟨s', hs⟩ := Step.of_isSome h
  cases hs with
  | optsSwap _ hp _ _ hpc => exact ⟨hpc, hp.symm⟩
  | optsDone _ hp _ _ hpc => exact ⟨.inl hpc, hp.symm⟩
  | optsDonePost _ hp _ _ hpc => exact ⟨.inr hpc, hp.symm⟩

theorem en_pWrSearch {r : Fin n} {s : St n} {b : Bool} (h : (step r s (.pWr .search b)).isSome = true) :
    s.search.cur = false ∧ s.search.nxt = none ∧ s.optsFin = true := by
  obtain ⟨s', hs⟩ := Step.of_isSome h
  cases hs with
  | pWrSearch _ hn hc _ _ hof => exact ⟨hc, hn, hof⟩

theorem en_pWaitStop {r : Fin n} {s : St n} (h : (step r s .pWaitStop).isSome = true) :
    s.search.cur = false ∧ s.search.nxt = none := by
  obtain ⟨s', hs⟩ := Step.of_isSome h
  cases hs with
  | pWaitStop hc hn => exact ⟨hc, hn⟩

/-- the engine-thread events that read the parameters, `children` or run inside the search are enabled only
    inside `doSearch` (or, for `eQuitSend`, after the main loop) -/
theorem en_engine {r : Fin n} {s : St n} {e : Ev n} (h : (step r s e).isSome = true)
    (he : e = .eBegin ∨ e = .eInit ∨ e = .eJobNext ∨ e = .eSearchDone ∨ e = .eHoldDone ∨ e = .eBest ∨ e = .eStopSend ∨ e = .eQuitSend) :
    mainLoopPc (s.pc r) = false ∧ (e ≠ .eQuitSend → searchPc (s.pc r) = true) := by
  obtain ⟨s', hs⟩ := Step.of_isSome h
  rcases he with e' | e' | e' | e' | e' | e' | e' | e' <;> subst e' <;> cases hs
  case eHoldDone ws _ _ _ hpc =>
    rcases hpc with ⟨e, _⟩ | e <;> rw [e] <;> exact ⟨rfl, fun _ => rfl⟩
  case eQuitSend0 _ hpc _ | eQuitSendN _ hpc _ => rw [hpc]; exact ⟨rfl, fun hh => absurd rfl hh⟩
  all_goals (rename_i hpc; rw [hpc]; exact ⟨rfl, fun _ => rfl⟩)

theorem en_alive {r : Fin n} {s : St n} {v : Fin n} {e : Ev n} (h : (step r s e).isSome = true)
    (he : e = .deq v ∨ e = .pollEmpty v ∨ e = .searchResult v ∨ ∃ m, e = .searchLeave v m) : s.alive v = true := by
  obtain ⟨s', hs⟩ := Step.of_isSome h
  rcases he with e' | e' | e' | ⟨m, e'⟩ <;> subst e' <;> cases hs <;> assumption

theorem roundPc_searchPc {p : Pc} (h : roundPc p = true) : searchPc p = true := searchPc_of_roundPc h
theorem actPc_searchPc {p : Pc} (h : actPc p = true) : searchPc p = true := searchPc_of_actPc h

/-- outside `doSearch` (and not in a collection loop) no helper is searching -/
theorem no_helper_searching {r : Fin n} {s : St n} (h : Reach r s) (hs : searchPc (s.pc r) = false ∨ s.pc r = .epost)
    (v : Fin n) (hv : s.alive v = true) (hvr : v ≠ r) : isSearch (s.pc v) = false := by
  obtain ⟨hnr, hna⟩ := quiet_pc (hs.imp_right .inl)
  exact ((quiescent_at_ack h ((reach_G1 h).root_not_inRound hnr) hna).2.2.1 v hv hvr).2.1

/-- a search-time read by a thread other than the engine thread comes from a helper inside `doSearch` -/
theorem searchReader_helper {r : Fin n} {s : St n} (h : Reach r s) {e : Ev n} (hen : (step r s e).isSome = true)
    (hsr : searchReader s e) (hthr : thr r e ≠ .T r) : ∃ v, s.alive v = true ∧ v ≠ r ∧ isSearch (s.pc v) = true := by
  have h1 := reach_G1 h
  -- a thread that polls inside a search is a helper inside `doSearch`, or the engine thread
  have poller : ∀ v, s.alive v = true → v ≠ r → (isSearch (s.pc v) || s.pc v == .esearch) = true →
      ∃ v, s.alive v = true ∧ v ≠ r ∧ isSearch (s.pc v) = true := by
    intro v hv hvr hp
    simp only [Bool.or_eq_true, beq_iff_eq] at hp
    rcases hp with hp | hp
    · exact ⟨v, hv, hvr, hp⟩
    · exact absurd (h1.root_pc hv (by rw [hp]; rfl)) hvr
  cases e <;> simp only [searchReader] at hsr <;> simp only [thr] at hthr <;> try (exact absurd rfl hthr)
  case deq v => exact poller v (en_alive hen (Or.inl rfl)) (fun e => hthr (by rw [e])) hsr
  case pollEmpty v => exact poller v (en_alive hen (Or.inr (Or.inl rfl))) (fun e => hthr (by rw [e])) hsr
  case searchResult v =>
    exact ⟨v, en_alive hen (Or.inr (Or.inr (Or.inl rfl))), fun e => hthr (by rw [e]), en_search.1 hen⟩
  case searchLeave v m =>
    exact ⟨v, en_alive hen (Or.inr (Or.inr (Or.inr ⟨m, rfl⟩))), fun e => hthr (by rw [e]), en_search.2 m hen⟩

/-- a search-time read by the engine thread happens inside `doSearch` -/
private theorem searchReader_engine {r : Fin n} {s : St n} (g1 : G1 r s) {e : Ev n} (hen : (step r s e).isSome = true)
    (hsr : searchReader s e) (hthr : thr r e = .T r) : searchPc (s.pc r) = true := by
  -- the root is never at a helper's program point
  have root : ∀ v, thr r e = .T v → s.alive v = true → (isSearch (s.pc v) || s.pc v == .esearch) = true →
      searchPc (s.pc r) = true := by
    intro v hv va hp
    rw [hthr] at hv; cases hv
    simp only [Bool.or_eq_true, beq_iff_eq] at hp
    rcases hp with hp | hp
    · exact absurd rfl (g1.worker_ne_root va (by cases hq : s.pc r <;> simp [hq, isSearch] at hp <;> rfl))
    · rw [hp]; rfl
  cases e <;> simp only [searchReader] at hsr
  case deq v => exact root v rfl (en_alive hen (.inl rfl)) hsr
  case pollEmpty v => exact root v rfl (en_alive hen (.inr (.inl rfl))) hsr
  case searchResult v => exact root v rfl (en_alive hen (.inr (.inr (.inl rfl)))) (by rw [en_search.1 hen]; rfl)
  case searchLeave v m => exact root v rfl (en_alive hen (.inr (.inr (.inr ⟨m, rfl⟩)))) (by rw [en_search.2 m hen]; rfl)
  case eInit | eJobNext | eSearchDone => exact (en_engine hen (by simp)).2 (by simp)

/-- one direction: `a` (of `e1`) is the writer -/
theorem drf_core {r : Fin n} {s : St n} (h : Reach r s) (e1 e2 : Ev n)
    (h1 : (step r s e1).isSome = true) (h2 : (step r s e2).isSome = true)
    (ht : thr r e1 ≠ thr r e2) (hq1 : exitQuiet r s e1)
    (a : Acc n) (ha : a ∈ acc r s e1) (b : Acc n) (hb : b ∈ acc r s e2)
    (hloc : a.loc = b.loc) (hw : a.write = true) (hat : a.loc.atomic = false)
    (hnl : ¬ ∃ k, a.lock = some k ∧ b.lock = some k) : False := by
  have g1 := reach_G1 h
  -- while no search is requested the engine thread is outside `doSearch`
  have idle : s.search.cur = false → s.search.nxt = none → searchPc (s.pc r) = false := by
    intro hc hn
    cases hh : searchPc (s.pc r)
    · rfl
    · have := (reach_G3 h).s1 hh; simp [Reg.active, hc, hn] at this
  cases hl : a.loc with
  | queue v =>
    exact hnl ⟨_, acc_queue r s e1 v a ha hl, acc_queue r s e2 v b hb (hloc ▸ hl)⟩
  | flag v =>
    exact hnl ⟨_, acc_flag r s e1 v a ha hl, acc_flag r s e2 v b hb (hloc ▸ hl)⟩
  | pending =>
    exact hnl ⟨_, acc_pending r s e1 a ha hl, acc_pending r s e2 b hb (hloc ▸ hl)⟩
  | counters v =>
    exact ht (by rw [acc_counters r s e1 v a ha hl, acc_counters r s e2 v b hb (hloc ▸ hl)])
  | job v =>
    exact ht (by rw [acc_job r s e1 v a ha hl, acc_job r s e2 v b hb (hloc ▸ hl)])
  | regs => rw [hl] at hat; cases hat
  | ttData => rw [hl] at hat; cases hat
  | children v =>
    rcases acc_children r s e1 v a ha hl with ⟨hwf, _, _⟩ | ⟨hla, hwr⟩
    · rw [hw] at hwf; cases hwf
    · rcases acc_children r s e2 v b hb (hloc ▸ hl) with ⟨_, hthr2, hrd⟩ | ⟨hlb, _⟩
      · -- e1 adds / removes a child of v while the thread of v reads the list
        have hquiet : mainLoopPc (s.pc r) = true ∧ (v = r ∨ s.pc v = .wait ∨ s.pc v = .done ∨ s.pc v = .gone) := by
          cases e1 <;> simp only [childWriter] at hwr
          case spawn w p =>
            subst hwr
            have := en_spawn h1
            exact ⟨this.1, by rcases this.2.2 with e | e; exact Or.inl e; exact Or.inr (Or.inl e)⟩
          case exit w =>
            refine ⟨en_exit h1, ?_⟩
            simp only [exitQuiet, hwr] at hq1
            exact hq1
        have hnopoll : pollPc (s.pc v) = false := by
          rcases hquiet.2 with e | e | e | e
          · subst e
            cases hp : s.pc v <;> simp [hp, mainLoopPc] at hquiet <;> rfl
          all_goals rw [e]; rfl
        cases e2 <;> simp only [childReader] at hrd
        case deq w => subst hrd; rw [(en_deq h2).2] at hnopoll; cases hnopoll
        case pollEmpty w => subst hrd; rw [en_pollEmpty h2] at hnopoll; cases hnopoll
        case eInit | eJobNext | eStopSend | eQuitSend =>
          have := (en_engine h2 (by simp)).1; rw [hquiet.1] at this; cases this
      · exact hnl ⟨_, hla, hlb⟩
  | params =>
    rcases acc_params r s e1 a ha hl with ⟨hla, _, hev⟩ | ⟨hwf, _, _⟩
    · rcases acc_params r s e2 b hb (hloc ▸ hl) with ⟨hlb, _, _⟩ | ⟨_, _, hrd⟩
      · exact hnl ⟨_, hla, hlb⟩
      · -- P writes the parameters only while the engine thread is outside doSearch
        have hns : searchPc (s.pc r) = false := by
          rcases hev with ⟨b', e⟩ | e
          · subst e; exact idle (en_pWrSearch h1).1 (en_pWrSearch h1).2.1
          · subst e; exact idle (en_pWaitStop h1).1 (en_pWaitStop h1).2
        have : searchPc (s.pc r) = true := by
          cases e2 <;> simp only [paramReader] at hrd
          all_goals (exact (en_engine h2 (by simp)).2 (by simp))
        rw [hns] at this; cases this
    · rw [hw] at hwf; cases hwf
  | options =>
    rcases acc_options r s e1 a ha hl with ⟨hthr1, k, hek, hk⟩ | ⟨hwf, _⟩
    · subst hek
      have hen := en_eOpts h1
      rcases acc_options r s e2 b hb (hloc ▸ hl) with ⟨hthr2, _⟩ | ⟨_, hrd⟩
      · exact ht (by rw [hthr1, hthr2])
      · rcases hrd with hsr | hthr2 | ⟨b', he2⟩
        · obtain ⟨v, hv, hvr, hsv⟩ := searchReader_helper h h2 hsr (by intro e; exact ht (by rw [hthr1, e]))
          have : isSearch (s.pc v) = false := by
            apply no_helper_searching h _ v hv hvr
            rcases hen.1 with e | e
            · left; rw [e]; rfl
            · right; exact e
          rw [this] at hsv; cases hsv
        · exact ht (by rw [hthr1, hthr2])
        · subst he2
          have hof := (en_pWrSearch h2).2.2
          rcases hk with e | e
          · have := pend_optsFin h (by rw [← hen.2]; exact e)
            rw [hof] at this; cases this
          · rw [hof] at e; cases e
    · rw [hw] at hwf; cases hwf
  | ttGen =>
    rcases acc_ttGen r s e1 a ha hl with ⟨b', he1⟩ | ⟨hwf, _⟩
    · subst he1
      have hns := idle (en_pWrSearch h1).1 (en_pWrSearch h1).2.1
      rcases acc_ttGen r s e2 b hb (hloc ▸ hl) with ⟨b'', he2⟩ | ⟨_, hsr⟩
      · subst he2; exact ht rfl
      · by_cases hthr2 : thr r e2 = .T r
        · rw [searchReader_engine g1 h2 hsr hthr2] at hns; cases hns
        · obtain ⟨v, hv, hvr, hsv⟩ := searchReader_helper h h2 hsr hthr2
          have := no_helper_searching h (Or.inl hns) v hv hvr
          rw [this] at hsv; cases hsv
    · rw [hw] at hwf; cases hwf

/-- **data-race freedom of the model (partial: the access table is validated by ThreadSanitizer, not proved complete).**
    In every reachable state, two enabled steps of different threads have no conflicting accesses, provided each
    `exit` among them satisfies `exitQuiet` (its parent's thread is not running). -/
theorem drf_partial {r : Fin n} {s : St n} (h : Reach r s) (e1 e2 : Ev n)
    (h1 : (step r s e1).isSome = true) (h2 : (step r s e2).isSome = true)
    (ht : thr r e1 ≠ thr r e2) (hq1 : exitQuiet r s e1) (hq2 : exitQuiet r s e2) :
    ∀ a ∈ acc r s e1, ∀ b ∈ acc r s e2, ¬ conflict a b := by
  intro a ha b hb hc
  obtain ⟨hloc, hw, hat, hnl⟩ := hc
  rcases hw with hw | hw
  · exact drf_core h e1 e2 h1 h2 ht hq1 a ha b hb hloc hw hat hnl
  · refine drf_core h e2 e1 h2 h1 (fun e => ht e.symm) hq2 b hb a ha hloc.symm hw (by rw [← hloc]; exact hat) ?_
    rintro ⟨k, hk1, hk2⟩; exact hnl ⟨k, hk2, hk1⟩

/-- the same restricted to the current code's guaranteed situations: no `exit` event involved -/
theorem drf_no_exit {r : Fin n} {s : St n} (h : Reach r s) (e1 e2 : Ev n)
    (h1 : (step r s e1).isSome = true) (h2 : (step r s e2).isSome = true)
    (ht : thr r e1 ≠ thr r e2) (hx1 : ∀ v, e1 ≠ .exit v) (hx2 : ∀ v, e2 ≠ .exit v) :
    ∀ a ∈ acc r s e1, ∀ b ∈ acc r s e2, ¬ conflict a b := by
  apply drf_partial h e1 e2 h1 h2 ht
  · cases e1 <;> simp only [exitQuiet]
    case exit v => exact absurd rfl (hx1 v)
  · cases e2 <;> simp only [exitQuiet]
    case exit v => exact absurd rfl (hx2 v)

end Conc
