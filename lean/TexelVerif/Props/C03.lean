import TexelVerif.Search.RootLemmas
import TexelVerif.Chess.Line
/-!
# C03 — every search result is a legal, well-formed answer

The search itself is not modelled; its root bookkeeping is, with arbitrary sub-search scores and a stop after
any step.  The engine-level tie is the audit of the real binary's UCI output by the proven chess model
(`Chess.playLine`), see tools/checks/c03.py.
-/
namespace Props.C03
open Search Chess

/-- at reduced strength at least one root move is always kept, and only root moves are kept -/
theorem rootMoves_nonempty {α} (moves : List α) (pin : Nat) (incl : Nat → Bool) (h : moves ≠ []) :
    rootSubset moves pin incl ≠ [] ∧ ∀ m ∈ rootSubset moves pin incl, m ∈ moves := by
  have hl : 0 < moves.length := List.length_pos_iff.2 h
  constructor
  · have : moves[pin % moves.length]'(Nat.mod_lt _ hl) ∈ rootSubset moves pin incl :=
      List.mem_filterMap.2 ⟨_, mod_mem_includedIdx _ pin incl hl, List.getElem?_eq_getElem _⟩
    exact List.ne_nil_of_mem this
  · intro m hm
    unfold rootSubset at hm
    obtain ⟨i, _, hi⟩ := List.mem_filterMap.1 hm
    exact List.mem_of_getElem? hi

/-- `searchmoves` filtering keeps only moves that are both legal root moves and requested -/
theorem filter_subset {α} [DecidableEq α] (moves searchMoves : List α) (m : α) :
    m ∈ filterMoves moves searchMoves ↔ m ∈ moves ∧ m ∈ searchMoves := by
  simp [filterMoves]

/-- **the best move is always a root move**: for every run of the root loop (any scores, any stop point)
    `bestMove` and `bestExactMove` are members of the initial root move list -/
theorem best_in_root {α} (m0 : List α) (b0 : α) (hb : b0 ∈ m0) (s : RootSt α)
    (hr : Reach { moves := m0, best := b0, bestExact := b0 } s) :
    s.moves.Perm m0 ∧ s.best ∈ m0 ∧ s.bestExact ∈ m0 := by
  induction hr with
  | init => exact ⟨List.Perm.refl _, hb, hb⟩
  | step s t _ hst ih =>
    obtain ⟨hp, h1, h2⟩ := ih
    cases hst with
    | failHigh mi h => exact ⟨hp, hp.subset (List.getElem_mem h), h2⟩
    | resort ms m hp' hh =>
      have hm : m ∈ ms := List.mem_of_mem_head? hh
      have : m ∈ m0 := hp.subset (hp'.subset hm)
      exact ⟨hp'.trans hp, this, this⟩
    | sortTail ms hp' => exact ⟨hp'.trans hp, h1, h2⟩

/-- the lines of one multi-PV report are about pairwise distinct root-move indices; hence, the root move list
    having no duplicates (C01), they start with pairwise distinct moves -/
theorem multipv_distinct (score alpha : Nat → Int) (mi maxPV fuel : Nat) :
    (notifyLoop score alpha mi maxPV fuel 0 0 false).Nodup :=
  (notifyLoop_spec score alpha mi maxPV fuel 0 0 false).2

/-- `mate N` encoding: with `k` = plies until the mate is on the board (`k = MATE0 − score − 1` for a win,
    `k = MATE0 + score − 1` for a loss) the engine prints `(k+1)/2` for wins and `−(k/2)` for losses, and never
    prints a mate for a score of magnitude ≤ MATE0/2 -/
theorem mate_format (score : Int) :
    (score > 16000 → mateN score = some ((32000 - score - 1 + 1) / 2)) ∧
    (score < -16000 → mateN score = some (-((32000 + score - 1) / 2))) ∧
    (-16000 ≤ score ∧ score ≤ 16000 → mateN score = none) := by
  unfold mateN
  refine ⟨fun h => ?_, fun h => ?_, fun h => ?_⟩
  · rw [if_pos h]; congr 2; omega
  · rw [if_neg (by omega), if_pos h]
  · rw [if_neg (by omega), if_neg (by omega)]

/-- the audit's acceptor is exact: it accepts a move sequence iff it is a sequence of legal moves -/
theorem pv_audit_exact (p : Pos) (ms : List Mv) (q : Pos) : playLine p ms = some q ↔ Playable p ms q :=
  playLine_iff p ms q

-- non-vacuity
example : rootSubset [10, 20, 30] 7 (fun _ => false) = [20] := by decide
example : notifyLoop (fun i => [30, 10, 50].getD i 0) (fun _ => 0) 2 2 10 0 0 false = [2, 0] := by decide

end Props.C03
