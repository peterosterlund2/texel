import TexelVerif.Conc.StepG6
import TexelVerif.Conc.QuitProgress
/-! # C10 — search control always terminates with exactly one result

Model: `Conc/Model.lean` (`step`), threads = protocol thread, engine thread (root communicator `r`)
and one helper thread per communicator of an arbitrary, dynamically changing finite tree
(`spawn` / `exit`), steps at the synchronisation points of `parallel.cpp` / `enginecontrol.cpp`.
All theorems quantify over every `n`, every root `r` and every reachable state, i.e. over all
interleavings (`Reach` = closure of `init` under all enabled events).

The inductive invariants, each proven preserved by every step (`Conc/InvGk.lean`: invariant and frame lemmas,
`Conc/StepGk.lean`: preservation): `G1` tree and per-edge stop/ack debts, `G2` sticky notifier flag, `G3` engine main
loop / protocol-thread requests / best-move count, `G4` activity via ghost generations, `G6` reports and epochs,
`G8`/`G9` QUIT accounting (`InvG8.lean`), `G5`/`G7` small facts for the progress theorems (`InvAux.lean`). -/
namespace Conc

variable {n : Nat}

/-! ## no lost wake-up -/

/-- A helper blocked in `Notifier::wait` (flag clear) has nothing to do: its command queue is empty,
    it has no search job and owes no self-acknowledgement.  (`pc = wait` is the state in which
    `threadNotifier.wait()` has been or is about to be called; `waitRet` needs the flag.) -/
theorem no_lost_wakeup {r : Fin n} {s : St n} (h : Reach r s) (v : Fin n) (hv : s.alive v = true)
    (hpc : s.pc v = .wait) (hf : s.flag v = false) :
    s.q v = [] ∧ s.jobId v = none ∧ s.selfWait v = false := by
  have h2 := reach_G2 h
  refine ⟨h2.nq v hv (by rw [hpc]; rfl) hf, (h2.nj v hv hf).2 (Or.inr hpc), ?_⟩
  cases hsw : s.selfWait v
  · rfl
  · have := h2.ns v hv hsw; rw [hpc] at this; cases this

/-- The engine thread blocked inside the stop-ack or quit-ack collection loop has an empty queue. -/
theorem no_lost_wakeup_collect {r : Fin n} {s : St n} (h : Reach r s)
    (hpc : s.pc r = .ecwait ∨ s.pc r = .eqwait) (hf : s.flag r = false) : s.q r = [] := by
  have h2 := reach_G2 h
  apply h2.nq r (reach_G1 h).rootAlive _ hf
  rcases hpc with e | e <;> rw [e] <;> rfl

/-- The engine thread blocked in its main loop (`notifierWait()` in `EngineMainThread::mainLoop`) while the
    protocol thread is not in the middle of a request (no pending notify, no store in progress) has missed
    nothing: no quit, no search start, no pending option, and `optionsSetFinished` is set. -/
theorem no_lost_wakeup_mainloop {r : Fin n} {s : St n} (h : Reach r s) (hpc : s.pc r = .ewait) (hf : s.flag r = false)
    (hp : Out.notify r ∉ s.pOut) (hq : s.quitF.nxt = none) (hs : s.search.nxt = none) :
    s.quitF.cur = false ∧ s.search.cur = false ∧ s.pend = false ∧ s.optsFin = true := by
  have := (reach_G3 h).ne hf (by
    intro hh; rcases hh with hh | hh | hh
    · exact hp hh
    · exact hh hq
    · exact hh hs)
  rw [hpc] at this; exact this

/-! ## acknowledgement counting -/

/-- `stopAckWaitChildren` of every communicator is exactly the sum of its children's debts, and every
    child owes at most one acknowledgement.  `debt s p c` = STOP queued at or about to be sent to `c`
    + [`c` inside its round] + STOP_ACK from `c` queued at `p` or about to be sent. -/
theorem ack_counting {r : Fin n} {s : St n} (h : Reach r s) (p : Fin n) (hp : s.alive p = true) :
    s.childWait p = sumCh s p (debt s p) ∧ ∀ c, isChild s p c = true → debt s p c ≤ 1 :=
  ⟨(reach_G1 h).sum p hp, fun c hc => (reach_G1 h).le1 p c hc⟩

/-- A STOP_ACK at the head of a queue finds a positive counter (`stopAckWaitChildren--` never underflows). -/
theorem ack_no_underflow {r : Fin n} {s : St n} (h : Reach r s) (v src : Fin n) (rest : List (Cmd n))
    (hv : s.alive v = true) (hq : s.q v = Cmd.ack src :: rest) (ho : s.out v = []) : 1 ≤ s.childWait v :=
  ((reach_G1 h).ack_local rest [] hv hq ho (by intro c; simp [pStop])).1

/-- While the engine thread is outside a stop round (in particular while it searches, where the
    `Search::shouldStop` handler would silently drop it) no STOP_ACK is in its queue. -/
theorem ack_never_dropped {r : Fin n} {s : St n} (h : Reach r s) (hr : inRound s r = false) (src : Fin n) :
    Cmd.ack src ∉ s.q r := by
  intro hm
  have h1 := reach_G1 h
  have hc : isChild s r src = true := h1.qOk r _ h1.rootAlive hm
  have := (h1.idle_children hr hc).2.2.2.1
  unfold cAck at this
  rw [List.count_eq_zero] at this
  exact this hm

/-! ## quiescence when the root has all acknowledgements -/

/-- **Quiescence.** When the root communicator has all acknowledgements (`hasStopAck()`) and the engine thread is
    not inside a search (`actR`: between `sendInitSearch` and `sendStopSearch`), then
    (1) nobody in the tree is inside a stop round;
    (2) on every edge no STOP is queued or about to be sent and no STOP_ACK is queued or about to be sent;
    (3) every helper is idle: `jobId = -1`, not inside `doSearch`, no START_SEARCH queued or about to be forwarded;
    (4) no REPORT_RESULT is queued or about to be sent anywhere.
    (INIT_SEARCH, which carries no job, is not covered: see `notes/C10.md`.) -/
theorem quiescent_at_ack {r : Fin n} {s : St n} (h : Reach r s) (hr : inRound s r = false) (ha : actR s r = false) :
    (∀ v, s.alive v = true → inRound s v = false) ∧
    (∀ p c, isChild s p c = true →
      cStop (s.q c) = 0 ∧ pStop (s.out p) c = 0 ∧ cAck (s.q p) c = 0 ∧ pAck (s.out c) p c = 0) ∧
    (∀ v, s.alive v = true → v ≠ r →
      s.jobId v = none ∧ isSearch (s.pc v) = false ∧ hasStart (s.q v) = false ∧ hasPStart (s.out v) = false) ∧
    (∀ v src e j, s.alive v = true → Cmd.report src e j ∉ s.q v) ∧
    (∀ v t src e j, s.alive v = true → Out.enq t (Cmd.report src e j) ∉ s.out v) := by
  have h1 := reach_G1 h
  have hc := (reach_G6 h).idle_clean h1 (reach_G4 h) hr ha
  refine ⟨h1.quiescent hr, fun p c hc' => ?_, fun v hv hvr => ?_, hc.2.2.1, hc.2.2.2.1⟩
  · have := h1.quiescent_edge hr hc'
    exact ⟨this.1, this.2.1, this.2.2.2.1, this.2.2.2.2⟩
  · have := (reach_G4 h).idle h1 hr ha v hv hvr
    unfold act at this
    simp only [Bool.or_eq_false_iff] at this
    refine ⟨?_, this.1.1.2, this.1.2, this.2⟩
    cases hj : s.jobId v
    · rfl
    · rw [hj] at this; simp at this

/-- The engine thread in its main loop (where options are applied and from where threads are created and
    destroyed) is neither in a round nor searching, so all helpers are idle there. -/
theorem helpers_idle_in_main_loop {r : Fin n} {s : St n} (h : Reach r s) (hm : mainLoopPc (s.pc r) = true ∨ s.pc r = .epost ∨ s.pc r = .eend)
    (v : Fin n) (hv : s.alive v = true) (hvr : v ≠ r) :
    s.jobId v = none ∧ isSearch (s.pc v) = false ∧ hasStart (s.q v) = false ∧ hasPStart (s.out v) = false := by
  obtain ⟨hnr, hna⟩ := quiet_pc (hm.imp_left searchPc_of_mainLoop)
  exact (quiescent_at_ack h ((reach_G1 h).root_not_inRound hnr) hna).2.2.1 v hv hvr

/-- A new START reaches a helper only outside a stop round, so the purge in `doSendStartSearch` never removes
    a STOP that somebody is counting on. -/
theorem start_outside_round {r : Fin n} {s : St n} (h : Reach r s) (v : Fin n) (hv : s.alive v = true) (hvr : v ≠ r)
    (hst : hasStart (s.q v) = true ∨ hasPStart (s.out v) = true) : inRound s v = false :=
  (reach_G1 h).startRound v hv hvr hst

/-! ## results -/

/-- **Stale results are ignored / cannot exist.**  Every START_SEARCH and every REPORT_RESULT that is queued or about to be
    sent anywhere, and every job a helper is working on, carries the epoch of the current search (the epoch is incremented
    by every `go`; when it is incremented nothing tagged exists, by `quiescent_at_ack`).  In particular a REPORT_RESULT the
    engine thread finds in its queue while searching belongs to the current search, so comparing the job id (which restarts
    at 1 in every search) is enough to attribute it to the right job. -/
theorem stale_results_ignored {r : Fin n} {s : St n} (h : Reach r s) :
    (∀ v src e j, s.alive v = true → Cmd.report src e j ∈ s.q v → e = s.epoch) ∧
    (∀ v t src e j, s.alive v = true → Out.enq t (Cmd.report src e j) ∈ s.out v → e = s.epoch) ∧
    (∀ v e j, s.alive v = true → Cmd.start e j ∈ s.q v → e = s.epoch) ∧
    (∀ v t e j, s.alive v = true → Out.enq t (Cmd.start e j) ∈ s.out v → e = s.epoch) ∧
    (∀ v, s.alive v = true → v ≠ r → s.jobId v ≠ none → s.jobEp v = s.epoch) :=
  ⟨(reach_G6 h).e3, (reach_G6 h).e4, (reach_G6 h).e1, (reach_G6 h).e2, (reach_G6 h).e5⟩

/-- a helper forwards a REPORT_RESULT to its parent only if it has not reported for its current job yet and the job id
    is its current one (handler guard; the acceptor checks every `RESULT_FWD / RESULT_DROP / RESULT_USED` against it) -/
theorem report_forward_guard (s : St n) (v src : Fin n) (e j : Nat) :
    (handleW s v (.report src e j)).out v ≠ s.out v → s.hasResult v = false ∧ s.jobId v = some j := by
  intro hne
  simp only [handleW] at hne
  split at hne
  · rename_i hg; exact hg
  · exact absurd rfl hne

/-- in a queue no REPORT_RESULT of a child follows a STOP_ACK of the same child (FIFO per sender) -/
theorem report_before_ack {r : Fin n} {s : St n} (h : Reach r s) (p : Fin n) (hp : s.alive p = true) : okOrder (s.q p) = true :=
  (reach_G6 h).ord p hp

/-! ## exactly one best move per `go` -/

/-- Best moves are counted one per `go`: `goCount` (incremented when the protocol thread sets `search`)
    equals `bmCount` (incremented by `finishSearch`) plus one exactly while a search has been requested
    and `finishSearch` has not run yet. -/
theorem one_bestmove {r : Fin n} {s : St n} (h : Reach r s) :
    s.goCount = s.bmCount + (if s.search.active && !postBest (s.pc r) then 1 else 0) :=
  (reach_G3 h).b1

/-- When the engine thread executes `search = false` every `go` so far has got its best move. -/
theorem all_answered_at_search_end {r : Fin n} {s : St n} (h : Reach r s) (hpc : s.pc r = .eend) : s.goCount = s.bmCount := by
  have := one_bestmove h
  rw [hpc] at this
  simpa [postBest] using this

/-- `finishSearch` runs only for a requested search: at the `bestmove` point the search flag is (being) set. -/
theorem bestmove_only_for_go {r : Fin n} {s : St n} (h : Reach r s) (ws : Bool) (hpc : s.pc r = .ebest ws) :
    s.search.active = true :=
  (reach_G3 h).s1 (by rw [hpc]; rfl)

/-- The engine thread idle in its main loop with no request in progress: every `go` is answered. -/
theorem idle_all_answered {r : Fin n} {s : St n} (h : Reach r s) (hpc : s.pc r = .ewait) (hf : s.flag r = false)
    (hp : Out.notify r ∉ s.pOut) (hq : s.quitF.nxt = none) (hs : s.search.nxt = none) : s.goCount = s.bmCount := by
  have hi := no_lost_wakeup_mainloop h hpc hf hp hq hs
  have := one_bestmove h
  simpa [Reg.active, hi.2.1, hs] using this

/-! ## progress -/

/-- If every thread is blocked (inside `Notifier::wait` with the flag clear, or terminated, nothing pending),
    the engine thread is not inside the stop-ack collection loop: a stop round cannot get stuck. -/
theorem no_deadlock_stop {r : Fin n} {s : St n} (h : Reach r s) (hall : ∀ v, s.alive v = true → Blocked s v) :
    s.pc r ≠ .ecwait :=
  collect_not_stuck h hall

/-- A thread that is not blocked has an enabled step of its own. -/
theorem no_deadlock_enabled {r : Fin n} {s : St n} (h : Reach r s) (v : Fin n) (hv : s.alive v = true)
    (hnb : ¬ Blocked s v) (hwin : s.search.nxt = none ∧ s.quitF.nxt = none) :
    ∃ e, Own r v e ∧ (step r s e).isSome = true :=
  thread_enabled (reach_G1 h) (reach_G5 h) v hv hnb hwin

/-- If every thread is blocked, the engine thread is not inside the quit-ack collection loop either
    (`quitAckWaitChildren` = number of outstanding QUIT_ACKs, invariant `G8`). -/
theorem no_deadlock_quit {r : Fin n} {s : St n} (h : Reach r s) (hall : ∀ v, s.alive v = true → Blocked s v) :
    s.pc r ≠ .eqwait :=
  quit_not_stuck h hall

/-- **No deadlock.**  In a reachable state in which no thread can move (every thread blocked in `Notifier::wait` with
    its flag clear, or terminated, nothing pending) and the protocol thread is not in the middle of a request, the engine
    thread is idle in its main loop with every `go` answered and no request pending, or it has terminated after `quit`.
    Together with `no_deadlock_enabled` (a thread that is not blocked has an enabled step of its own): every reachable
    non-final state has an enabled step of a non-waiting thread. -/
theorem no_deadlock {r : Fin n} {s : St n} (h : Reach r s) (hall : ∀ v, s.alive v = true → Blocked s v)
    (hp : Out.notify r ∉ s.pOut) (hq : s.quitF.nxt = none) (hs : s.search.nxt = none) :
    (s.pc r = .ewait ∧ s.quitF.cur = false ∧ s.search.cur = false ∧ s.pend = false ∧ s.optsFin = true ∧ s.goCount = s.bmCount)
    ∨ s.pc r = .edone := by
  have h1 := reach_G1 h
  have hb := hall r h1.rootAlive
  have hne := collect_not_stuck h hall
  have hnq := quit_not_stuck h hall
  rcases hb.2 with ⟨hw, hf⟩ | hd | hd | hd
  · cases hpc : s.pc r <;> simp [hpc, isWaitPc] at hw
    · have := (h1.pcKind r h1.rootAlive).2 rfl; rw [hpc] at this; cases this
    · left
      have hi := no_lost_wakeup_mainloop h hpc hf hp hq hs
      exact ⟨rfl, hi.1, hi.2.1, hi.2.2.1, hi.2.2.2, idle_all_answered h hpc hf hp hq hs⟩
    · exact absurd hpc hne
    · exact absurd hpc hnq
  · have := (h1.pcKind r h1.rootAlive).2 rfl; rw [hd] at this; cases this
  · right; exact hd
  · have := (h1.pcKind r h1.rootAlive).2 rfl; rw [hd] at this; cases this

/-! ## the hypotheses are satisfiable: a concrete run -/

/-- engine + two helpers in a chain; a search is started, stopped and fully acknowledged -/
def demoRun : List (Ev 3) :=
  [ .spawn 1 0, .spawn 2 1,
    .pWr .search true, .pWd .search, .pNotify 0,
    .waitRet 0, .eRdPre .quit, .eRd .quit false, .eOpts false, .eRdPre .search, .eRd .search true,
    .eBegin, .eInit, .send 0 (.enq 1 .init), .eJobNext, .send 0 (.enq 1 (.start 1 1)),
    .waitRet 1, .deq 1, .send 1 (.enq 2 .init), .deq 1, .send 1 (.enq 2 (.start 1 1)), .pollEmpty 1,
    .eSearchDone, .eRdPre .hold, .eHoldDone, .eBest, .eStopSend, .send 0 (.notify 0), .send 0 (.enq 1 .stop), .ackSelf 0,
    .deq 1, .send 1 (.notify 1), .send 1 (.enq 2 .stop), .searchLeave 1 false, .ackSelf 1,
    .waitRet 2, .deq 2, .deq 2, .send 2 (.notify 2), .pollEmpty 2, .ackSelf 2, .send 2 (.enq 1 (.ack 2)),
    .waitRet 1, .deq 1, .send 1 (.enq 0 (.ack 1)),
    .deq 0, .pollEmpty 0, .send 0 (.notify 0), .eOpts false, .eSearchEnd ]

example : (match run (0 : Fin 3) (init 0) demoRun with
           | .ok s => s.goCount == 1 && s.bmCount == 1 && s.pc 0 == .ewait && !inRound s 0 && s.q 1 == [] && s.q 2 == []
           | .error _ => false) = true := by decide

end Conc
