import TexelVerif.Draw.ScanSpec
import TexelVerif.Draw.HistoryLemmas
import TexelVerif.Draw.Third
import TexelVerif.Draw.WitnessProofs
import TexelVerif.Draw.Prologue
import TexelVerif.Draw.GameLemmas
import TexelVerif.Draw.GameInv
/-!
# C11 — draws by repetition and the 50-move rule are recognised

Code under the theorems (hand models; the scan and `canClaimDraw50` are also regenerated from the C++ on every run and
proved equal to the hand models in `Bridge/Draw.lean`):

* `Rep.canClaimDrawRep`      — `Search::canClaimDrawRep` (search.hpp:329-341)
* `Hist.setupPosition`       — `EngineControl::setupPosition` (history list from `position … moves`)
* `Hist.scanPly1`            — the scan as `negaScout` runs it at ply 1 after the root loop of `iterativeDeepening`
                               pushed the root hash and set `posHashFirstNew`
* `Prologue.drawTests`       — the draw tests at the top of `negaScout` (search.cpp:519-533)
* `GameM.processString` …    — the console `Game` (game.cpp), `GameM.canClaimDraw` — `ComputerPlayer::canClaimDraw`

Chess facts come from the shared specification `Chess/Spec.lean` (`apply`, `legalB`, `fixupEP`, `genLegal`).
-/
namespace Props.C11
open Chess Hist GameM

/-! ## the repetition scan -/

/-- the scan is true iff some index of the window
    `{i | max 0 (size − hmc) ≤ i ≤ size − 4 ∧ i ≡ size (mod 2)}` holds the current hash and either lies at or above
    `posHashFirstNew` (reached inside the search tree) or a second index of the window holds it too. -/
theorem rep_scan_spec (hs : Nat → Nat) (size hmc firstNew : Int) (h : Nat) :
    Rep.canClaimDrawRep hs size hmc firstNew h = true ↔
      ∃ i, Rep.InWindow size hmc i ∧ hs i.toNat = h ∧
        (firstNew ≤ i ∨ ∃ j, Rep.InWindow size hmc j ∧ j ≠ i ∧ hs j.toNat = h) :=
  Rep.canClaimDrawRep_iff hs size hmc firstNew h

/-- the scan never reads outside `0 ≤ i < size`: its result depends only on those entries -/
theorem rep_scan_in_bounds (hs hs' : Nat → Nat) (size hmc firstNew : Int) (h : Nat)
    (heq : ∀ i : Nat, (i : Int) < size → hs i = hs' i) :
    Rep.canClaimDrawRep hs size hmc firstNew h = Rep.canClaimDrawRep hs' size hmc firstNew h := by
  rw [Bool.eq_iff_iff, rep_scan_spec, rep_scan_spec]
  have key : ∀ i : Int, Rep.InWindow size hmc i → hs i.toNat = hs' i.toNat := by
    intro i hi; unfold Rep.InWindow at hi; exact heq _ (by omega)
  constructor
  · rintro ⟨i, hw, he, hr⟩
    refine ⟨i, hw, by rw [← key i hw]; exact he, ?_⟩
    rcases hr with hf | ⟨j, hwj, hne, hej⟩
    · exact Or.inl hf
    · exact Or.inr ⟨j, hwj, hne, by rw [← key j hwj]; exact hej⟩
  · rintro ⟨i, hw, he, hr⟩
    refine ⟨i, hw, by rw [key i hw]; exact he, ?_⟩
    rcases hr with hf | ⟨j, hwj, hne, hej⟩
    · exact Or.inl hf
    · exact Or.inr ⟨j, hwj, hne, by rw [key j hwj]; exact hej⟩

/-- **clearing loses nothing** — dropping `n` leading entries that lie below `size − hmc` (everything before the last
    zeroing move; everything when more than 100 reversible plies were played and the clock is reset later) does not change
    the scan -/
theorem clear_loses_nothing (hs : Nat → Nat) (size hmc firstNew : Int) (h : Nat) (n : Nat) (hn : (n : Int) ≤ size - hmc) :
    Rep.canClaimDrawRep hs size hmc firstNew h =
      Rep.canClaimDrawRep (fun i => hs (i + n)) (size - n) hmc (firstNew - n) h :=
  Rep.canClaimDrawRep_shift hs size hmc firstNew h n hn

/-! ## the history builder -/

/-- for any make-move function, clock and hash: `setupPosition` yields the hashes of the positions
    `p_k … p_{n-1}` in order, where `p_k` is the last position reached by a zeroing move (`k = 0` if there is none), or
    nothing if these are more than 100; and the final position. -/
theorem history_builder {P M H : Type} (step : P → M → P) (hmc : P → Nat) (hash : P → H) (p : P) (ms : List M) :
    ∃ k, k ≤ ms.length ∧
      (k = 0 ∨ ∃ q, (states step p ms)[k]? = some q ∧ hmc q = 0) ∧
      (∀ j q, k < j → (states step p ms)[j]? = some q → hmc q ≠ 0) ∧
      setupPosition step hmc hash p ms =
        (if (((states step p ms).take ms.length).drop k).length > 100 then []
         else (((states step p ms).take ms.length).drop k).map hash,
         ms.foldl step p) := by
  obtain ⟨k, hk, hnz, hres⟩ := buildLoop_spec step hmc hash p ms []
  have hL : (buildLoop step hmc hash p ms []).1 = (((states step p ms).take ms.length).drop k).map hash := by
    rcases hres with ⟨rfl, h⟩ | ⟨_, _, h⟩
    · simpa using h
    · exact h
  refine ⟨k, hk, ?_, hnz, ?_⟩
  · rcases hres with ⟨h0, _⟩ | ⟨_, hz, _⟩
    · exact Or.inl h0
    · exact Or.inr hz
  · unfold setupPosition
    simp only [hL, List.length_map, buildLoop_snd]

/-- when every move resets the clock or adds one to it, the list is never longer than the clock of
    the final position: the scan's lower bound `size − hmc` is ≤ 0 for reversible moves from the root, and a list that was
    cleared because it exceeded 100 entries belongs to a position where the 50-move test fires anyway -/
theorem history_clock {P M H : Type} (step : P → M → P) (hmc : P → Nat) (hash : P → H)
    (hstep : ∀ p m, hmc (step p m) = 0 ∨ hmc (step p m) = hmc p + 1) (p : P) (ms : List M) :
    (setupPosition step hmc hash p ms).1.length ≤ hmc (setupPosition step hmc hash p ms).2 ∧
    ((buildLoop step hmc hash p ms []).1.length > 100 → 100 < hmc (setupPosition step hmc hash p ms).2) := by
  have h := buildLoop_clock step hmc hash hstep p ms [] (by simp)
  unfold setupPosition
  simp only []
  constructor
  · split
    · simp
    · exact h
  · intro hbig; omega

/-! ## legal games: the window loses nothing -/

/-- in a legal game (positions `p₀ … pₙ` of the specification, e.p.-normalised) two positions
    with the same board and side to move are an even number of plies apart and at least four: the side to move alternates,
    and two plies earlier the mover's from-square held its piece whereas now it is empty or holds an enemy piece.  Hence
    starting the scan at `size − 4` and stepping by 2 skips no candidate. -/
theorem window_loses_nothing (p : Pos) (ms : List Mv) (hl : LegalLine p ms) (i j : Nat) (a b : Pos) (hij : i < j)
    (ha : (states nextPos p ms)[i]? = some a) (hb : (states nextPos p ms)[j]? = some b)
    (hbb : b.b = a.b) (hw : b.wtm = a.wtm) : 4 ≤ j - i ∧ (j - i) % 2 = 0 :=
  Chess.window_loses_nothing p ms hl i j a b hij ha hb hbb hw

/-! ## the third occurrence at ply 1 -/

/-- (abstract hashes) `qs`: the positions whose hashes were handed to the search, `root` the
    position searched, `new` the position after the root move with clock `newHmc`; `key`: identity under the rules.
    If the hash separates exactly the `key`-classes on these positions (`hinj`: no 64-bit collisions; `hwf`: positions
    equal under the rules have equal hashes, in particular equal e.p. flags — what the repair of `setupPosition`
    establishes), an earlier occurrence lies at even distance ≥ 4 (`hwin`, discharged on the chess specification by
    `window_loses_nothing`) and the clock covers the list unless nothing matches (`hclk`), then at ply 1 — with
    `posHashFirstNew` as the root loop sets it for MultiPV = 1 and > 1 — the scan is true iff the new position occurred at
    least twice among the given positions and the root. -/
theorem third_occurrence {P K : Type} [DecidableEq K] (key : P → K) (hash : P → Nat)
    (qs : List P) (root new : P) (newHmc : Int) (multiPV : Bool)
    (hinj : ∀ q ∈ qs ++ [root], hash q = hash new → key q = key new)
    (hwf : ∀ q ∈ qs ++ [root], key q = key new → hash q = hash new)
    (hwin : ∀ (i : Nat) q, (qs ++ [root])[i]? = some q → key q = key new →
              i + 4 ≤ (qs ++ [root]).length ∧ ((qs ++ [root]).length - i) % 2 = 0)
    (hclk : (((qs ++ [root]).length : Int) ≤ newHmc) ∨ ∀ q ∈ qs ++ [root], key q ≠ key new) :
    scanPly1 (qs.map hash) (hash root) (hash new) newHmc multiPV = true ↔
      2 ≤ (qs ++ [root]).countP (fun q => decide (key q = key new)) := by
  rw [scanPly1_eq]
  exact scanOld_iff key hash (qs ++ [root]) new newHmc _
    (by simp only [List.length_append, List.length_singleton]; split <;> omega) hinj hwf hwin hclk

/-- the same on the chess specification with the repaired history builder: `p0` from the
    FEN reader, `ms` legal, `m` a legal root move.  Remaining hypotheses: the Zobrist key is a function of board, side,
    castling mask and e.p. square (`hzob`, property C02); no collisions among the positions involved (`hcoll`); zeroing
    moves are irreversible (`hirr`, a chess fact not proved here).  The count is over the positions since the last zeroing
    move (root included) that equal the position after the move under the repetition rule. -/
theorem third_occurrence_chess (hash : Pos → Nat) (p0 : Pos) (ms : List Mv) (m : Mv) (multiPV : Bool)
    (hl : LegalLine p0 ms) (hm : legalB (givenHistory p0 ms).2 m = true)
    (hzob : ∀ a b : Pos, drawKey a = drawKey b → hash a = hash b)
    (hcoll : ∀ q ∈ (givenHistory p0 ms).1 ++ [(givenHistory p0 ms).2],
        hash q = hash (apply (givenHistory p0 ms).2 m) → drawKey q = drawKey (apply (givenHistory p0 ms).2 m))
    (hirr : (apply (givenHistory p0 ms).2 m).hmc = 0 →
        ∀ q ∈ (givenHistory p0 ms).1 ++ [(givenHistory p0 ms).2], q.b ≠ (apply (givenHistory p0 ms).2 m).b) :
    scanPly1 ((givenHistory p0 ms).1.map hash) (hash (givenHistory p0 ms).2) (hash (apply (givenHistory p0 ms).2 m))
        (apply (givenHistory p0 ms).2 m).hmc multiPV = true ↔
      2 ≤ ((givenHistory p0 ms).1 ++ [(givenHistory p0 ms).2]).countP
            (fun q => decide (drawKey q = drawKey (nextPos (givenHistory p0 ms).2 m))) :=
  Chess.third_occurrence_chess hash p0 ms m multiPV hl hm hzob hcoll hirr

/-- on normalised positions — all positions of a game from a normalised start — `drawKey` equality *is* equality under
    the repetition rule (same board, side, castling rights, e.p. capturability) -/
theorem drawKey_is_rule_identity (p0 : Pos) (ms : List Mv) (hn : Norm p0) (a b : Pos)
    (ha : a ∈ states nextPos p0 ms) (hb : b ∈ states nextPos p0 ms) : sameRules a b ↔ drawKey a = drawKey b :=
  sameRules_of_norm (states_norm p0 ms hn a ha) (states_norm p0 ms hn b hb)

/-- the builder before the repair (raw `makeMove`) violates the property:
    `position fen 3k4/8/8/8/3p4/8/4P3/3R2K1 w - - 0 1 moves e2e4 d8d7 g1g2 d7d8 g2g1 d8e8 g1g2 e8d8`, root move `g2g1`.
    The game is legal; under the rules the position after `g2g1` occurred twice before (the repaired list shows it); the
    unrepaired list carries the e.p. square e3 in its first entry, so only one entry has the key of the new position. -/
theorem third_occurrence_witness :
    LegalLine wP0 wMoves ∧ legalB (givenHistory wP0 wMoves).2 wM = true ∧
    ((givenHistory wP0 wMoves).1 ++ [(givenHistory wP0 wMoves).2]).countP
        (fun q => decide (drawKey q = drawKey (nextPos (givenHistory wP0 wMoves).2 wM))) = 2 ∧
    (rawHistory wP0 wMoves).1.map (·.ep) = [some ⟨20, by decide⟩, none, none, none, none, none, none] ∧
    ((rawHistory wP0 wMoves).1 ++ [(rawHistory wP0 wMoves).2]).countP
        (fun q => decide (drawKey q = drawKey (apply (rawHistory wP0 wMoves).2 wM))) = 1 := by
  obtain ⟨h1, -, -, hl, hm, -, -, hn, hc, -, -, hr, hrep⟩ := wLine_facts
  rw [wN] at hn
  rw [givenHistory_wP0.1, givenHistory_wP0.2, nextPos_eq_apply wR wM (by simpa using hn), ← wN]
  rw [rawHistory_wP0.1, rawHistory_wP0.2.1, rawHistory_wP0.2.2, ← wN]
  exact ⟨⟨h1, by rw [nextPos_wP0]; exact hl⟩, hm, hc, hrep, hr⟩

/-- …hence for *every* hash function that does not identify different keys the scan over the unrepaired list is false,
    although the move completes a three-fold repetition -/
theorem third_occurrence_witness_scan (hash : Pos → Nat) (multiPV : Bool)
    (hinj : ∀ q ∈ (rawHistory wP0 wMoves).1 ++ [(rawHistory wP0 wMoves).2],
        hash q = hash (apply (rawHistory wP0 wMoves).2 wM) → drawKey q = drawKey (apply (rawHistory wP0 wMoves).2 wM)) :
    scanPly1 ((rawHistory wP0 wMoves).1.map hash) (hash (rawHistory wP0 wMoves).2) (hash (apply (rawHistory wP0 wMoves).2 wM))
      (apply (rawHistory wP0 wMoves).2 wM).hmc multiPV = false := by
  rw [Bool.eq_false_iff]
  intro h
  rw [scanPly1_eq] at h
  have := scanOld_imp drawKey hash _ _ _ _
    (by simp only [List.length_append, List.length_singleton]; split <;> omega) hinj h
  rw [third_occurrence_witness.2.2.2.2] at this
  omega

/-! ## the 50-move test -/

/-- whenever the clock has reached 100 the node returns at once: the mate score
    `-(MATE0 − (ply+1))` if the side to move is checkmated, otherwise 0 (whatever the repetition scan says) -/
theorem fifty_with_mate_first (p : Pos) (ply : Int) (repScan : Bool) (h : 100 ≤ p.hmc) :
    Prologue.drawTests p.hmc (inCheck p.b p.wtm) (genLegal p).isEmpty repScan ply =
      some (if isMated p then -(Prologue.MATE0 - (ply + 1)) else 0) := by
  have h' : (100 : Int) ≤ (p.hmc : Int) := by omega
  unfold Prologue.drawTests Prologue.canClaimDraw50 isMated
  simp only [h', decide_true, if_true]
  cases inCheck p.b p.wtm <;> cases (genLegal p).isEmpty <;> simp

/-- below 100 the prologue returns 0 exactly when the scan fires, and otherwise lets the search continue -/
theorem below_fifty (hmc : Int) (inChk noLegal repScan : Bool) (ply : Int) (h : hmc < 100) :
    Prologue.drawTests hmc inChk noLegal repScan ply = if repScan then some 0 else none := by
  have h' : ¬ (100 : Int) ≤ hmc := by omega
  unfold Prologue.drawTests Prologue.canClaimDraw50
  simp [h']

/-- the score returned for a mate at ply 1 is the root's `mate 1` (31998) -/
theorem mate_at_ply1 : Prologue.mateInOneAtRoot = 31998 := by decide

/-! ## the console game -/

/-- **dead material** — `Game::insufficientMaterial` is exactly: no queen, rook or pawn, and at most one minor piece in
    total or bishops only, all on squares of one colour -/
theorem dead_material_spec (b : Board) : insufficientMaterial b = true ↔ DeadMaterial b := insufficientMaterial_iff b

/-- `getGameState` reports, in this order: mate (for the side that delivered it), stalemate, dead
    material, resignation, and otherwise the state set by an accepted claim or agreement (`drawRep`, `draw50`,
    `drawAgree`) or `alive` -/
theorem game_state_spec (g : Game) :
    getGameState g =
      if isMated g.pos then (if g.pos.wtm then .blackMate else .whiteMate)
      else if isStalemate g.pos then (if g.pos.wtm then .whiteStalemate else .blackStalemate)
      else if insufficientMaterial g.pos.b then .drawNoMate
      else if g.resignState ≠ .alive then g.resignState
      else g.drawState := getGameState_eq g

/-- **repetition claim** — in a live game `draw rep [m]` ends the game as a repetition draw exactly when
    the claimed position (after the legal move `m`, or the current one; text naming no legal move counts as no move) occurs
    at least three times among the positions of the game from its start plus itself, compared by `drawRuleEquals` -/
theorem draw_claim_spec_rep (fixRedo : Bool) (g : Game) (m : Option Mv) (hal : getGameState g = .alive) :
    (processString fixRedo g (.drawRep m)).1.drawState = .drawRep ↔
      3 ≤ (claimLine g m).countP (fun q => decide (drawKey q = drawKey (claimed g m))) := by
  have : (processString fixRedo g (.drawRep m)).1 = claim g true m := by
    simp [processString, hal]
  rw [this]; exact claim_rep_iff g m hal

/-- **50-move claim** — `draw 50 [m]` is accepted exactly when the clock of the claimed position is ≥ 100 -/
theorem draw_claim_spec_50 (fixRedo : Bool) (g : Game) (m : Option Mv) (hal : getGameState g = .alive) :
    (processString fixRedo g (.draw50 m)).1.drawState = .draw50 ↔ 100 ≤ (claimed g m).hmc := by
  have : (processString fixRedo g (.draw50 m)).1 = claim g false m := by
    simp [processString, hal]
  rw [this]; exact claim_50_iff g m hal

/-- a rejected claim is a draw offer, and the named move is played -/
theorem rejected_claim_plays (g : Game) (rep : Bool) (m : Mv) (hal : getGameState g = .alive) (hm : legalB g.pos m = true)
    (hrej : (if rep then repValid g (some m) else fiftyValid g (some m)) = false) :
    claim g rep (some m) = playMove { g with pending := true } m := by
  have hal' : getGameState { g with pending := true } = .alive := hal
  unfold claim
  simp only [legalOnly, hm, if_true, hrej, Bool.false_eq_true, if_false]
  unfold processMove
  simp [hal', hm]

/-- agreement: `draw accept` ends the game iff the opponent's last move carried an offer; resignation is recorded for the
    side to move -/
theorem agreement_and_resignation (fixRedo : Bool) (g : Game) (hal : getGameState g = .alive) :
    ((processString fixRedo g .drawAccept).1.drawState = .drawAgree ↔ haveDrawOffer g = true) ∧
    (processString fixRedo g .resign).1.resignState = (if g.pos.wtm then .resignWhite else .resignBlack) := by
  have ha := (alive_fields g hal).1
  constructor
  · simp only [processString, hal, beq_self_eq_true, if_true]
    by_cases h : haveDrawOffer g = true
    · simp [h]
    · simp [h, ha]
  · simp [processString, hal]

/-- once the game is over no move is accepted and claims, offers and resignation change nothing -/
theorem finished_game_is_frozen (fixRedo : Bool) (g : Game) (hover : getGameState g ≠ .alive) (m : Option Mv) :
    processString fixRedo g (.move m) = (g, false) ∧ (processString fixRedo g (.drawRep m)).1 = g ∧
    (processString fixRedo g (.draw50 m)).1 = g ∧ (processString fixRedo g (.drawOffer m)).1 = g ∧
    (processString fixRedo g .drawAccept).1 = g ∧ (processString fixRedo g .resign).1 = g := by
  have h1 : (getGameState g != .alive) = true := by simpa using hover
  have h2 : (getGameState g == .alive) = false := by simpa using hover
  simp [processString, processMove, h1, h2]

/-- **for every game history** — every state reachable by console commands (repaired `redo`) from a start position as
    the FEN reader gives it records a legal game: the positions compared by claims are exactly the positions
    `p₀ … p_cur` of the specification played with the first `currentMove` moves of the move list, all normalised -/
theorem console_record_spec (g : Game) (h : Reach g) :
    ∃ p0, (gamePositions g).head? = some p0 ∧ gamePositions g = states nextPos p0 (g.moves.take g.cur) ∧
      LegalLine p0 (g.moves.take g.cur) ∧ ∀ q ∈ gamePositions g, Norm q := by
  obtain ⟨hi, hn⟩ := reach_inv g h
  obtain ⟨p0, h1, h2, h3⟩ := inv_gamePositions g hi
  exact ⟨p0, h1, h2, h3, gamePositions_norm g hn⟩

/-- the FEN reader's output is normalised (so `Reach.start` applies to every `new` / `setpos`) -/
theorem start_positions_normalised (fen : String) (p : Pos) (h : readFEN fen = .ok p) : Norm p := readFEN_norm fen p h

/-- **repetition claim at rule level** — in a reachable live game, `draw rep [m]` is accepted exactly when the claimed
    position occurs at least three times in the game (itself included), positions compared under the repetition rule
    (`sameRules`: board, side to move, castling rights, e.p. capturability).  `hep`: the claimed move is not a double pawn
    push beside an enemy pawn (after such a move the position cannot have occurred before). -/
theorem draw_claim_rule_level (g : Game) (h : Reach g) (m : Option Mv) (hal : getGameState g = .alive)
    (hep : ∀ mv, legalOnly g m = some mv → (apply g.pos mv).ep = none) :
    (processString true g (.drawRep m)).1.drawState = .drawRep ↔
      3 ≤ (claimLine g m).countP (fun q => decide (sameRules q (claimed g m))) := by
  rw [draw_claim_spec_rep true g m hal]
  obtain ⟨_, hn⟩ := reach_inv g h
  have hgp := gamePositions_norm g hn
  have hnew : ∀ mv, legalOnly g m = some mv → Norm (apply g.pos mv) := fun mv h => fixupEP_of_ep_none _ (hep mv h)
  have hcl : Norm (claimed g m) := by
    unfold claimed
    split
    · next mv hm => exact hnew mv hm
    · exact hn.1
  have hline : ∀ q ∈ claimLine g m, Norm q := by
    intro q hq
    unfold claimLine at hq
    rcases List.mem_append.1 hq with hq | hq
    · exact hgp q hq
    · split at hq
      · next mv hm => rw [List.mem_singleton.1 hq]; exact hnew mv hm
      · cases hq
  have : (claimLine g m).countP (fun q => decide (drawKey q = drawKey (claimed g m))) =
      (claimLine g m).countP (fun q => decide (sameRules q (claimed g m))) := by
    apply List.countP_congr
    intro q hq
    simp only [decide_eq_true_eq]
    exact (sameRules_of_norm (hline q hq) hcl).symm
  rw [this]

/-- `redo` before the repair replays the raw `makeMove`: after `e2e4; undo; redo` in the witness game
    the position keeps the e.p. square e3, and the claim `draw rep g2g1` for the third occurrence is rejected (the move is
    played instead); with the repaired `redo` the claim is accepted -/
theorem redo_witness :
    (runCmds false (newGame wP0) redoScript).drawState = .alive ∧ (runCmds false (newGame wP0) redoScript).cur = 9 ∧
    (runCmds true (newGame wP0) redoScript).drawState = .drawRep ∧ (runCmds true (newGame wP0) redoScript).cur = 8 :=
  ⟨(redo_run false).1, (redo_run false).2, (redo_run true).1, (redo_run true).2⟩

/-- under the hypotheses of `third_occurrence` for the two scans it makes, `ComputerPlayer::canClaimDraw`
    claims `draw 50` / `draw rep` for the current position, else `draw 50 m` / `draw rep m` for the position after its
    move, exactly when the clock is ≥ 100 resp. the position occurred at least twice before since the last zeroing move -/
theorem cp_claim_spec (hash : Pos → Nat) (hist : List Pos) (p : Pos) (m : Mv)
    (h1 : ScanHyp hash hist p) (h2 : ScanHyp hash (hist ++ [p]) (apply p m)) :
    canClaimDraw hash hist p m =
      if 100 ≤ p.hmc then .d50
      else if 2 ≤ hist.countP (fun q => decide (drawKey q = drawKey p)) then .rep
      else if 100 ≤ (apply p m).hmc then .d50m
      else if 2 ≤ (hist ++ [p]).countP (fun q => decide (drawKey q = drawKey (apply p m))) then .repm
      else .none := canClaimDraw_eq hash hist p m h1 h2

/-! ## the hypotheses are satisfiable -/

/-- `third_occurrence`: a history in which the new position (hash 2) stands at distances 4 and 8 -/
example : scanPly1 ([0, 2, 5, 6, 7, 2, 8, 9].map id) 1 2 9 false = true := by decide
example : scanPly1 ([0, 2, 5, 6, 7, 3, 8, 9].map id) 1 2 9 true = false := by decide
example : (2 : Nat) ≤ ([0, 2, 5, 6, 7, 2, 8, 9] ++ [1]).countP (fun q => decide (id q = id 2)) := by decide
/-- the start position is normalised, the witness game satisfies `LegalLine` (see `third_occurrence_witness`) -/
example : Norm wP0 := fixupEP_of_ep_none _ rfl

end Props.C11
