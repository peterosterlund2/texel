import TexelVerif.TT.TableLemmas
/-!
# C14 — Clear Hash makes the next search identical to a fresh start

The engine's persistent search-affecting table state is the `TT.Table` model.  `Table.clear` is the repaired
`TranspositionTable::clear()` (resets `generation`); `clearOld` is the behaviour of the pinned commit (keeps it),
for which the witness below shows an observable difference once the generation counter wraps to 0.
Determinism of the whole search is observed by the two-process comparison, not proved (partial).
-/
namespace Props.C14
open TT

/-- behaviour of the pinned commit: `clear()` kept the generation counter -/
def clearOld (t : Table) : Table := { t with used := setUsedSize t.size, slots := Array.replicate t.size (0, 0) }

/-- after (the repaired) Clear Hash the table is exactly a freshly constructed one, up to the contempt hash,
    which is re-derived from the options at the start of every search -/
theorem clear_is_fresh (t : Table) (hs : t.size = normSize t.size) :
    t.clear = { Table.new t.size with contempt := t.contempt } := by
  simp only [Table.clear, Table.new, ← hs]

/-- in particular the first search after Clear Hash runs with generation 1, like the first search of a fresh engine -/
theorem clear_generation (t : Table) : t.clear.nextGeneration.gen = (Table.new t.size).nextGeneration.gen := by
  simp [Table.clear, Table.new, Table.nextGeneration]

/-- every slot is empty after Clear Hash -/
theorem clear_slots (t : Table) (i : Nat) : t.clear.slot i = (0, 0) := clear_slot t i

def k1 : W := 0x1234000000000000#64
def k2 : W := 0x1234000000000100#64
def insA (k : W) : InsArgs :=
  { key := k, from_ := 1, to := 2, promote := 0, score := 5, type := 2, ply := 0, depth := 0, eval := 0, busy := false }
/-- two depth-0 bound entries whose keys share a bucket, then a probe for the first -/
def scenario (t : Table) : Option (W × W) := (((t.insert (insA k1)).insert (insA k2)).probe k1).2

/-- **witness for the pinned commit**: after 15 (or 31, 47 …) earlier searches the old Clear Hash leaves generation 15,
    the next search runs with generation 0, under which empty slots look current to `betterThan`; the same two
    stores and probe that hit in a fresh engine (generation 1) then miss. -/
theorem clearOld_generation_zero_differs :
    scenario (clearOld { Table.new 512 with gen := 15 }).nextGeneration = none ∧
    (scenario (Table.new 512).nextGeneration).isSome = true := by decide +kernel

/-- with the repaired `clear` the same history gives the fresh engine's answer -/
theorem clear_generation_scenario :
    scenario ({ Table.new 512 with gen := 15 } : Table).clear.nextGeneration = scenario (Table.new 512).nextGeneration := by
  -- `clear` gives back the fresh table itself, so the scenario need not be run
  have h : ({ Table.new 512 with gen := 15 } : Table).clear = Table.new 512 := by
    simp only [Table.clear, Table.new, show normSize 512 = 512 by decide]
  rw [h]

end Props.C14
