import TexelVerif.PG.Lemmas
import TexelVerif.PG.DeadlockMen
import TexelVerif.Chess.FenRT
/-!
# C16 — reachable positions are never declared illegal; proof games are valid

What is *proved* here (all statements are unbounded: every legal game of the specification `Chess.legalB` /
`Chess.apply` / `Chess.fixupEP`, any length, `Chess.Playable p ms q` = "`ms` is a sequence of legal moves from `p` to `q`"):

* the two *count rules* of the proof-game tool never reject a reachable position:
  `counts_invariant` (`ProofGame::validatePieceCounts` = `pieceCountsValid` of revmovegen.cpp accepts every position
  of every legal game from the initial position) and `enough_remaining_necessary`
  (`ProofGame::enoughRemainingPieces` holds for every pair (position, later position of the same game));
* the *arithmetic tail* of `ProofGame::distLowerBound` is admissible: `plies_from_moves` (per-side move counts and
  the two side-to-move corrections give a lower bound on the number of plies) and `captures_need_moves` (each side
  must make at least as many moves as the other side has men to lose), combined in
  `dist_lower_bound_captures_partial`;
* the certificate checker applied to every proof game the tool prints is sound: `proofgame_checker_sound`,
  `proofgame_san_checker_sound`;
* of `computeBlocked`: `computeDeadlockedPieces` is sound relative to the blocked set it is handed (`deadlocked_*`),
  and so is the castling part (`castling_rights_never_regained`, `castling_squares_untouched`).

What is **not** proved (see `soundness_partial`): the other geometric pruning rules.  They are only monitored on
reachable positions by `tools/checks/c16.py`.
-/
namespace Props.C16
open Chess PG

/-- **the count transition of a move** (basis of everything below): for every piece code `a ≠ 0`,
    #a after + [a captured] + [a is the moving piece] = #a before + [a is the piece put on the target square] -/
theorem count_transition (p : Pos) (m : Mv) (h : pseudo p m = true) (a : Pc) (ha : a ≠ 0) :
    cnt (apply p m).b a + ind (capturedPc p m) a + ind (p.at m.f) a = cnt p.b a + ind (newPc p m) a :=
  apply_counts p m h a ha

/-- the piece-count rule is an invariant of legal play (from any position that satisfies it) -/
theorem counts_invariant_step (p q : Pos) (ms : List Mv) (h : Playable p ms q)
    (hv : validatePieceCounts (countsOf p.b) = .ok) : validatePieceCounts (countsOf q.b) = .ok :=
  playable_valid p q ms h hv

/-- **`validatePieceCounts` never rejects a position reached by a legal game from the initial position** -/
theorem counts_invariant (q : Pos) (ms : List Mv) (h : Playable startPos ms q) :
    validatePieceCounts (countsOf q.b) = .ok :=
  playable_valid startPos q ms h (by decide +kernel)

/-- **`enoughRemainingPieces` is necessary for reachability**: if `g` is reached from `p` by legal moves, the test
    `enoughRemainingPieces(pieceCnt of p)` with `goalPieceCnt` of `g` succeeds -/
theorem enough_remaining_necessary (p g : Pos) (ms : List Mv) (h : Playable p ms g) :
    enoughRemainingPieces (countsOf p.b) (countsOf g.b) = true :=
  playable_enough p g ms h

/-- sides alternate along a legal game -/
theorem side_to_move_alternates (p g : Pos) (ms : List Mv) (h : Playable p ms g) :
    g.wtm = (if ms.length % 2 = 0 then p.wtm else !p.wtm) := playable_wtm p g ms h

/-- **plies from moves**: if along a legal game from `p` to `g` white makes at least `a` moves and black at least `b`
    (`nWhite`/`nBlack` = the numbers of white/black moves of an alternating sequence), then the game has at least
    `pliesFromMoves a b` plies — the value `distLowerBound` returns for `neededMoves = {a, b}` -/
theorem plies_from_moves (p g : Pos) (ms : List Mv) (h : Playable p ms g) (a b : Int)
    (ha : a ≤ nWhite p.wtm ms.length) (hb : b ≤ nBlack p.wtm ms.length) :
    pliesFromMoves a b p.wtm g.wtm ≤ ms.length := by
  rw [playable_wtm p g ms h]
  exact plies_arith a b p.wtm ms.length ha hb

/-- **captures need moves**: along a legal game the black men that disappear are at most the white moves, and vice
    versa (`EpOK p`: an en-passant square of `p`, if any, has no man of the side to move behind it — true for the
    initial position and after every move, `epOK_after_move`) -/
theorem captures_need_moves (p g : Pos) (ms : List Mv) (h : Playable p ms g) (hep : EpOK p) :
    men false p.b ≤ men false g.b + nWhite p.wtm ms.length ∧ men true p.b ≤ men true g.b + nBlack p.wtm ms.length :=
  playable_men p g ms h hep

theorem epOK_after_move (p : Pos) (m : Mv) (h : legalB p m = true) : EpOK (fixupEP (apply p m)) :=
  fixupEP_epOK _ (apply_epOK p m (legalB_pseudo p m h))

theorem epOK_start : EpOK startPos := by intro e he; cases he

/-- **the arithmetic tail of `distLowerBound` is admissible** (partial): with the geometric part `computeNeededMoves`
    replaced by its trivial value {0,0}, the returned bound (captures per side, then plies) never exceeds the length
    of any legal game from `p` to `g`.
    PARTIAL: the full statement is `distLowerBound p g ≤ ms.length` for the real `neededMoves` (shortest-path /
    assignment / cut-set analysis, proofgame.cpp:744-1400) and "`distLowerBound` ≠ INT_MAX"; by `plies_from_moves` it
    would follow from "white makes ≥ neededMoves[0] and black ≥ neededMoves[1] moves", which has no theorem. -/
theorem dist_lower_bound_captures_partial (p g : Pos) (ms : List Mv) (h : Playable p ms g) (hep : EpOK p) :
    distCombine 0 0 ((men false p.b : Int) - men false g.b) ((men true p.b : Int) - men true g.b) p.wtm g.wtm ≤ ms.length := by
  unfold distCombine
  obtain ⟨h1, h2⟩ := playable_men p g ms h hep
  exact plies_from_moves p g ms h _ _ (by omega) (by omega)

/-- **the proof-game certificate checker is sound**: an accepted move list is a legal game from the initial position
    whose final position equals the target in placement, side to move, castling rights and en-passant square -/
theorem proofgame_checker_sound (ms : List Mv) (target : Pos) (h : checkProofGame ms target = true) :
    ∃ q, Playable startPos ms q ∧ q.b = target.b ∧ q.wtm = target.wtm ∧ q.castle = target.castle ∧ q.ep = target.ep := by
  unfold checkProofGame at h
  split at h
  · next q hq => exact ⟨q, (playLine_iff _ _ _).1 hq, (sameDraw_iff q target).1 h⟩
  · cases h

/-- the same for the SAN front end used on `texelutil`'s `proof:` lines; the SAN resolver is not trusted: whatever it
    proposes is re-tested with `legalB`, and the statement only claims that *some* legal game of that length exists -/
theorem proofgame_san_checker_sound (sans : List String) (target : Pos) (h : checkSanGame sans target = true) :
    ∃ ms q, ms.length = sans.length ∧ Playable startPos ms q ∧
      q.b = target.b ∧ q.wtm = target.wtm ∧ q.castle = target.castle ∧ q.ep = target.ep := by
  unfold checkSanGame at h
  split at h
  · next q hq =>
    obtain ⟨ms, hl, hp⟩ := playSan_sound _ _ _ hq
    exact ⟨ms, q, hl, hp, (sameDraw_iff q target).1 h⟩
  · cases h

/-- the initial position of the model is the one the FEN reader produces from `startPosFEN` -/
theorem startPos_is_startFEN : (readFEN startFEN).toOption = some startPos := by rw [readFEN_start]; rfl

/-- **what C16 as a whole still lacks** (partial).  Proved: a reachable position passes the count rules and the
    capture/ply arithmetic, i.e. the *conjunction below*.  The full property "no stage of the tool declares a
    reachable position illegal and `distLowerBound ≤` remaining plies" additionally needs the soundness of
    the pawn part of `computeBlocked` (the rest of it is proved further down), `capturesFeasible` (assignment lower bound on pawn file changes),
    `computeNeededMoves` (shortest paths, pawn cones `wPawnReachable`, cut sets, trapped bishops),
    `computeLastMoves` (retro-analysis with `RevMoveGen`), the proof-kernel search (`ProofKernel::goalPossible`,
    `minMovesToGoal`, pawn-column promotion tables, failed-state cache) and the extended-kernel construction
    (`ExtProofKernel` + the CSP solver, the latter is C20).  None of these has a theorem; they are monitored on
    reachable positions only. -/
theorem soundness_partial (p g : Pos) (ms ms' : List Mv) (h0 : Playable startPos ms' p) (h : Playable p ms g) (hep : EpOK p) :
    validatePieceCounts (countsOf p.b) = .ok ∧ validatePieceCounts (countsOf g.b) = .ok ∧
    enoughRemainingPieces (countsOf p.b) (countsOf g.b) = true ∧
    distCombine 0 0 ((men false p.b : Int) - men false g.b) ((men true p.b : Int) - men true g.b) p.wtm g.wtm ≤ ms.length :=
  ⟨counts_invariant p ms' h0, counts_invariant_step p g ms h (counts_invariant p ms' h0),
   enough_remaining_necessary p g ms h, dist_lower_bound_captures_partial p g ms h hep⟩

/-! ## defects found by the monitor (both repaired in /repo; the check keeps the replays in known_findings.json) -/

/-- position from a placement string (no normalisation; counters irrelevant) -/
def mkPos (placement : String) (wtm : Bool) (castle : UInt8) (ep : Option Sq) : Pos :=
  match parsePlacement placement.toList (Vector.replicate 64 0) 7 0 with
  | .ok (b, _) => { b := b, wtm := wtm, castle := castle, ep := ep, hmc := 0, fmc := 1 }
  | .error _ => { b := Vector.replicate 64 0, wtm := wtm, castle := castle, ep := ep, hmc := 0, fmc := 1 }

def mv (f t : Nat) : Mv := { f := ⟨f % 64, Nat.mod_lt _ (by decide)⟩, t := ⟨t % 64, Nat.mod_lt _ (by decide)⟩, promo := 0 }

/-- white may castle: `rnbqkbnr/pppppppp/8/8/8/5NP1/PPPPPPBP/RNBQK2R w KQkq -` -/
def castleA : Pos := mkPos "rnbqkbnr/pppppppp/8/8/8/5NP1/PPPPPPBP/RNBQK2R" true 15 none


/-! ## `ProofGame::computeDeadlockedPieces` (the deadlocked-piece rule of `computeBlocked`) -/

/-- the two nested loops of `computeDeadlockedPieces` end in a set of occupied squares none of whose pieces "can move"
    (`PG.canMove` = the lambda `pieceCanMove`) when the blocked squares and the set itself are obstacles -/
theorem deadlock_loops_fixed_point (b : Board) (B D : Sq → Bool) (h : deadlocked b B = some D) :
    FixPt b B D ∧ ∀ q, D q = true → b[q] ≠ 0 := deadlocked_spec b B D h

/-- **the deadlocked-piece rule is sound** — partial: relative to the `blocked` set handed in by `computeBlocked`
    (hypothesis inside `QuietLine`: those squares keep their contents; the pawn-cone / castling rules that produce
    them have no theorem) and for capture-free lines (the C++ function returns at once when the position has more men
    than the goal).  Along every such legal line, of any length, from `p`, every blocked or deadlocked square still
    holds the piece it holds in `p`: kings hemmed in by obstacle pieces and by squares that obstacle pawns attack,
    sliders and knights without a free first square, pawns with an obstacle in front, castling included. -/
theorem deadlocked_pieces_sound_partial (p q : Pos) (B D : Sq → Bool) (ms : List Mv) (hB : ∀ s, B s = true → p.b[s] ≠ 0)
    (hD : deadlocked p.b B = some D) (h : QuietLine B p ms q) : ∀ s, (B s || D s) = true → q.b[s] = p.b[s] :=
  deadlock_sound p q B D ms hB hD h

/-- hence the `false` verdict of `computeDeadlockedPieces` ("a deadlocked piece differs from the goal") is never given
    for a goal that such a line reaches — the rule never declares a reachable continuation impossible -/
theorem deadlocked_reject_sound_partial (p g : Pos) (B D : Sq → Bool) (ms : List Mv) (hB : ∀ s, B s = true → p.b[s] ≠ 0)
    (hD : deadlocked p.b B = some D) (h : QuietLine B p ms g) : verdict p.b g.b D = true :=
  deadlock_reject_sound p g B D ms hB hD h

/-- a move never adds a man and a capture removes exactly one: with equally many men at both ends **no legal line
    contains a capture** — this is the situation in which `computeDeadlockedPieces` does not return early -/
theorem no_capture_between_equal_men (B : Sq → Bool) (p g : Pos) (ms : List Mv) (h : BlockedLine B p ms g)
    (hv : Chess.Texel.ValidB p.b) (hep : EpPawn p) (hmen : total p.b ≤ total g.b) : QuietLine B p ms g :=
  quiet_of_equal_men B p g ms h hv hep hmen

/-- the hypotheses `ValidB` / `EpPawn` hold in every position of every legal game from the initial position -/
theorem reachable_wellformed (p : Pos) (ms : List Mv) (h : Playable startPos ms p) : Chess.Texel.ValidB p.b ∧ EpPawn p :=
  playable_wf startPos p ms h startPos_wf.1 startPos_wf.2

/-- **the deadlocked-piece rule under the C++ precondition**: `p` is reached by a legal game, the goal `g` has at least
    as many men as `p` (else the function returns early), the loops return `D`; then along every legal line from `p`
    to `g` that leaves the blocked squares alone every deadlocked square keeps its piece, and the verdict is `true`.
    Partial only in the hypothesis about the `blocked` squares (inside `BlockedLine`). -/
theorem deadlocked_rule_reachable_partial (p g : Pos) (ms0 ms : List Mv) (B D : Sq → Bool) (h0 : Playable startPos ms0 p)
    (hB : ∀ s, B s = true → p.b[s] ≠ 0) (hD : deadlocked p.b B = some D) (h : BlockedLine B p ms g)
    (hmen : total p.b ≤ total g.b) :
    (∀ s, (B s || D s) = true → g.b[s] = p.b[s]) ∧ verdict p.b g.b D = true := by
  obtain ⟨hv, hep⟩ := reachable_wellformed p ms0 h0
  have hq := quiet_of_equal_men B p g ms h hv hep hmen
  exact ⟨deadlock_sound p g B D ms hB hD hq, deadlock_reject_sound p g B D ms hB hD hq⟩

/- non-vacuity of `deadlocked_rule_reachable_partial` (the example): with the sixteen pawns blocked the loops freeze
   c1–f1 and c8–f8 (kernel-evaluated), 1.Nc3 is a `BlockedLine` to a position with as many men -/
def nvBlocked : Sq → Bool := fun q => (8 ≤ q.val && q.val < 16) || (48 ≤ q.val && q.val < 56)
def nvMove : Mv := { f := ⟨1, by decide⟩, t := ⟨18, by decide⟩, promo := 0 }
set_option maxRecDepth 1000000 in
example : ∃ D g, deadlocked startPos.b nvBlocked = some D ∧ D ⟨4, by decide⟩ = true ∧ BlockedLine nvBlocked startPos [nvMove] g ∧
    total startPos.b ≤ total g.b ∧ (∀ s, nvBlocked s = true → startPos.b[s] ≠ 0) ∧
    (deadlocked startPos.b nvBlocked).map (fun D => (allSq.filter D).map (·.val)) = some [2, 3, 4, 5, 58, 59, 60, 61] := by
  have hL : (deadlocked startPos.b nvBlocked).map (fun D => (allSq.filter D).map (·.val)) =
      some [2, 3, 4, 5, 58, 59, 60, 61] := by decide +kernel
  have hl : legalB startPos nvMove = true := by decide +kernel
  obtain ⟨D, hD, hL'⟩ := Option.map_eq_some_iff.1 hL
  refine ⟨D, fixupEP (apply startPos nvMove), hD, ?_, ?_, ?_, by decide +kernel, hL⟩
  · have h4 : 4 ∈ (allSq.filter D).map (·.val) := by rw [hL']; decide
    obtain ⟨s, hs, e⟩ := List.mem_map.1 h4
    have : s = ⟨4, by decide⟩ := Fin.ext e
    rw [← this]
    exact (List.mem_filter.1 hs).2
  · refine .cons _ _ _ _ hl ⟨⟨4, by decide⟩, ?_⟩ (by decide +kernel) (.nil _)
    unfold Chess.Texel.KingAt; decide +kernel
  · -- a non-capture keeps the number of men
    have hc : isCaptureMv startPos nvMove = false := by decide +kernel
    have := total_step startPos nvMove startPos_wf.1 (legalB_pseudo _ _ hl) startPos_wf.2
    rw [hc, if_neg Bool.false_ne_true, Nat.add_zero] at this
    rw [fixupEP_b]
    exact Nat.le_of_eq this.symm

/-- **castling rights are never regained**: a right (any set of bits of the castle mask) absent in `p` is absent in every
    position reachable from `p` — so `computeBlocked`'s early `return false` for a goal that has a castling right the current
    position lacks never rejects a reachable goal -/
theorem castling_rights_never_regained (p g : Pos) (ms : List Mv) (h : Playable p ms g) (bit : UInt8)
    (hb : p.castle &&& bit = 0) : g.castle &&& bit = 0 :=
  castle_monotone p g ms h bit hb

/-- **the castling part of `computeBlocked`'s blocked set**: while a castling right survives to the goal, no move of the
    line starts from or ends on the king's or the rook's home square of that right (`castleKeep s &&& bit = 0` holds for
    exactly those squares) — which is why `computeBlocked` may add E1/H1, E1/A1, E8/H8, E8/A8 to `blocked` -/
theorem castling_squares_untouched (p g : Pos) (ms : List Mv) (h : Playable p ms g) (bit : UInt8) (s : Sq)
    (hs : castleKeep s &&& bit = 0) (hg : g.castle &&& bit ≠ 0) : ∀ m ∈ ms, m.f ≠ s ∧ m.t ≠ s :=
  castle_squares_untouched p g ms h bit s hs hg

example : castleKeep (sq 4) &&& 2 = 0 ∧ castleKeep (sq 7) &&& 2 = 0 ∧ castleKeep (sq 0) &&& 1 = 0 ∧
    castleKeep (sq 60) &&& 8 = 0 ∧ castleKeep (sq 63) &&& 8 = 0 ∧ castleKeep (sq 56) &&& 4 = 0 := by decide

/-- a `QuietLine` is in particular a legal line of the specification -/
theorem quiet_line_playable (B : Sq → Bool) (p q : Pos) (ms : List Mv) (h : QuietLine B p ms q) : Playable p ms q :=
  h.playable


/-- WITNESS (castling; repaired by `fix: ProofGame::distLowerBound over-estimated the distance when a side can still
    castle`).  From `castleA` the position after O-O is one ply away, but the unrepaired `computeNeededMoves` charged
    white two king moves and one rook move (`neededMoves = {3, 0}`, observed through the hook), so `distLowerBound`
    returned `pliesFromMoves 3 0 = 5 > 1`: the hypothesis `a ≤ nWhite` of `plies_from_moves` fails for `a = 3`.
    With the repair's discount (`min 2 (dist(e1,goal) − dist(g1,goal)) = 2`) the value is `pliesFromMoves 1 0 = 1`.
    That the discounted assignment cost is a lower bound in general is geometry and has NO theorem (monitored). -/
theorem castling_bound_witness :
    Playable castleA [mv 4 6] (fixupEP (apply castleA (mv 4 6))) ∧
    ¬ ((3 : Int) ≤ nWhite castleA.wtm [mv 4 6].length) ∧
    pliesFromMoves 3 0 castleA.wtm (fixupEP (apply castleA (mv 4 6))).wtm = 5 ∧
    pliesFromMoves (3 - 2) 0 castleA.wtm (fixupEP (apply castleA (mv 4 6))).wtm = 1 := by
  have hw : ∀ s w c e, (mkPos s w c e).wtm = w := by intro s w c e; unfold mkPos; split <;> rfl
  rw [fixupEP_wtm, apply_wtm, show castleA.wtm = true from hw _ _ _ _]
  exact ⟨.cons _ _ _ _ (by decide +kernel) (.nil _), by decide, by decide, by decide⟩

/-- `r1bqkb1r/1pp2p1p/2np4/p2NpPp1/1P4n1/5N2/PBPPP1PP/R2QKB1R w KQkq e6` (black has just played e7-e5) -/
def epA : Pos := mkPos "r1bqkb1r/1pp2p1p/2np4/p2NpPp1/1P4n1/5N2/PBPPP1PP/R2QKB1R" true 15 (some ⟨44, by decide⟩)
def epLine : List Mv := [mv 37 44, mv 42 25, mv 35 18, mv 61 54, mv 8 16, mv 60 62, mv 0 1]
/-- `r1bq1rk1/1pp2pbp/3pP3/p5p1/1n4n1/P1N2N2/1BPPP1PP/1R1QKB1R b K -` -/
def epB : Pos := mkPos "r1bq1rk1/1pp2pbp/3pP3/p5p1/1n4n1/P1N2N2/1BPPP1PP/1R1QKB1R" false 2 none

/-- WITNESS (en passant; repaired by `fix: ProofGame::distLowerBound declared positions unreachable that need an en
    passant capture`).  `epB` is reached from `epA` by the seven legal moves fxe6 e.p. Nb4 Nc3 Bg7 a3 O-O Rb1, while the
    unrepaired `distLowerBound(epA → epB)` returned INT_MAX ("goal cannot be reached"): its capture analysis assumes
    that a captured man stands on the capture square.  The repair tries the (at most two) en-passant captures
    explicitly: `min(bound without e.p., 1 + bound after the capture)`; sound because a game from the position either
    starts with an e.p. capture or never uses the e.p. square.  (No theorem for the repaired function as a whole.) -/
theorem en_passant_unreachable_witness :
    ∃ q, Playable epA epLine q ∧ epLine.length = 7 ∧ sameDraw q epB = true := by
  have h : (match playLine epA epLine with | some q => sameDraw q epB | none => false) = true := by decide +kernel
  split at h
  · next q hq => exact ⟨q, (playLine_iff _ _ _).1 hq, rfl, h⟩
  · cases h

-- non-vacuity: 1. e4 e5 2. Nf3 is a legal game from the initial position, the checker accepts it, and the hypotheses
-- `Playable startPos ms q` of the theorems above are satisfiable
def e4e5Nf3 : List Mv := [{ f := 12, t := 28, promo := 0 }, { f := 52, t := 36, promo := 0 }, { f := 6, t := 21, promo := 0 }]
example : ∃ q, checkProofGame e4e5Nf3 q = true ∧ Playable startPos e4e5Nf3 q := by
  have h : (playLine startPos e4e5Nf3).isSome = true := by decide +kernel
  obtain ⟨q, hq⟩ := Option.isSome_iff_exists.1 h
  refine ⟨q, ?_, (playLine_iff _ _ _).1 hq⟩
  unfold checkProofGame
  rw [hq]
  exact (sameDraw_iff q q).2 ⟨rfl, rfl, rfl, rfl⟩

end Props.C16
