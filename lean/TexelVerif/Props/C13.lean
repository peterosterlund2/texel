import TexelVerif.TB.OnDemand
import TexelVerif.Bridge.TB
import TexelVerif.Props.C12
/-!
# C13 — with tablebase knowledge the engine reports exact results and keeps them

Layers: (1) the certified tables (C12: `certificate_sound`, `probe_score`); (2) the score arithmetic of the on-demand
probe, regenerated from the C++ by the translator (`Bridge/TB.lean`: `rule50Margin`, `swindleScore`) and proved here to
mean what the property says; (3) partial: that the search propagates an exact probe result to the root is tied only
through the audit of the real engine's output against the certified distance to mate (tools/checks/c13.py).
-/
namespace Props.C13
open TB13 TB Cert

/-- the regenerated `rule50Margin` is the model's margin -/
theorem margin_is_source (d ply hmc : Int) : Gen.TB.rule50Margin d ply hmc = margin d ply hmc := by
  rw [Bridge.TB.rule50Margin_eq]; simp [margin, pliesToMate]

/-- the margin is non-negative exactly when the mate is on the board no later than half-move clock 100 -/
theorem margin_nonneg_iff (d ply hmc : Int) : 0 ≤ margin d ply hmc ↔ hmc + pliesToMate d ply ≤ 100 := by
  simp only [margin]; omega

/-- for the certified score of a won position (`win n`, n ≥ 1) the plies to mate are `2n − 1`, for a lost position
    (`loss n`) `2n` — so "margin ≥ 0" is "the mate can be completed before the 50-move limit" in the property's terms -/
theorem plies_of_value (n : Nat) (ply : Int) (hp : 0 ≤ ply) (hn : 1 ≤ n) (hs : ply + 2 * n ≤ 16000) :
    pliesToMate (scoreOf (.win n) ply) ply = 2 * n - 1 ∧ pliesToMate (scoreOf (.loss n) ply) ply = 2 * n := by
  simp only [pliesToMate, scoreOf, MATE0]
  constructor <;> omega

/-- the probe gives the exact certified score iff the position is drawn or the mate fits the 50-move window;
    otherwise it gives bound 0 in the right direction and records the (positive) frustration distance -/
theorem ondemand_spec (d ply hmc : Int) :
    (d = 0 ∨ hmc + pliesToMate d ply ≤ 100 → onDemand d ply hmc = (d, .exact, 0)) ∧
    (d > 0 → ¬ hmc + pliesToMate d ply ≤ 100 →
        onDemand d ply hmc = (0, .lower, hmc + pliesToMate d ply - 100) ∧ hmc + pliesToMate d ply - 100 > 0) ∧
    (d < 0 → ¬ hmc + pliesToMate d ply ≤ 100 →
        onDemand d ply hmc = (0, .upper, -(hmc + pliesToMate d ply - 100))) := by
  unfold onDemand margin
  generalize pliesToMate d ply = P
  refine ⟨fun h => ?_, fun hd hm => ?_, fun hd hm => ?_⟩
  · rw [if_pos (by omega)]
  · rw [if_neg (by omega), if_pos hd, if_pos hd]
    exact ⟨by congr 2; omega, by omega⟩
  · rw [if_neg (by omega), if_neg (by omega), if_neg (by omega)]
    congr 2; omega

/-- what the audit expects at the root (ply 0) is exactly "exact certified score through the UCI mate conversion when the
    probe is exact": `mate n` for `win n` iff `2n − 1 ≤ 100 − hmc`, `mate −n` for `loss n` iff `2n ≤ 100 − hmc`, never a
    mate for a draw -/
theorem expected_is_exact_probe (v : Val) (hmc : Int) (hv : match v with | .win n => 1 ≤ n ∧ n ≤ 8000 | .loss n => n ≤ 8000 | .draw => True) :
    (expectedMate v hmc).isSome = true ↔ (v ≠ .draw ∧ (onDemand (scoreOf v 0) 0 hmc).2.1 = .exact) := by
  cases v with
  | draw => simp [expectedMate]
  | win n =>
    obtain ⟨h1, h2⟩ := hv
    have hp := (plies_of_value n 0 (by omega) h1 (by omega)).1
    have hd : scoreOf (.win n) 0 ≠ 0 := by simp only [scoreOf, MATE0]; omega
    simp only [expectedMate, onDemand, hd, false_or, margin, hp]
    by_cases h : 2 * (n : Int) - 1 ≤ 100 - hmc
    · have : (100 - hmc) - (2 * (n:Int) - 1) ≥ 0 := by omega
      simp [h, this]
    · have : ¬ ((100 - hmc) - (2 * (n:Int) - 1) ≥ 0) := by omega
      simp only [h, this, if_false]
      split <;> simp
  | loss n =>
    have hp : pliesToMate (scoreOf (.loss n) 0) 0 = 2 * n := by simp only [pliesToMate, scoreOf, MATE0]; omega
    have hd : scoreOf (.loss n) 0 ≠ 0 := by simp only [scoreOf, MATE0]; omega
    simp only [expectedMate, onDemand, hd, false_or, margin, hp]
    by_cases h : 2 * (n : Int) ≤ 100 - hmc
    · have : (100 - hmc) - (2 * (n:Int)) ≥ 0 := by omega
      simp [h, this]
    · have : ¬ ((100 - hmc) - (2 * (n:Int)) ≥ 0) := by omega
      simp only [h, this, if_false]
      split <;> simp

/-- swindle scores (used for positions that are won on the board but drawn by the 50-move rule) are never mate scores:
    magnitude between 35 and 70 with the sign of the frustrated distance -/
theorem swindle_far_range (e d : Int) (hd : d ≠ 0) :
    (0 < d → 35 ≤ Gen.TB.swindleScore e d ∧ Gen.TB.swindleScore e d ≤ 70) ∧
    (d < 0 → -70 ≤ Gen.TB.swindleScore e d ∧ Gen.TB.swindleScore e d ≤ -35) := Bridge.TB.swindle_far e d hd

/-- …and for distance 0 at most 34 with the sign of the evaluation -/
theorem swindle_near_range (e : Int) (he : e.natAbs < 2^31) :
    (0 ≤ e → 0 ≤ Gen.TB.swindleScore e 0 ∧ Gen.TB.swindleScore e 0 ≤ 34) ∧
    (e < 0 → -34 ≤ Gen.TB.swindleScore e 0 ∧ Gen.TB.swindleScore e 0 ≤ 0) := Bridge.TB.swindle_near e he

/-- the certified table gives the engine exactly the score of the true distance to mate (C12) -/
theorem probe_is_exact (cls : Cls) (T : ByteArray)
    (h : ∀ k1, k1 ≤ 64 → ∀ k2, k2 ≤ 64 → checkUnit cls.cc cls.cc.shape T k1 k2 = true)
    (p : Pos) (hp : legal cls.cc p = true) (ply : Int) :
    probeDTM cls.cc.shape T (toBoard cls.cc.shape p) ply = some (scoreOf (DTM (game cls.cc) p) ply) :=
  Props.C12.probe_score cls T h p hp ply

-- non-vacuity
example : expectedMate (.win 10) 50 = some 10 ∧ expectedMate (.win 30) 50 = none ∧ expectedMate (.loss 25) 50 = some (-25) ∧
    expectedMate (.loss 26) 50 = none := by decide

end Props.C13
