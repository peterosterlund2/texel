import TexelVerif.TB.Check
import TexelVerif.TB.GameLemmas
import TexelVerif.TB.IndexLemmas
import TexelVerif.TB.Abort
import TexelVerif.TB.RetroBridge
/-!
# C12 — on-demand endgame tables hold the exact distance to mate

Property theorems only.  Models: `TB/Game.lean` (pawnless chess of a material class as a finite game),
`TB/Index.lean` (Texel's `TBIndex`/`TBPosition::setPosition`/`PositionValue`/`probeDTM`), `TB/Check.lean`
(the executable certificate checker the compiled driver runs over every dumped table), `TB/Abort.lean`
(`updateTB` state machine).  `Cert.DTM` is the exact game value defined from the bounded-recursion ground truth
`winW / lossW` of `TB/Certificate.lean`.

The hypothesis "every unit of the checker accepts the table" is not an assumption about the engine: it is what
each run of `./check C12` establishes by executing the compiled `TB.checkUnit` on the bytes the real
`TBGenerator` produced (all 65 × 65 units per table).
-/
namespace Props.C12
open TB Cert

/-! ## 1. An accepted table is exact -/

/-- **certificate_sound.**  Let `T` be the bytes of a dumped table of class `cls`.  If all 65 × 65 units of the
    executable checker accept `T`, then for **every** legal position of the class — every placement of the men
    (any of the non-king men possibly captured), either side to move, hence every symmetry image of every table
    entry — Texel's index mapping (model of `setPosition`) yields an index inside the table and the byte stored
    there decodes (model of `PositionValue`) to the exact distance to mate. -/
theorem certificate_sound (cls : Cls) (T : ByteArray)
    (h : ∀ k1, k1 ≤ 64 → ∀ k2, k2 ≤ 64 → checkUnit cls.cc cls.cc.shape T k1 k2 = true) :
    ∀ p, legal cls.cc p = true →
      ∃ i, indexOf cls.cc.shape p = some i ∧ i < T.size ∧
        decodeByte (readByte T i) = some (DTM (game cls.cc) p) :=
  units_sound cls.cc cls.cc.shape T (by simp only [Cls.cc]; omega) h

/-- the same from the single Boolean `checkTable` -/
theorem certificate_sound_table (cls : Cls) (T : ByteArray) (h : checkTable cls.cc cls.cc.shape T = true) :
    T.size = cls.cc.shape.nPos ∧
    ∀ p, legal cls.cc p = true →
      ∃ i, indexOf cls.cc.shape p = some i ∧ i < T.size ∧
        decodeByte (readByte T i) = some (DTM (game cls.cc) p) :=
  ⟨(checkTable_units _ _ T h).1, certificate_sound cls T (checkTable_units _ _ T h).2⟩

/-- The ground truth behind `DTM`, spelled out: a table that satisfies the local rule on the legal positions labels a
    position `win k` (k ≥ 1) exactly if the side to move can force mate within k of its own moves, and `loss k`
    exactly if it is mated within k moves whatever it plays (`winW`/`lossW` are defined by plain recursion on the
    number of moves over the legal-move relation; no table involved). -/
theorem exactness_unfolded (G : Game P) (S : P → Prop) (hS : ∀ p, S p → ∀ q ∈ G.moves p, S q)
    (T : P → Val) (hT : ∀ p, S p → T p = expected G T p) (n : Nat) (p : P) (hp : S p) :
    (lossW G n p = true ↔ ∃ k, k ≤ n ∧ T p = .loss k) ∧ (winW G n p = true ↔ ∃ k, 1 ≤ k ∧ k ≤ n ∧ T p = .win k) :=
  (fixedpoint_exact_on G S hS T hT).2 n p hp

/-- the successors of a legal position are legal positions (the set the certificate talks about is closed) -/
theorem legal_closed (cls : Cls) (p q : Pos) (hq : q ∈ (game cls.cc).moves p) : legal cls.cc q = true :=
  moves_legal cls.cc p q hq

/-- the hypotheses of the abstract theorem are satisfiable: a three-position game (0 → 1, 1 is checkmated, 2 is
    stalemated) with its exact table -/
example : ∃ (G : Game (Fin 3)) (T : Fin 3 → Val), (∀ p, T p = expected G T p) ∧ T 0 = .win 1 ∧ T 1 = .loss 0 ∧ T 2 = .draw :=
  ⟨{ moves := fun p => if p = 0 then [1] else [], inCheck := fun p => p = 1 },
   fun p => if p = 0 then .win 1 else if p = 1 then .loss 0 else .draw, by decide, rfl, rfl, rfl⟩

/-! ## 1b. The retrograde generator itself

`TB/Retro.lean` is `TBGenerator::generate` (tbgen.cpp:481-612) over the interface it uses of `TBPosition` (an index
graph `IG`: number of indices, `indexValid`, `canTakeKing`, `getMoves`, `getUnMoves`, `swapSide`): the same four
phases, the same in-place table with the same cell encoding, the `newMated`/`oldMated` block flags and the
`idx += 63; continue;` skip, the adjacent-duplicate skip on the sorted move lists, the REMAINING counters.
`TB/RetroChess.lean` instantiates it with transcriptions of `getMoves` / `getUnMoves` on `TBIndex` words. -/

open TB.Retro in
/-- **retrograde_terminates.**  For every material class the generator's loop `for (n = 1; ; n++)` is left through
    `if (modified == 0) break;` (every scan that modifies something computes at least one more entry). -/
theorem retrograde_terminates (cls : Cls) : (generate (igOf cls.cc)).finished = true :=
  generate_finished (igOf_h64 cls.cc (by simp only [Cls.cc]; omega))

open TB.Retro in
/-- the same for every index graph whose size is a multiple of 64 (the flag arrays have `nPos / 64` entries) -/
theorem retrograde_terminates_abstract (G : IG) (h64 : G.nPos % 64 = 0) : (generate G).finished = true :=
  generate_finished h64

open TB.Retro in
/-- **retrograde_local_rule.**  Let `G` be an index graph satisfying the obligations `OK` — chiefly: on the legal
    indices `getUnMoves` is the converse of `getMoves` — whose generation needs at most 63 scans (so that every
    MATED_IN_k written has k ≤ 62: MATED_IN_63 would be the cell value 0, which is DRAW; the MATE_IN values then end
    at 64 + 62 = 126).  Then the generated table has `nPos` entries, holds INVALID at
    every invalid index, MATE_IN_0 at every index whose side to move can take the king, and at every legal index a
    game value that satisfies the certificate checker's local rule `Cert.expected` over the legal successor indices;
    all cells are in `-1 … 126`, i.e. the `Int` cells are the `S8` cells of the C++. -/
theorem retrograde_local_rule (G : IG) (hG : OK G) (hp : (generate G).passes ≤ 63) :
    (generate G).tab.size = G.nPos ∧
    ∀ i, i < G.nPos →
      (G.valid i = false → rd (generate G).tab i = -1) ∧
      (G.valid i = true → G.takeK i = true → rd (generate G).tab i = 64) ∧
      (legalI G i → ∃ v, decodeS (rd (generate G).tab i) = some v ∧
        v = expected (gameI G) (valT (generate G).tab) i) ∧
      (-1 ≤ rd (generate G).tab i ∧ rd (generate G).tab i ≤ 126) :=
  generate_spec hG hp

open TB.Retro in
/-- **retrograde_exact.**  Under the same hypotheses the cell of every legal index decodes to the exact distance to
    mate of the game "legal index ↦ its successor indices that are not king captures; in check = the index with the
    other side to move is a king capture". -/
theorem retrograde_exact (G : IG) (hG : OK G) (hp : (generate G).passes ≤ 63) (i : Nat) (hi : legalI G i) :
    decodeS (rd (generate G).tab i) = some (DTM (gameI G) i) :=
  generate_exact hG hp i hi

open TB.Retro in
/-- **retrograde_exact_partial.**  For a material class: if the executable check of the obligations `OK (igOf c)`
    (`okCheckCached` or `okCheckDirect`: index ranges, and *getUnMoves is the converse of getMoves on all legal
    indices* — un-captures by either king included) and the executable check `homCheck` (every legal position has a
    legal index; its legal successors are mapped onto the index's non-king-capture successors; "in check" agrees)
    evaluate to `true`, and the run needs at most 63 scans, then the bytes of the table the generator model produces
    are accepted by the certificate checker — hence (`certificate_sound_table`) hold the exact distance to mate of
    **every** legal position of the class at the index Texel's mapping assigns to it.

    Full-strength statement `retrograde_exact_chess` (not proved): the same conclusion for every class of at most four
    men without the three hypotheses.  Missing: a proof, once and for all classes, that `okCheck…` and `homCheck`
    hold (a symmetry / canonisation argument about `TBIndex`) and that no 4-man distance exceeds 62.  Instead the
    compiled driver *evaluates* the two proven-sound checks per class on every run (all 2- and 3-man classes in the
    quick tier; 4-man classes in the thorough tier) and reports the number of scans; the tie to the C++ is the
    byte-for-byte comparison of the model's table with the real `TBGenerator` table and the complete comparison of
    `getMoves` / `getUnMoves` with their transcriptions. -/
theorem retrograde_exact_partial (cls : Cls)
    (hok : okCheckCached (igOf cls.cc) = true ∨ okCheckDirect (igOf cls.cc) = true)
    (hhom : homCheck cls.cc = true) (hp : (generate (igOf cls.cc)).passes ≤ 63) :
    checkTable cls.cc cls.cc.shape (bytes (generate (igOf cls.cc)).tab) = true ∧
    ∀ p, legal cls.cc p = true →
      ∃ i, indexOf cls.cc.shape p = some i ∧ i < (bytes (generate (igOf cls.cc)).tab).size ∧
        decodeByte (readByte (bytes (generate (igOf cls.cc)).tab) i) = some (DTM (game cls.cc) p) := by
  have hs := igOf_sorted cls.cc
  have hG : OK (igOf cls.cc) := by
    rcases hok with h | h
    · exact okCheckCached_sound _ hs.1 hs.2 h
    · exact okCheckDirect_sound _ hs.1 hs.2 h
  have hn2 : 2 ≤ cls.cc.n := by simp only [Cls.cc]; omega
  have hT := retro_checkTable cls.cc hn2 hG hhom hp
  exact ⟨hT, (certificate_sound_table cls _ hT).2⟩

open TB.Retro in
/-- the obligations are exactly what the un-move generator must satisfy: a generator that drops a predecessor (here
    the toy graph without the un-move 1 ↦ 0) fails the executable check — and then the table is wrong: index 0,
    a mate in 1, is left a draw -/
theorem retrograde_needs_converse :
    okCheckDirect { toy with unmoves := fun _ => [] } = false ∧
    decodeS (rd (generate { toy with unmoves := fun _ => [] }).tab 0) = some .draw ∧
    decodeS (rd (generate toy).tab 0) = some (.win 1) := by
  have h0 : rd (generate toy).tab 0 = 65 := by
    unfold rd
    rw [Array.getD_eq_getD_getElem?, ← Array.getElem?_toList, ← List.getElem?_take_of_lt (show 0 < 5 by decide), toy_run.2]
    rfl
  rw [h0]
  exact ⟨by decide +kernel, by decide +kernel, by decide⟩

open TB.Retro in
/-- the hypotheses of `retrograde_local_rule` / `retrograde_exact` are satisfiable (toy graph: 0 → 1, 1 checkmated,
    2 stalemated), and the run gives win 1 / loss 0 / draw -/
example : OK toy ∧ (generate toy).passes ≤ 63 ∧
    (generate toy).tab.toList.take 5 = [65, 63, 0, 64, -1] :=
  ⟨okCheckDirect_sound toy (by intro i; simp only [toy]; split <;> simp) (by intro i; simp only [toy]; split <;> simp)
    (by decide), toy_run⟩

/-! ## 2. What `probeDTM` returns -/

/-- **probe_score.**  For an accepted table, `probeDTM` (model) on any legal position of the class returns a hit, and
    the score is `MATE0 - ply - 2n` for "mate in n", `-(MATE0 - ply - 2n - 1)` for "mated in n", 0 for a draw,
    `n` being the exact distance. -/
theorem probe_score (cls : Cls) (T : ByteArray)
    (h : ∀ k1, k1 ≤ 64 → ∀ k2, k2 ≤ 64 → checkUnit cls.cc cls.cc.shape T k1 k2 = true)
    (p : Pos) (hp : legal cls.cc p = true) (ply : Int) :
    probeDTM cls.cc.shape T (toBoard cls.cc.shape p) ply = some (scoreOf (DTM (game cls.cc) p) ply) := by
  obtain ⟨i, hi, _, hd⟩ := certificate_sound cls T h p hp
  have hi' : cls.cc.shape.setPosition (toBoard cls.cc.shape p) = some i := hi
  simp only [probeDTM, hi']
  exact convert_decode _ _ ply hd

/-- the conversion agrees with the search's mate scores: the search gives `-(MATE0 - (q+1))` to the side that is
    checkmated at ply `q` (search.cpp), and negates once per ply towards the root.  "Mate in n" at ply `ply` means the
    opponent is checkmated at ply `ply + 2n - 1`; "mated in n" means being checkmated at ply `ply + 2n`. -/
theorem score_convention (n : Nat) (ply : Int) :
    (1 ≤ n → scoreOf (.win n) ply = -(-(MATE0 - ((ply + 2 * n - 1) + 1)))) ∧
    scoreOf (.loss n) ply = -(MATE0 - ((ply + 2 * n) + 1)) := by
  constructor
  · intro _; simp only [scoreOf]; omega
  · simp only [scoreOf]; omega

/-- … and with the UCI `score mate` output of search.cpp (`(MATE0 - s) / 2`, resp. `-((MATE0 + s - 1) / 2)`) at the root -/
theorem uci_mate_distance (n : Nat) :
    (MATE0 - scoreOf (.win n) 0) / 2 = n ∧ -((MATE0 + scoreOf (.loss n) 0 - 1) / 2) = -(n : Int) := by
  constructor
  · simp only [scoreOf, MATE0]; omega
  · simp only [scoreOf, MATE0]; omega

/-- decoding and score conversion read the same byte ranges: whenever a byte is a game value `probeDTM` converts it
    to that value's score, and whenever it is not (MATE_IN_0 = "king can be taken", INVALID, UNINITIALIZED,
    UNKNOWN / REMAINING_n) `probeDTM` reports a miss -/
theorem convert_iff_decode (s ply : Int) :
    (∀ v, decodeS s = some v → convertS s ply = some (scoreOf v ply)) ∧ (decodeS s = none → convertS s ply = none) := by
  refine ⟨fun v h => convert_decode s v ply h, ?_⟩
  intro h
  unfold decodeS at h
  unfold convertS
  split at h
  · cases h
  · split at h
    · cases h
    · split at h
      · cases h
      · next h1 h2 h3 => simp [h1, h2, h3]

/-! ## 3. Positions outside the table's scope are reported as not found -/

/-- a position with castling rights is never answered -/
theorem out_of_scope_castle (sh : Shape) (T : ByteArray) (b : Board) (ply : Int) (h : b.castle ≠ 0) :
    probeDTM sh T b ply = none := by
  simp only [probeDTM, setPosition_castle sh b h]

/-- a position that has more men of some piece code (pawns included) than the table's class has slots for that
    code — other material, or simply more men — is never answered -/
theorem out_of_scope_material (sh : Shape) (T : ByteArray) (b : Board) (ply : Int) (c : Nat)
    (h : sh.types.count c < countCode c b.men) : probeDTM sh T b ply = none := by
  simp only [probeDTM, setPosition_material sh b c h]

/-- e.g. a KRK position probed in a KQK table, a KQKR position in a KQK table, a position with a pawn -/
example : (Cls.mk [.Q] []).cc.shape.setPosition { men := sortMen [mkMan 1 4, mkMan 7 60, mkMan 3 27], wtm := true, castle := 0 } = none := by decide
example : (Cls.mk [.Q] []).cc.shape.setPosition { men := sortMen [mkMan 1 4, mkMan 7 60, mkMan 2 27, mkMan 9 30], wtm := true, castle := 0 } = none := by decide
example : (Cls.mk [.Q] []).cc.shape.setPosition { men := sortMen [mkMan 1 4, mkMan 7 60, mkMan 6 12], wtm := true, castle := 0 } = none := by decide

/-- the index-level audit: if `checkAux` accepts the index range, then in that range every index that is not a
    canonical placement holds INVALID, every index whose side to move could take the king holds MATE_IN_0, and
    `probeDTM`'s conversion reports a miss for both -/
theorem aux_not_answered (c : CC) (sh : Shape) (T : ByteArray) (lo hi : Nat) (h : checkAux c sh T lo hi = true)
    (i : Nat) (h1 : lo ≤ i) (h2 : i < hi) (ply : Int) :
    (sh.indexValid i.toUInt64 = false → readByte T i = 0xFF ∧ convertS (s8 (readByte T i)) ply = none) ∧
    (sh.indexValid i.toUInt64 = true → canTakeKing c (posOfIndex sh i.toUInt64) = true →
        readByte T i = 64 ∧ convertS (s8 (readByte T i)) ply = none) := by
  simp only [checkAux, List.all_eq_true, List.mem_range'_1] at h
  have hi := h i ⟨h1, by omega⟩
  unfold auxAt at hi
  constructor
  · intro hv
    simp only [hv, Bool.not_false, if_true, beq_iff_eq] at hi
    refine ⟨hi, ?_⟩
    have : s8 0xFF = -1 := by decide
    rw [hi, this]; simp [convertS]
  · intro hv hc
    simp only [hv, Bool.not_true, Bool.false_eq_true, if_false, hc, if_true, beq_iff_eq] at hi
    refine ⟨hi, ?_⟩
    have : s8 64 = 64 := by decide
    rw [hi, this]; simp [convertS]

/-! ## 4. The game model is self-consistent -/

/-- a man attacks exactly the squares it could move to by the movement rules (one table of lines serves both) -/
theorem attacks_iff_reach (k : Kind) (occ : SqSet) (s t : Nat) : attacks k occ s t = (reach k occ s).contains t :=
  (reach_contains k occ s t).symm

/-- the tabulated lines are the geometric ones (rays of Q/R/B in walking order, jumps of K/N) on all 64 squares -/
theorem lines_are_geometric (k : Kind) (s : Nat) (h : s < 64) : lines k s = linesSpec k s := lines_eq k s h

/-! ## 5. An aborted generation never leaves a partial table in use -/

open TB.Abort in
/-- **abort_not_installed (repaired code).**  Whatever the state, if `updateTB` runs the generator and the generator
    aborts, then afterwards no generator is installed (`probeDTM` answers nothing), the whole table is used for
    hashing again, and `updateTB` returns false. -/
theorem abort_not_installed (st : St) (m : Mat) (g : Bool) (h : earlyHit st m g = false) :
    let r := stepFixed st (.update m .abort g)
    r.2 = false ∧ probeAnswers r.1 = false ∧ r.1.reduced = false := by
  simp [stepFixed, stepCommon, h, probeAnswers]

open TB.Abort in
/-- along every history of `updateTB` calls (finishing, aborting, refused for lack of time), unsuitable roots, hash
    stores and `clear`, the repaired code consults only a completely generated table that hash stores cannot touch -/
theorem resident_table_always_complete (evs : List Ev) :
    let st := run stepFixed {} evs
    probeAnswers st = true → st.complete = true ∧ st.reduced = true :=
  run_safe evs {} (by intro h; cases h)

open TB.Abort in
/-- **abort_not_installed_witness (code before the `fix:` commit).**  One aborted generation and the table is
    consulted although it is incomplete and open to hash stores; a second `updateTB` for the same material (whose
    probe of the root happens to hit the garbage) returns "table present" without generating anything. -/
theorem abort_not_installed_witness :
    let st1 := (stepOrig {} (.update [1,0,0,0,0,1,0,0] .abort false)).1
    probeAnswers st1 = true ∧ st1.complete = false ∧ st1.reduced = false ∧
    (stepOrig st1 (.update [1,0,0,0,0,1,0,0] .noTime true)).2 = true ∧
    (stepOrig st1 (.update [1,0,0,0,0,1,0,0] .noTime true)).1.complete = false := by decide

end Props.C12
