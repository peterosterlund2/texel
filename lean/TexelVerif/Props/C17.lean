import TexelVerif.Chess.SANRoundtrip
import TexelVerif.Chess.UCILemmas
import TexelVerif.Chess.TextIdxLemmas
import TexelVerif.Chess.FenCounters
import TexelVerif.Chess.HashIdx
import TexelVerif.Chess.PgnLemmas
import TexelVerif.Chess.PgnTreeLemmas
import TexelVerif.Chess.PgnParseLemmas
/-!
# C17 — move, position and game text formats round-trip and reject garbage safely

Models (mirrors of the C++; tied to it by `tools/checks/c17.py`):
`Chess/SAN.lean` (`moveToString`, `stringToMove`, `moveToUCIString`, `uciStringToMove` of textio.cpp),
`Chess/Fen.lean` (`readFEN`, `toFEN`), `Chess/TextIdx.lean` (the same parsers with every string index an explicit
checked access, plus `trim` and the UCI tokenizer), `Chess/Pgn.lean` (PGN scanner, parser, reader, writer),
`Chess/HashIdx.lean` (the `moveCntKeys` index of `historyHash` / `bookHash`).

`legalB p m` is the specification's legality predicate (`Chess/Spec.lean`); `none` stands for the empty `Move()`.
None of the round-trip theorems needs a well-formedness hypothesis on the position.
-/
namespace Props.C17
open Chess

/-! ## move text -/

/-- **SAN round trip.**  For every position and legal move, the short (`long = false`) and the long form written by
    `moveToString` are parsed back to that move by `stringToMove` in the same position. -/
theorem san_roundtrip (p : Pos) (m : Mv) (hm : legalB p m = true) (long : Bool) :
    stringToMove p (moveToString p m long) = some m :=
  roundtrip_L p (genLegal p) m long (genLegal_legalList p) hm

/-- the same with the legal-move list as a parameter, as in the static C++ `moveToString(pos, move, longForm, moves)`:
    any duplicate-free list that holds exactly the legal moves will do (in particular the one `MoveGen` produces,
    which C01 ties to the specification) -/
theorem san_roundtrip_list (p : Pos) (L : List Mv) (hL : ∀ m, m ∈ L ↔ legalB p m = true) (hnd : L.Nodup)
    (m : Mv) (hm : legalB p m = true) (long : Bool) :
    stringToMoveL L p (moveToStringL L p m long) = some m :=
  roundtrip_L p L m long ⟨hL, hnd⟩ hm

/-- the hypotheses of `san_roundtrip_list` are satisfiable: the specification's own list -/
example (p : Pos) : (∀ m, m ∈ genLegal p ↔ legalB p m = true) ∧ (genLegal p).Nodup :=
  ⟨(genLegal_legalList p).mem, (genLegal_legalList p).nodup⟩

/-- **No two legal moves share a text form** (short or long). -/
theorem san_injective (p : Pos) (m₁ m₂ : Mv) (h₁ : legalB p m₁ = true) (h₂ : legalB p m₂ = true) (long : Bool)
    (h : moveToString p m₁ long = moveToString p m₂ long) : m₁ = m₂ := by
  have e₁ := san_roundtrip p m₁ h₁ long
  have e₂ := san_roundtrip p m₂ h₂ long
  rw [h, e₂] at e₁
  exact (Option.some.inj e₁).symm

/-- **The matching core**: the constraint record parsed from a move's own text (`shapeOf … |>.info`) is satisfied
    by that move and by no other legal move — the disambiguation (file, else rank, else both) is sufficient. -/
theorem match_unique (p : Pos) (m : Mv) (hm : legalB p m = true) (long : Bool) :
    (genLegal p).filter (infoMatches p ((shapeOf (genLegal p) p m long).info p.wtm)) = [m] :=
  filter_matches p (genLegal p) m long (genLegal_legalList p) hm

/-- **UCI round trip** for every legal move. -/
theorem uci_roundtrip (p : Pos) (m : Mv) (hm : legalB p m = true) : uciStringToMove (moveToUCI m) = some m :=
  uci_roundtrip_of m (legal_not_empty p m hm) (legal_promoConsistent p m hm)

/-- …and for any non-empty move whose promotion piece fits its target rank (hypothesis shown satisfiable below) -/
theorem uci_roundtrip_general (m : Mv) (hne : m.isEmpty = false) (hp : PromoConsistent m) :
    uciStringToMove (moveToUCI m) = some m := uci_roundtrip_of m hne hp

example : PromoConsistent { f := sq 52, t := sq 60, promo := WQUEEN } := by
  unfold PromoConsistent; right; left; exact ⟨by decide, Or.inl rfl⟩
/-- `legalB` is satisfiable: 1.e4 in the initial position -/
example : ((readFEN startFEN).toOption.map fun p => legalB p { f := sq 12, t := sq 28, promo := 0 }) = some true := by
  rw [readFEN_start]; decide +kernel

/-! ## the parsers never index outside their input

`Chess.Idx` holds the index-level models: every `s[i]` and `s.substr(pos, n)` of the C++ is a checked access whose
failure is the outcome `.error .oob`.  These theorems say that outcome is unreachable, for every input. -/

/-- `TextIO::readFEN` (incl. `getSquare` on the two-character en-passant field, `fen[i++]` after the blank skip,
    the counter substrings) never reads outside the string -/
theorem readFEN_total (s : Array Char) : Idx.readFENIdx s ≠ .error .oob := Idx.readFENIdx_noOob s

/-- `TextIO::stringToMove`: no access fails, and the index-level loops compute exactly the list-level function the
    round-trip theorems are about -/
theorem stringToMove_total (legal : List Mv) (p : Pos) (s : Array Char) :
    Idx.stringToMoveIdx legal p s = .ok (stringToMoveL legal p s.toList) := Idx.stringToMoveIdx_eq legal p s

/-- `TextIO::uciStringToMove` (`substr(0,2)`, `substr(2,2)`, `move[4]`, `getSquare`): likewise -/
theorem uciStringToMove_total (s : Array Char) :
    Idx.uciStringToMoveIdx s = .ok (uciStringToMove s.toList) := Idx.uciStringToMoveIdx_eq s

/-- `trim` + `UCIProtocol::tokenize` never read outside the command line -/
theorem tokenize_total (line : Array Char) : Idx.tokenize line ≠ .error .oob := Idx.tokenize_noOob line

/-- **parsers_total**: the four statements together -/
theorem parsers_total (s : Array Char) (legal : List Mv) (p : Pos) :
    Idx.readFENIdx s ≠ .error .oob ∧
    Idx.stringToMoveIdx legal p s ≠ .error .oob ∧
    Idx.uciStringToMoveIdx s ≠ .error .oob ∧
    Idx.tokenize s ≠ .error .oob := by
  refine ⟨readFEN_total s, ?_, ?_, tokenize_total s⟩
  · rw [stringToMove_total]; intro h; cases h
  · rw [uciStringToMove_total]; intro h; cases h

/-! ## the FEN counters (the genuine defect found by this check, and its repair) -/

/-- **witness for the reader before the repair**: the half-move clock of `… w - - -5 1` was stored as read, and
    `bookHash()` / `historyHash()` then index `moveCntKeys[101]` at -5 -/
theorem negative_clock_witness :
    counterOfWordOld "-5".toList 0 = -5 ∧ bookIdx (counterOfWordOld "-5".toList 0) = -5 ∧
    histIdx true (counterOfWordOld "-5".toList 0) = some (-5) := by decide

/-- a clock near `INT_MAX` was accepted too; the next quiet move's `halfMoveClock++` overflows `int` -/
theorem huge_clock_witness : counterOfWordOld "2147483647".toList 0 + 1 > 2147483647 := by decide

/-- **the repaired reader**: both counters of every accepted FEN are in `0 … 65535` -/
theorem readFEN_counters_in_range (s : String) (r : RawPos) (h : readFENRaw s = .ok r) :
    0 ≤ r.hmc ∧ r.hmc ≤ 65535 ∧ 0 ≤ r.fmc ∧ r.fmc ≤ 65535 := readFENRaw_counters s r h

/-- the hypothesis is satisfiable: the initial position is accepted -/
example : (readFENRaw startFEN).toOption.isSome = true := by
  rw [← toFEN_start, readFENRaw_toFEN_general _ WFfen_start.toPre]; rfl

/-- hence the table index used by `bookHash` and `historyHash` is within `moveCntKeys[0 … 100]` for the position read,
    and stays so (and below `INT_MAX`) after any `k ≤ 2·10⁹` further increments of the clock -/
theorem hash_index_in_range (s : String) (r : RawPos) (h : readFENRaw s = .ok r) (k : Nat) (hk : k ≤ 2000000000) (tb : Bool) :
    0 ≤ bookIdx (r.hmc + k) ∧ bookIdx (r.hmc + k) ≤ 100 ∧
    (∀ i, histIdx tb (r.hmc + k) = some i → 0 ≤ i ∧ i ≤ 100) ∧ r.hmc + k < 2147483648 := by
  obtain ⟨h1, h2, _, _⟩ := readFENRaw_counters s r h
  refine ⟨by unfold bookIdx; omega, by unfold bookIdx; omega, ?_, by omega⟩
  intro i hi
  unfold histIdx at hi
  repeat' split at hi
  all_goals first | (cases hi; omega) | cases hi

/-! ## PGN scanner -/

/-- the stream the scanner reads is the input without `%`-escape lines plus one synthetic line end; every token
    function is structurally recursive on it, so **the scanner terminates on every input**, and each call consumes
    at least one character unless it reports END with nothing left (also inside an unterminated comment or string) -/
theorem pgn_scanner_progress (cs : List Char) :
    ((Pgn.nextTok cs).1.ty = .eof ∧ (Pgn.nextTok cs).2 = []) ∨ (Pgn.nextTok cs).2.length < cs.length :=
  Pgn.nextTok_progress cs

/-- a SYMBOL token is never empty: `tok.token[tok.token.length() - 1]` in `Node::parsePgn` is in range -/
theorem pgn_symbol_nonempty (cs : List Char) (h : (Pgn.nextTok cs).1.ty = .symbol) : (Pgn.nextTok cs).1.s ≠ [] :=
  Pgn.nextTok_symbol_nonempty cs h

/-- **the PGN reader never fails a checked access**: for every byte string, reading all its games (scanner, tag
    section, `Node::parsePgn` with its recursion into variations, the `!`/`?` suffix handling) never produces `.oob` —
    `st.arena[node]` (the `shared_ptr` dereferences), `tok.token[tok.token.length()-1]` and `tok.token[movLen-1]` are
    always in range.  Invariants carried through the recursion: parent indices point into the arena, and no empty SYMBOL
    is ever on the put-back stack.  (The explicit recursion fuel of the parser model is *not* proved sufficient.) -/
theorem pgn_reader_total (s : List Char) (n : Nat) :
    (Pgn.readAll n { cs := Pgn.tokenChars s } []).2 ≠ some .oob :=
  Pgn.readAll_noOob n _ [] (fun t ht => by cases ht)

/-- **PGN round trip on the token level** (`Chess/PgnTree.lean`: the writer `getGameTreeString` with each move text as
    one SYMBOL token, and the recursion of `Node::parsePgn` on SYMBOL / `(` / `)` streams): parsing what the writer
    writes for any forest of variations returns exactly that forest and consumes everything.  Together with
    `san_roundtrip` (each symbol is read back as the move it was written for) this is the tree round trip up to the
    character-level scanning of the written text and the correspondence of `parseLine` with the arena parser of
    `Chess/Pgn.lean`, both of which are covered by the differential (and the driver's run-time cross-check) only. -/
theorem pgn_roundtrip_tokens {α : Type} (ks : List (PgnTree.Tree α)) (f : Nat) (hf : (PgnTree.writeKids ks).length < f) :
    PgnTree.parseLine f (PgnTree.writeKids ks) = (ks, []) := PgnTree.parse_write ks f hf

end Props.C17
