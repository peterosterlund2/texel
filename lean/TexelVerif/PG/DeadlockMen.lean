import TexelVerif.PG.Deadlock
/-!
# When no man can be lost any more, every legal line is capture-free

`computeDeadlockedPieces` returns at once when the position has more men than the goal ("captures can break a
deadlock").  Otherwise the position and the goal have the same number of men, and since a move never adds a man and a
capture removes one, **no** legal line from the position to the goal contains a capture.  This file proves that, so the
soundness theorem of `PG/Deadlock.lean` can be stated for all legal lines between positions with equally many men
instead of for lines assumed capture-free.  Last section: castling rights are never regained, and while a right survives
nothing moves from or to its king and rook squares (the castling part of `computeBlocked`).
-/
namespace PG
open Chess Chess.Texel

theorem fixupEP_epPawn (p : Pos) (h : EpPawn p) : EpPawn (fixupEP p) := by
  unfold fixupEP
  split
  · exact h
  · split
    · exact h
    · intro e he; cases he

/-- the captured man of a capturing move belongs to the opponent -/
theorem captured_enemy (p : Pos) (m : Mv) (hv : ValidB p.b) (h : pseudo p m = true) (hep : EpPawn p)
    (hc : isCaptureMv p m = true) : own (!p.wtm) (capturedPc p m) = true := by
  unfold capturedPc
  cases he : isEpMv p m
  · simp only [Bool.false_eq_true, if_false]
    have hne : p.at m.t ≠ 0 := by
      intro h0
      unfold isCaptureMv at hc
      unfold isEpMv at he
      rw [h0] at hc he
      simp only [bne_self_eq_false, Bool.false_or, Bool.not_false, Bool.and_true] at hc he
      rw [hc] at he; cases he
    exact enemy_code _ _ (hv m.t) hne (pseudo_basic p m h).2.1
  · simp only [if_true]
    unfold isEpMv at he
    simp only [Bool.and_eq_true, beq_iff_eq] at he
    unfold epVictimSq
    rw [hep m.t he.1.1.2]
    cases p.wtm <;> decide

def total (b : Board) : Nat := men true b + men false b

theorem total_step (p : Pos) (m : Mv) (hv : ValidB p.b) (h : pseudo p m = true) (hep : EpPawn p) :
    total (apply p m).b + (if isCaptureMv p m then 1 else 0) = total p.b := by
  obtain ⟨m1, m2⟩ := apply_men p m h hep.epOK
  unfold total
  cases hc : isCaptureMv p m
  · have : own (!p.wtm) (capturedPc p m) = false := by
      unfold capturedPc
      have hne := noncapture_facts p m hc
      rw [isEpMv_false p m hc]
      simp only [Bool.false_eq_true, if_false]
      unfold Pos.at
      rw [hne.1]; cases p.wtm <;> decide
    rw [this] at m2
    cases hw : p.wtm <;> rw [hw] at m1 m2 <;> simp only [Bool.not_true, Bool.not_false, Bool.false_eq_true, if_false] at m1 m2 ⊢ <;> omega
  · rw [captured_enemy p m hv h hep hc] at m2
    cases hw : p.wtm <;> rw [hw] at m1 m2 <;> simp only [Bool.not_true, Bool.not_false, if_true] at m1 m2 ⊢ <;> omega

theorem playable_total_le (p g : Pos) (ms : List Mv) (h : Playable p ms g) (hv : ValidB p.b) (hep : EpPawn p) :
    total g.b ≤ total p.b := by
  induction h with
  | nil p => exact Nat.le_refl _
  | cons p m ms q hl _ ih =>
    have hps := legalB_pseudo p m hl
    have := ih (by rw [fixupEP_b]; exact validB_apply p hv m hps) (fixupEP_epPawn _ (apply_epPawn p m hps))
    rw [fixupEP_b] at this
    have := total_step p m hv hps hep
    omega

/-- a line of legal moves during which the `B` squares keep their contents (no assumption about captures) -/
inductive BlockedLine (B : Sq → Bool) : Pos → List Mv → Pos → Prop
  | nil (p) : BlockedLine B p [] p
  | cons (p m ms q) : legalB p m = true → (∃ k, KingAt p.b p.wtm k) →
      (∀ s, B s = true → (apply p m).b[s] = p.b[s]) → BlockedLine B (fixupEP (apply p m)) ms q → BlockedLine B p (m :: ms) q

theorem BlockedLine.playable {B : Sq → Bool} {p q : Pos} {ms : List Mv} (h : BlockedLine B p ms q) : Playable p ms q := by
  induction h with
  | nil p => exact .nil p
  | cons p m ms q hl _ _ _ ih => exact .cons p m ms q hl ih

/-- **with equally many men at both ends no move of the line is a capture** -/
theorem quiet_of_equal_men (B : Sq → Bool) (p g : Pos) (ms : List Mv) (h : BlockedLine B p ms g) (hv : ValidB p.b)
    (hep : EpPawn p) (hmen : total p.b ≤ total g.b) : QuietLine B p ms g := by
  induction h with
  | nil p => exact .nil p
  | cons p m ms q hl hk hB hrest ih =>
    have hps := legalB_pseudo p m hl
    have hv' : ValidB (fixupEP (apply p m)).b := by rw [fixupEP_b]; exact validB_apply p hv m hps
    have hep' := fixupEP_epPawn _ (apply_epPawn p m hps)
    have hle := playable_total_le _ _ _ hrest.playable hv' hep'
    rw [fixupEP_b] at hle
    have hst := total_step p m hv hps hep
    have hq : isCaptureMv p m = false := by
      cases hc : isCaptureMv p m with
      | false => rfl
      | true => rw [hc] at hst; simp only [if_true] at hst; omega
    rw [hq] at hst
    simp only [Bool.false_eq_true, if_false, Nat.add_zero] at hst
    exact .cons p m ms q hl hq hk hB (ih hv' hep' (by rw [fixupEP_b]; omega))

/-- the two well-formedness facts used above hold in every position of every legal game -/
theorem playable_wf (p q : Pos) (ms : List Mv) (h : Playable p ms q) (hv : ValidB p.b) (hep : EpPawn p) :
    ValidB q.b ∧ EpPawn q := by
  induction h with
  | nil p => exact ⟨hv, hep⟩
  | cons p m ms q hl _ ih =>
    have hps := legalB_pseudo p m hl
    exact ih (by rw [fixupEP_b]; exact validB_apply p hv m hps) (fixupEP_epPawn _ (apply_epPawn p m hps))

theorem startPos_wf : ValidB startPos.b ∧ EpPawn startPos := by
  refine ⟨by unfold ValidB; decide +kernel, ?_⟩
  intro e he
  have : startPos.ep = none := rfl
  rw [this] at he; cases he

/-! ## castling rights (the test `cMask & ~pos.getCastleMask()` of `computeBlocked`) -/

theorem and_bit_mono (x k1 k2 bit : UInt8) (h : x &&& bit = 0) : (x &&& k1 &&& k2) &&& bit = 0 := by
  have : (x &&& k1 &&& k2) &&& bit = (x &&& bit) &&& (k1 &&& k2) := by
    rw [UInt8.and_assoc, UInt8.and_assoc, UInt8.and_assoc]
    congr 1
    rw [← UInt8.and_assoc, UInt8.and_comm]
  rw [this, h, UInt8.zero_and]

theorem castle_monotone (p g : Pos) (ms : List Mv) (h : Playable p ms g) (bit : UInt8) (hb : p.castle &&& bit = 0) :
    g.castle &&& bit = 0 := by
  induction h with
  | nil p => exact hb
  | cons p m ms q _ _ ih =>
    apply ih
    have : (fixupEP (apply p m)).castle = p.castle &&& castleKeep m.f &&& castleKeep m.t := by
      unfold fixupEP
      split
      · rfl
      · split <;> rfl
    rw [this]
    exact and_bit_mono _ _ _ _ hb

theorem and_kill1 (x k1 k2 bit : UInt8) (h : k1 &&& bit = 0) : (x &&& k1 &&& k2) &&& bit = 0 := by
  have : (x &&& k1 &&& k2) &&& bit = (k1 &&& bit) &&& (x &&& k2) := by
    rw [UInt8.and_comm x k1, UInt8.and_assoc, UInt8.and_assoc, UInt8.and_assoc]
    congr 1
    rw [← UInt8.and_assoc, UInt8.and_comm]
  rw [this, h, UInt8.zero_and]

theorem and_kill2 (x k1 k2 bit : UInt8) (h : k2 &&& bit = 0) : (x &&& k1 &&& k2) &&& bit = 0 := by
  rw [UInt8.and_assoc (x &&& k1), h, UInt8.and_zero]

/-- while a castling right survives to the end of a line, no move of the line starts from or ends on a square that
    cancels it (the king's and the rook's home squares) -/
theorem castle_squares_untouched (p g : Pos) (ms : List Mv) (h : Playable p ms g) (bit : UInt8) (s : Sq)
    (hs : castleKeep s &&& bit = 0) (hg : g.castle &&& bit ≠ 0) : ∀ m ∈ ms, m.f ≠ s ∧ m.t ≠ s := by
  induction h with
  | nil p => intro m hm; cases hm
  | cons p m ms q _ hrest ih =>
    intro m' hm'
    rcases List.mem_cons.1 hm' with rfl | hm'
    · have hc : (fixupEP (apply p m')).castle = p.castle &&& castleKeep m'.f &&& castleKeep m'.t := by rw [fixupEP_castle]; rfl
      constructor
      · intro e
        apply hg
        apply castle_monotone _ _ _ hrest bit
        rw [hc]; exact and_kill1 _ _ _ _ (by rw [e]; exact hs)
      · intro e
        apply hg
        apply castle_monotone _ _ _ hrest bit
        rw [hc]; exact and_kill2 _ _ _ _ (by rw [e]; exact hs)
    · exact ih hg m' hm'

end PG
