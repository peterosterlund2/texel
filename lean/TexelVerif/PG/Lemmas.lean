import TexelVerif.PG.Model
import TexelVerif.Chess.SpecEquations
/-!
# Lemmas for C16: the count transition of `Chess.apply` and what follows from it

`apply_countP` is the one place where the board manipulation of `Chess.apply` (five `setSq`s: en-passant victim,
from-square, to-square, castling rook from/to) is analysed, for an arbitrary property of piece codes; the count of one
code (`apply_counts`) and the men of one colour (`apply_men`) are instances, everything else is arithmetic.
-/
namespace PG
open Chess

theorem setIfInBounds_eq_set {α} {k} (xs : Vector α k) (n : Nat) (h : n < k) (v : α) :
    xs.setIfInBounds n v = xs.set n v h := by
  apply Vector.ext
  intro i hi
  simp [Vector.getElem_setIfInBounds, Vector.getElem_set]

def ind (x a : Pc) : Nat := if x = a then 1 else 0
theorem ind_zero (a : Pc) (h : a ≠ 0) : ind 0 a = 0 := by unfold ind; rw [if_neg (Ne.symm h)]

def bi (q : Pc → Bool) (x : Pc) : Nat := if q x then 1 else 0

theorem ind_eq_bi (x a : Pc) : ind x a = bi (· == a) x := by
  unfold ind bi
  simp only [beq_iff_eq]

theorem countP_setSq (b : Board) (n : Nat) (h : n < 64) (v : Pc) (q : Pc → Bool) :
    (setSq b n v).countP q + bi q b[n] = b.countP q + bi q v := by
  unfold setSq bi
  rw [setIfInBounds_eq_set _ _ h, Vector.countP_set h]
  have := Vector.boole_getElem_le_countP (p := q) (xs := b) h
  omega

theorem pseudo_pawn (p : Pos) (m : Mv) (h : pseudo p m = true) (hk : kind (p.at m.f) = 6) :
    promoOk p.wtm m = true ∧
    ((dxy m.f m.t).2 = (if p.wtm then 1 else -1) ∨
     ((dxy m.f m.t).2 = 2 * (if p.wtm then 1 else -1) ∧ m.f.y = (if p.wtm then 1 else 6))) := by
  obtain ⟨hpo, hp⟩ := Chess.pseudo_pawn p m h hk
  exact ⟨hpo, hp.elim (fun h1 => Or.inl h1.2.1) fun h1 => h1.elim (fun h2 => Or.inr ⟨h2.2.1, h2.2.2.1⟩) fun h3 => Or.inl h3.2.1⟩

def isEpMv (p : Pos) (m : Mv) : Bool :=
  kind (p.at m.f) == 6 && p.ep == some m.t && !(p.at m.t != 0) && m.f.x != m.t.x
def epVictimSq (p : Pos) (m : Mv) : Nat := if p.wtm then m.t.val - 8 else m.t.val + 8
def newPc (p : Pos) (m : Mv) : Pc := if m.promo != 0 then m.promo else p.at m.f
def rookOf (w : Bool) : Pc := if w then WROOK else BROOK
/-- `movedB` in the words of this file -/
theorem movedB_eq (p : Pos) (m : Mv) : movedB p m =
    setSq (setSq (if isEpMv p m then setSq p.b (epVictimSq p m) 0 else p.b) m.f.val 0) m.t.val (newPc p m) := rfl

theorem setSq_get_ne (b : Board) (n j : Nat) (hj : j < 64) (v : Pc) (h : n ≠ j) : (setSq b n v)[j] = b[j] := by
  unfold setSq; rw [Vector.getElem_setIfInBounds hj, if_neg h]

theorem getD_eq (b : Board) (n : Nat) (h : n < 64) : b.getD n 0 = b[n] := by
  simp [Vector.getD, h]

def capturedPc (p : Pos) (m : Mv) : Pc := if isEpMv p m then p.b.getD (epVictimSq p m) 0 else p.at m.t

theorem ep_sq_facts (p : Pos) (m : Mv) (h : pseudo p m = true) (he : isEpMv p m = true) :
    epVictimSq p m < 64 ∧ epVictimSq p m ≠ m.f.val ∧ epVictimSq p m ≠ m.t.val ∧ p.at m.t = 0 := by
  unfold isEpMv at he
  simp only [Bool.and_eq_true, beq_iff_eq, bne_iff_ne, ne_eq, Bool.not_eq_eq_eq_not, Bool.not_true, bne_eq_false_iff_eq] at he
  obtain ⟨⟨⟨hk, _⟩, htg⟩, hx⟩ := he
  have hp := (pseudo_pawn p m h hk).2
  unfold epVictimSq
  unfold dxy at hp
  simp only [Sq.x, Sq.y] at hp hx
  have hf := m.f.isLt
  have ht := m.t.isLt
  refine ⟨?_, ?_, ?_, htg⟩
  · cases hw : p.wtm <;> simp only [hw, if_true, if_false, Bool.false_eq_true] at hp ⊢ <;> omega
  · cases hw : p.wtm <;> simp only [hw, if_true, if_false, Bool.false_eq_true] at hp ⊢ <;> omega
  · cases hw : p.wtm <;> simp only [hw, if_true, if_false, Bool.false_eq_true] at hp ⊢ <;> omega

theorem countP_move (b : Board) (f t : Nat) (hf : f < 64) (ht : t < 64) (hft : f ≠ t) (v : Pc) (q : Pc → Bool)
    (h0 : q 0 = false) :
    (setSq (setSq b f 0) t v).countP q + bi q b[t] + bi q b[f] = b.countP q + bi q v := by
  have e1 := countP_setSq b f hf 0 q
  have e2 := countP_setSq (setSq b f 0) t ht v q
  rw [setSq_get_ne _ _ _ ht _ hft] at e2
  have z : bi q 0 = 0 := by unfold bi; rw [h0]; rfl
  omega

theorem movedB_countP (p : Pos) (m : Mv) (h : pseudo p m = true) (q : Pc → Bool) (h0 : q 0 = false) :
    (movedB p m).countP q + bi q (capturedPc p m) + bi q (p.at m.f) = p.b.countP q + bi q (newPc p m) := by
  obtain ⟨_, _, hft⟩ := pseudo_basic p m h
  have hftv : m.f.val ≠ m.t.val := fun e => hft (Fin.ext e)
  have hf := m.f.isLt
  have ht := m.t.isLt
  rw [movedB_eq]
  unfold capturedPc
  cases he : isEpMv p m
  · rw [if_neg Bool.false_ne_true, if_neg Bool.false_ne_true]
    exact countP_move p.b m.f.val m.t.val hf ht hftv _ q h0
  · rw [if_pos rfl, if_pos rfl]
    obtain ⟨hb, hef, het, htg⟩ := ep_sq_facts p m h he
    have e0 := countP_setSq p.b _ hb 0 q
    have e1 := countP_move (setSq p.b (epVictimSq p m) 0) m.f.val m.t.val hf ht hftv (newPc p m) q h0
    rw [setSq_get_ne _ _ _ ht _ het, setSq_get_ne _ _ _ hf _ hef, show p.b[m.t.val] = 0 from htg] at e1
    rw [getD_eq _ _ hb]
    have z : bi q 0 = 0 := by unfold bi; rw [h0]; rfl
    have h1 : p.at m.f = p.b[m.f.val] := rfl
    rw [h1]
    omega

theorem isEpMv_false_of_kind (p : Pos) (m : Mv) (hk : kind (p.at m.f) ≠ 6) : isEpMv p m = false := by
  unfold isEpMv
  have : (kind (p.at m.f) == 6) = false := by simpa using hk
  rw [this]; rfl

theorem movedB_get_other (p : Pos) (m : Mv) (he : isEpMv p m = false) (j : Nat) (hj : j < 64)
    (h1 : m.f.val ≠ j) (h2 : m.t.val ≠ j) : (movedB p m)[j] = p.b[j] := by
  rw [movedB_eq]
  rw [he]
  simp only [Bool.false_eq_true, if_false]
  rw [setSq_get_ne _ _ _ hj _ h2, setSq_get_ne _ _ _ hj _ h1]

theorem castle_short_facts (p : Pos) (m : Mv) (h : pseudo p m = true) (hk : kind (p.at m.f) = 1) (ht : m.t.val = m.f.val + 2) :
    m.f.val + 3 < 64 ∧ p.b.getD (m.f.val + 1) 0 = 0 ∧ p.b.getD (m.f.val + 3) 0 = rookOf p.wtm := by
  obtain ⟨_, hc⟩ := pseudo_king p m h hk
  have hf := m.f.isLt
  have htl := m.t.isLt
  unfold dxy at hc
  simp only [Sq.x, Sq.y] at hc
  rcases hc with hc | hc | hc
  · omega
  · obtain ⟨_, _, hhome, hco⟩ := hc
    have := castleOk_short p hco
    rw [← hhome] at this
    refine ⟨?_, this.2.1, this.2.2.2⟩
    cases hw : p.wtm <;> simp only [hw, if_true, if_false, Bool.false_eq_true] at hhome <;> omega
  · omega

theorem castle_long_facts (p : Pos) (m : Mv) (h : pseudo p m = true) (hk : kind (p.at m.f) = 1) (ht : m.t.val + 2 = m.f.val) :
    4 ≤ m.f.val ∧ p.b.getD (m.f.val - 1) 0 = 0 ∧ p.b.getD (m.f.val - 4) 0 = rookOf p.wtm := by
  obtain ⟨_, hc⟩ := pseudo_king p m h hk
  have hf := m.f.isLt
  have htl := m.t.isLt
  unfold dxy at hc
  simp only [Sq.x, Sq.y] at hc
  rcases hc with hc | hc | hc
  · omega
  · omega
  · obtain ⟨_, _, hhome, hco⟩ := hc
    have := castleOk_long p hco
    rw [← hhome] at this
    refine ⟨?_, this.2.1, this.2.2.2.2⟩
    cases hw : p.wtm <;> simp only [hw, if_true, if_false, Bool.false_eq_true] at hhome <;> omega

theorem countP_rook (s : Board) (r r' : Nat) (hr : r < 64) (hr' : r' < 64) (hne : r ≠ r') (rook : Pc) (h1 : s[r] = rook)
    (h2 : s[r'] = 0) (q : Pc → Bool) (h0 : q 0 = false) : (setSq (setSq s r 0) r' rook).countP q = s.countP q := by
  have e := countP_move s r r' hr hr' hne rook q h0
  rw [h1, h2] at e
  have z : bi q 0 = 0 := by unfold bi; rw [h0]; rfl
  omega

/-- **transition of one move for any property `q` of piece codes** (false of the empty code); the piece that lands is
    the moving piece itself or the promotion piece -/
theorem apply_countP (p : Pos) (m : Mv) (h : pseudo p m = true) (q : Pc → Bool) (h0 : q 0 = false) :
    (apply p m).b.countP q + bi q (capturedPc p m) + bi q (p.at m.f) = p.b.countP q + bi q (newPc p m) := by
  have hf := m.f.isLt
  have htl := m.t.isLt
  by_cases hk : kind (p.at m.f) = 1
  · rw [apply_b, ← movedB_countP p m h q h0]
    unfold applyB
    have he := isEpMv_false_of_kind p m (by rw [hk]; decide)
    by_cases hs : m.t.val = m.f.val + 2
    · have c1 : (kind (p.at m.f) == 1 && m.t.val == m.f.val + 2) = true := by simp [hk, hs]
      rw [if_pos c1]
      obtain ⟨hb, h1, h3⟩ := castle_short_facts p m h hk hs
      rw [getD_eq _ _ (by omega)] at h1 h3
      rw [countP_rook (movedB p m) _ _ hb (by omega) (by omega) _
        (by rw [movedB_get_other p m he _ hb (by omega) (by omega), h3]; rfl)
        (by rw [movedB_get_other p m he _ (by omega) (by omega) (by omega), h1]) q h0]
    · have c1 : (kind (p.at m.f) == 1 && m.t.val == m.f.val + 2) = false := by simp [hs]
      rw [c1, if_neg Bool.false_ne_true]
      by_cases hl : m.t.val + 2 = m.f.val
      · have c2 : (kind (p.at m.f) == 1 && m.t.val + 2 == m.f.val) = true := by simp [hk, hl]
        rw [if_pos c2]
        obtain ⟨hb, h1, h4⟩ := castle_long_facts p m h hk hl
        rw [getD_eq _ _ (by omega)] at h1 h4
        rw [countP_rook (movedB p m) _ _ (by omega) (by omega) (by omega) _
          (by rw [movedB_get_other p m he _ (by omega) (by omega) (by omega), h4]; rfl)
          (by rw [movedB_get_other p m he _ (by omega) (by omega) (by omega), h1]) q h0]
      · have c2 : (kind (p.at m.f) == 1 && m.t.val + 2 == m.f.val) = false := by simp [hl]
        rw [c2, if_neg Bool.false_ne_true]
  · rw [apply_b, applyB_noncastle p m hk]
    exact movedB_countP p m h q h0

/-- **count transition of one move**: `apply_countP` for "is the piece code `a`" -/
theorem apply_counts (p : Pos) (m : Mv) (h : pseudo p m = true) (a : Pc) (ha : a ≠ 0) :
    cnt (apply p m).b a + ind (capturedPc p m) a + ind (p.at m.f) a = cnt p.b a + ind (newPc p m) a := by
  rw [ind_eq_bi, ind_eq_bi, ind_eq_bi]
  exact apply_countP p m h (· == a) (beq_false_of_ne (Ne.symm ha))

def pawnOf (w : Bool) : Pc := if w then WPAWN else BPAWN

/-- code of kind `k` (2 Q … 6 P) in colour `s` -/
def code (s : Bool) (k : Pc) : Pc := if s then k else k + 6

theorem code_ne_zero (s : Bool) : ∀ k ∈ [2, 3, 4, 5, 6], code s k ≠ 0 := by cases s <;> decide

/-- **one move on the counts of colour `s`**: every count can only fall, except that a promotion (`d…` = 1 for the
    kind promoted to) turns one pawn into one officer -/
def SideStep (c c' : Pc → Nat) (s : Bool) : Prop :=
  ∃ dn db dr dq : Nat, c' (code s 6) + (dn + db + dr + dq) ≤ c (code s 6) ∧ c' (code s 5) ≤ c (code s 5) + dn ∧
    c' (code s 4) ≤ c (code s 4) + db ∧ c' (code s 3) ≤ c (code s 3) + dr ∧ c' (code s 2) ≤ c (code s 2) + dq

theorem promo_ind (w s : Bool) : ∀ pr ∈ promos w, pr ≠ 0 → ind pr (code s 6) = 0 ∧
    ind pr (code s 5) + ind pr (code s 4) + ind pr (code s 3) + ind pr (code s 2) = ind (pawnOf w) (code s 6) := by
  cases w <;> cases s <;> decide

theorem apply_side (p : Pos) (m : Mv) (h : pseudo p m = true) (s : Bool) : SideStep (cnt p.b) (cnt (apply p m).b) s := by
  have E := fun k hk => apply_counts p m h (code s k) (code_ne_zero s k hk)
  have e6 := E 6 (by decide); have e5 := E 5 (by decide); have e4 := E 4 (by decide)
  have e3 := E 3 (by decide); have e2 := E 2 (by decide)
  unfold newPc at e6 e5 e4 e3 e2
  by_cases hp : m.promo = 0
  · have : (m.promo != 0) = false := by rw [hp]; rfl
    rw [this, if_neg Bool.false_ne_true] at e6 e5 e4 e3 e2
    exact ⟨0, 0, 0, 0, by omega, by omega, by omega, by omega, by omega⟩
  · have : (m.promo != 0) = true := bne_iff_ne.2 hp
    rw [this, if_pos rfl, show p.at m.f = pawnOf p.wtm from pseudo_promo_pawn p m h hp] at e6 e5 e4 e3 e2
    obtain ⟨z, hsum⟩ := promo_ind p.wtm s m.promo (pseudo_promo p m h) hp
    exact ⟨ind m.promo (code s 5), ind m.promo (code s 4), ind m.promo (code s 3), ind m.promo (code s 2),
      by omega, by omega, by omega, by omega, by omega⟩

theorem valid_iff (c : Pc → Int) : validatePieceCounts c = .ok ↔
    ∀ s, c (code s 6) ≤ maxPawns (c (code s 5)) (c (code s 4)) (c (code s 3)) (c (code s 2)) := by
  have hb : (∀ s, c (code s 6) ≤ maxPawns (c (code s 5)) (c (code s 4)) (c (code s 3)) (c (code s 2))) ↔
      (c WPAWN ≤ maxPawns (c WKNIGHT) (c WBISHOP) (c WROOK) (c WQUEEN) ∧
       c BPAWN ≤ maxPawns (c BKNIGHT) (c BBISHOP) (c BROOK) (c BQUEEN)) :=
    ⟨fun h => ⟨h true, h false⟩, fun h s => by cases s; exact h.2; exact h.1⟩
  rw [hb]
  unfold validatePieceCounts
  split
  · exact ⟨nofun, fun h => by omega⟩
  · split
    · exact ⟨nofun, fun h => by omega⟩
    · exact ⟨fun _ => by omega, fun _ => rfl⟩

theorem pos_part_step (x x' d k : Int) (hd : 0 ≤ d) (h : x' ≤ x + d) : max 0 (x' - k) ≤ max 0 (x - k) + d := by omega

theorem valid_step (c c' : Pc → Nat) (hs : ∀ s, SideStep c c' s)
    (hv : validatePieceCounts (fun a => (c a : Int)) = .ok) : validatePieceCounts (fun a => (c' a : Int)) = .ok := by
  rw [valid_iff] at hv ⊢
  intro s
  obtain ⟨dn, db, dr, dq, hp, hn, hb, hr, hq⟩ := hs s
  have h := hv s
  unfold maxPawns at h ⊢
  have e1 := pos_part_step (c (code s 5)) (c' (code s 5)) dn 2 (by omega) (by omega)
  have e2 := pos_part_step (c (code s 4)) (c' (code s 4)) db 2 (by omega) (by omega)
  have e3 := pos_part_step (c (code s 3)) (c' (code s 3)) dr 2 (by omega) (by omega)
  have e4 := pos_part_step (c (code s 2)) (c' (code s 2)) dq 1 (by omega) (by omega)
  omega

theorem guard_iff (x : Int) (b : Bool) : (if x < 0 then false else b) = true ↔ 0 ≤ x ∧ b = true := by
  split
  · exact ⟨nofun, fun h => by omega⟩
  · exact ⟨fun h => ⟨by omega, h⟩, fun h => h.2⟩

/-- the early returns of `enoughSide` only ever see a value that is at least the last one -/
theorem enoughSide_iff (cp cq cr cb cn gp gq gr gb gn : Int) :
    enoughSide cp cq cr cb cn gp gq gr gb gn = true ↔
      0 ≤ cp - gp - max 0 (gq - cq) - max 0 (gr - cr) - max 0 (gb - cb) - max 0 (gn - cn) := by
  unfold enoughSide
  simp only [guard_iff, and_true]
  have m1 := Int.le_max_left 0 (gq - cq)
  have m2 := Int.le_max_left 0 (gr - cr)
  have m3 := Int.le_max_left 0 (gb - cb)
  have m4 := Int.le_max_left 0 (gn - cn)
  generalize max 0 (gq - cq) = a1 at *
  generalize max 0 (gr - cr) = a2 at *
  generalize max 0 (gb - cb) = a3 at *
  generalize max 0 (gn - cn) = a4 at *
  omega

theorem enough_iff (c g : Pc → Int) : enoughRemainingPieces c g = true ↔
    ∀ s, enoughSide (c (code s 6)) (c (code s 2)) (c (code s 3)) (c (code s 4)) (c (code s 5))
      (g (code s 6)) (g (code s 2)) (g (code s 3)) (g (code s 4)) (g (code s 5)) = true := by
  unfold enoughRemainingPieces
  rw [Bool.and_eq_true]
  exact ⟨fun h s => by cases s; exact h.2; exact h.1, fun h => ⟨h true, h false⟩⟩

theorem miss_part_step (x x' d g : Int) (hd : 0 ≤ d) (h : x' ≤ x + d) : max 0 (g - x) ≤ max 0 (g - x') + d := by omega

theorem enough_step (c c' : Pc → Nat) (g : Pc → Int) (hs : ∀ s, SideStep c c' s)
    (he : enoughRemainingPieces (fun a => (c' a : Int)) g = true) : enoughRemainingPieces (fun a => (c a : Int)) g = true := by
  rw [enough_iff] at he ⊢
  intro s
  obtain ⟨dn, db, dr, dq, hp, hn, hb, hr, hq⟩ := hs s
  have h := he s
  rw [enoughSide_iff] at h ⊢
  have e1 := miss_part_step (c (code s 2)) (c' (code s 2)) dq (g (code s 2)) (by omega) (by omega)
  have e2 := miss_part_step (c (code s 3)) (c' (code s 3)) dr (g (code s 3)) (by omega) (by omega)
  have e3 := miss_part_step (c (code s 4)) (c' (code s 4)) db (g (code s 4)) (by omega) (by omega)
  have e4 := miss_part_step (c (code s 5)) (c' (code s 5)) dn (g (code s 5)) (by omega) (by omega)
  omega

theorem enough_refl (c : Pc → Int) : enoughRemainingPieces c c = true := by
  rw [enough_iff]
  intro s
  rw [enoughSide_iff]
  omega


theorem playable_valid (p q : Pos) (ms : List Mv) (h : Playable p ms q)
    (hv : validatePieceCounts (countsOf p.b) = .ok) : validatePieceCounts (countsOf q.b) = .ok := by
  induction h with
  | nil p => exact hv
  | cons p m ms q hl _ ih =>
    apply ih
    rw [fixupEP_b]
    exact valid_step _ _ (apply_side p m (legalB_pseudo p m hl)) hv

theorem playable_enough (p q : Pos) (ms : List Mv) (h : Playable p ms q) :
    enoughRemainingPieces (countsOf p.b) (countsOf q.b) = true := by
  induction h with
  | nil p => exact enough_refl _
  | cons p m ms q hl _ ih =>
    rw [fixupEP_b] at ih
    exact enough_step _ _ _ (apply_side p m (legalB_pseudo p m hl)) ih


theorem playable_wtm (p q : Pos) (ms : List Mv) (h : Playable p ms q) :
    q.wtm = (if ms.length % 2 = 0 then p.wtm else !p.wtm) := by
  induction h with
  | nil p => rfl
  | cons p m ms q _ _ ih =>
    rw [ih, fixupEP_wtm, apply_wtm, List.length_cons]
    by_cases h2 : ms.length % 2 = 0
    · have : (ms.length + 1) % 2 ≠ 0 := by omega
      rw [if_pos h2, if_neg this]
    · have : (ms.length + 1) % 2 = 0 := by omega
      rw [if_neg h2, if_pos this, Bool.not_not]

theorem nWhite_add_nBlack (w : Bool) (n : Nat) : nWhite w n + nBlack w n = n := by
  unfold nWhite nBlack; cases w <;> simp only [if_true, if_false, Bool.false_eq_true] <;> omega

theorem plies_arith (a b : Int) (posW : Bool) (n : Nat) (ha : a ≤ nWhite posW n) (hb : b ≤ nBlack posW n) :
    pliesFromMoves a b posW (if n % 2 = 0 then posW else !posW) ≤ n := by
  unfold pliesFromMoves wNeededPlies bNeededPlies
  unfold nWhite at ha
  unfold nBlack at hb
  cases posW <;> by_cases h2 : n % 2 = 0 <;>
    simp only [h2, if_true, if_false, Bool.false_eq_true, Bool.not_false, Bool.not_true] at ha hb ⊢ <;> omega

theorem sameDraw_iff (q t : Pos) : sameDraw q t = true ↔ (q.b = t.b ∧ q.wtm = t.wtm ∧ q.castle = t.castle ∧ q.ep = t.ep) := by
  unfold sameDraw
  simp only [Bool.and_eq_true, decide_eq_true_eq, beq_iff_eq]
  constructor
  · rintro ⟨⟨⟨h1, h2⟩, h3⟩, h4⟩; exact ⟨h1, h2, h3, h4⟩
  · rintro ⟨h1, h2, h3, h4⟩; exact ⟨⟨⟨h1, h2⟩, h3⟩, h4⟩

theorem playSan_sound (p q : Pos) (ss : List String) (h : playSan p ss = some q) :
    ∃ ms : List Mv, ms.length = ss.length ∧ Playable p ms q := by
  induction ss generalizing p with
  | nil =>
    simp only [playSan, Option.some.injEq] at h
    subst h
    exact ⟨[], rfl, .nil p⟩
  | cons s rest ih =>
    simp only [playSan] at h
    split at h
    · next m _ =>
      split at h
      · next hl =>
        obtain ⟨ms, hlen, hp⟩ := ih _ h
        exact ⟨m :: ms, by simp [hlen], .cons p m ms q hl hp⟩
      · cases h
    · cases h

/-- behind the en-passant square, if set, stands no man of the side to move (true after every `apply`) -/
def EpOK (p : Pos) : Prop :=
  ∀ e : Sq, p.ep = some e → own p.wtm (p.b.getD (if p.wtm then e.val - 8 else e.val + 8) 0) = false

/-- behind an en-passant square stands a pawn of the side that is not to move -/
def EpPawn (p : Pos) : Prop :=
  ∀ e : Sq, p.ep = some e → p.b.getD (if p.wtm then e.val - 8 else e.val + 8) 0 = (if p.wtm then BPAWN else WPAWN)

theorem EpPawn.epOK {p : Pos} (h : EpPawn p) : EpOK p := by
  intro e he
  rw [h e he]
  cases p.wtm <;> decide

theorem ind_of_own (w : Bool) (x a : Pc) (ha : own w a = true) (hx : own w x = false) : ind x a = 0 := by
  unfold ind
  rw [if_neg]
  rintro rfl
  rw [ha] at hx
  cases hx

theorem sum_ind (x : Pc) :
    (ind x 1 + ind x 2 + ind x 3 + ind x 4 + ind x 5 + ind x 6 = if own true x then 1 else 0) ∧
    (ind x 7 + ind x 8 + ind x 9 + ind x 10 + ind x 11 + ind x 12 = if own false x then 1 else 0) := by
  constructor
  · cases h : own true x with
    | false =>
      rw [ind_of_own true x 1 rfl h, ind_of_own true x 2 rfl h, ind_of_own true x 3 rfl h, ind_of_own true x 4 rfl h,
        ind_of_own true x 5 rfl h, ind_of_own true x 6 rfl h]
      rfl
    | true =>
      exact (show ∀ x ∈ ownCodes true, ind x 1 + ind x 2 + ind x 3 + ind x 4 + ind x 5 + ind x 6 = 1 by decide) x
        (own_mem true x h)
  · cases h : own false x with
    | false =>
      rw [ind_of_own false x 7 rfl h, ind_of_own false x 8 rfl h, ind_of_own false x 9 rfl h,
        ind_of_own false x 10 rfl h, ind_of_own false x 11 rfl h, ind_of_own false x 12 rfl h]
      rfl
    | true =>
      exact (show ∀ x ∈ ownCodes false, ind x 7 + ind x 8 + ind x 9 + ind x 10 + ind x 11 + ind x 12 = 1 by decide) x
        (own_mem false x h)

theorem newPc_own (p : Pos) (m : Mv) (h : pseudo p m = true) : own p.wtm (newPc p m) = true := by
  unfold newPc
  by_cases hp : m.promo = 0
  · have : (m.promo != 0) = false := by rw [hp]; rfl
    rw [this]; exact (pseudo_basic p m h).1
  · have : (m.promo != 0) = true := bne_iff_ne.2 hp
    rw [this]
    have : ∀ w, ∀ pr ∈ promos w, pr ≠ 0 → own w pr = true := by decide
    exact this _ _ (pseudo_promo p m h) hp

theorem capturedPc_not_own (p : Pos) (m : Mv) (h : pseudo p m = true) (hep : EpOK p) : own p.wtm (capturedPc p m) = false := by
  unfold capturedPc
  cases he : isEpMv p m
  · simp only [Bool.false_eq_true, if_false]; exact (pseudo_basic p m h).2.1
  · simp only [if_true]
    unfold isEpMv at he
    simp only [Bool.and_eq_true, beq_iff_eq] at he
    exact hep m.t he.1.1.2

theorem men_countP (w : Bool) (b : Board) : men w b = b.countP (own w) := by
  have key : ∀ l : List Pc,
      (l.count 1 + l.count 2 + l.count 3 + l.count 4 + l.count 5 + l.count 6 = l.countP (own true)) ∧
      (l.count 7 + l.count 8 + l.count 9 + l.count 10 + l.count 11 + l.count 12 = l.countP (own false)) := by
    intro l
    induction l with
    | nil => exact ⟨rfl, rfl⟩
    | cons x l ih =>
      have s := sum_ind x
      unfold ind at s
      simp only [List.count_cons, List.countP_cons, beq_iff_eq]
      omega
  have := key b.toList
  simp only [Vector.count_toList, Vector.countP_toList] at this
  unfold men cnt
  cases w
  · exact this.2
  · exact this.1

theorem apply_men (p : Pos) (m : Mv) (h : pseudo p m = true) (hep : EpOK p) :
    men p.wtm (apply p m).b = men p.wtm p.b ∧
    men (!p.wtm) (apply p m).b + (if own (!p.wtm) (capturedPc p m) then 1 else 0) = men (!p.wtm) p.b := by
  have p0 := (pseudo_basic p m h).1
  have n0 := newPc_own p m h
  have m1 := apply_countP p m h (own p.wtm) (by cases p.wtm <;> rfl)
  have m2 := apply_countP p m h (own (!p.wtm)) (by cases p.wtm <;> rfl)
  unfold bi at m1 m2
  rw [capturedPc_not_own p m h hep, p0, n0] at m1
  rw [own_excl _ _ p0, own_excl _ _ n0] at m2
  simp only [if_true, if_false, Bool.false_eq_true] at m1 m2
  rw [men_countP, men_countP, men_countP, men_countP]
  exact ⟨by omega, by omega⟩

theorem movedB_get_t (p : Pos) (m : Mv) : (movedB p m)[m.t.val] = newPc p m := by
  rw [movedB_eq]
  unfold setSq
  rw [Vector.getElem_setIfInBounds m.t.isLt, if_pos rfl]

/-- an en-passant square is set only by a double push from the start rank; the pushed pawn, no promotion, then stands
    behind it -/
theorem apply_epPawn (p : Pos) (m : Mv) (h : pseudo p m = true) : EpPawn (apply p m) := by
  intro e he
  obtain ⟨hk, hd, hev⟩ := apply_ep_some p m e he
  obtain ⟨hpo, hp⟩ := pseudo_pawn p m h hk
  have hf := m.f.isLt
  have ht := m.t.isLt
  unfold dxy at hp
  simp only [Sq.y] at hp
  have hb : (apply p m).b = movedB p m := applyB_noncastle p m (by rw [hk]; decide)
  have key : (if (apply p m).wtm then e.val - 8 else e.val + 8) = m.t.val := by
    rw [apply_wtm]
    cases hw : p.wtm <;> simp only [hw, if_true, if_false, Bool.false_eq_true, Bool.not_true, Bool.not_false] at hp ⊢ <;> omega
  have hpr : m.promo = 0 := by
    unfold promoOk at hpo
    have : (m.t.y == if p.wtm then 7 else 0) = false := by
      rw [beq_eq_false_iff_ne]
      unfold Sq.y
      cases hw : p.wtm <;> simp only [hw, if_true, if_false, Bool.false_eq_true] at hp ⊢ <;> omega
    rw [this, if_neg Bool.false_ne_true, beq_iff_eq] at hpo
    exact hpo
  rw [key, hb, getD_eq _ _ ht, movedB_get_t, apply_wtm]
  unfold newPc
  rw [hpr, own_kind6 p.wtm _ (pseudo_basic p m h).1 hk]
  cases p.wtm <;> rfl

theorem apply_epOK (p : Pos) (m : Mv) (h : pseudo p m = true) : EpOK (apply p m) := (apply_epPawn p m h).epOK

theorem fixupEP_epOK (p : Pos) (h : EpOK p) : EpOK (fixupEP p) := by
  unfold fixupEP
  split
  · exact h
  · split
    · exact h
    · intro e he; cases he

theorem playable_men (p q : Pos) (ms : List Mv) (h : Playable p ms q) (hep : EpOK p) :
    men false p.b ≤ men false q.b + nWhite p.wtm ms.length ∧ men true p.b ≤ men true q.b + nBlack p.wtm ms.length := by
  induction h with
  | nil p => simp [nWhite, nBlack]
  | cons p m ms q hl _ ih =>
    have hps := legalB_pseudo p m hl
    have ih := ih (fixupEP_epOK _ (apply_epOK p m hps))
    rw [fixupEP_b, fixupEP_wtm, apply_wtm] at ih
    obtain ⟨m1, m2⟩ := apply_men p m hps hep
    rw [List.length_cons]
    unfold nWhite nBlack at ih ⊢
    cases hw : p.wtm <;> rw [hw] at m1 m2 ih <;>
      simp only [Bool.not_true, Bool.not_false, if_true, if_false, Bool.false_eq_true] at m1 m2 ih ⊢ <;>
      split at m2 <;> omega
end PG
