import TexelVerif.Chess.TexelGenGivesCastle
import TexelVerif.PG.Lemmas
/-!
# `ProofGame::computeDeadlockedPieces` (proofgame.cpp:1582-1650): executable model and soundness

The C++ function is called when no capture can happen any more between the current position and the goal.  Starting
from `deadlocked = occupied & ~blocked` it repeatedly removes every piece that "can move" when all blocked and
all still-deadlocked squares are treated as permanent obstacles, until nothing changes; the pieces left are added to
`blocked`, and the position is rejected when one of them differs from the goal.

* `canMove` — the lambda `pieceCanMove` (king: a free neighbour square not attacked by an enemy pawn *that is itself an
  obstacle*; sliders: a free neighbour square in one of their directions; knight: a free jump square; pawn: the square
  in front is free).
* `sweepStep` / `iter` — the two nested loops (inner: squares from a1 to h8, `deadlocked` updated in place; outer: until
  `modified` stays false).
* `Occ` and `deadlock_step`: a legal, non-capturing move in a position in which every obstacle square still
  holds its original piece cannot move a piece of a set `D` satisfying the fixed-point condition, nor (by castling) its rook.
* `deadlock_sound`: along every capture-free legal line in which the `blocked` squares keep their contents, every
  square of the computed set keeps its piece; `deadlock_reject_sound`: hence a `false` verdict never hits a goal that is
  reachable that way.
-/
namespace PG
open Chess Chess.Texel

def stepSq (s : Sq) (d : Int × Int) : Option Sq := mkSq? ((s.x : Int) + d.1) ((s.y : Int) + d.2)

def knightDirs : List (Int × Int) := [(1,2), (2,1), (-1,2), (-2,1), (1,-2), (2,-1), (-1,-2), (-2,-1)]

/-- `q` is attacked by a pawn of the side opposite to `w` that stands on an obstacle square -/
def pawnGuard (b : Board) (occ : Sq → Bool) (w : Bool) (q : Sq) : Bool :=
  allSq.any fun r => occ r && b[r] == (if w then BPAWN else WPAWN) && attacks b r q

def freeDir (s : Sq) (occ : Sq → Bool) (d : Int × Int) : Bool :=
  match stepSq s d with
  | some q => !occ q
  | none => false

/-- the lambda `pieceCanMove(sq, occ)`; `occ` never contains `s` itself -/
def canMove (b : Board) (s : Sq) (occ : Sq → Bool) : Bool :=
  let pc := b[s]
  match kind pc with
  | 1 => dirs8.any fun d =>
           match stepSq s d with
           | some q => !occ q && !pawnGuard b occ (isWhite pc) q
           | none => false
  | 2 => dirs8.any (freeDir s occ)
  | 3 => rookDirs.any (freeDir s occ)
  | 4 => bishDirs.any (freeDir s occ)
  | 5 => knightDirs.any (freeDir s occ)
  | 6 => freeDir s occ (0, if isWhite pc then 1 else -1)
  | _ => true

/-- obstacles seen by the piece on `s`: blocked and still-deadlocked squares other than `s` -/
def obst (B D : Sq → Bool) (s : Sq) : Sq → Bool := fun q => (B q || D q) && q != s

/-- one iteration of the inner `while (tmp)` loop -/
def sweepStep (b : Board) (B : Sq → Bool) (st : (Sq → Bool) × Bool) (s : Sq) : (Sq → Bool) × Bool :=
  if st.1 s && canMove b s (obst B st.1 s) then (fun q => st.1 q && q != s, true) else st

def sweep (b : Board) (B D : Sq → Bool) : (Sq → Bool) × Bool := allSq.foldl (sweepStep b B) (D, false)

/-- the outer `while (true)` loop; `none` when the fuel is used up (every sweep but the last removes a square, so 65
    suffice; that `deadlocked` is never `none` has no theorem) -/
def iter (b : Board) (B : Sq → Bool) : Nat → (Sq → Bool) → Option (Sq → Bool)
  | 0, _ => none
  | n + 1, D => let r := sweep b B D; if r.2 then iter b B n r.1 else some r.1

/-- `computeDeadlockedPieces` after its early return: the final deadlocked set and the verdict -/
def deadlocked (b : Board) (B : Sq → Bool) : Option (Sq → Bool) :=
  iter b B 66 (fun q => b[q] != 0 && !B q)

def verdict (b goal : Board) (D : Sq → Bool) : Bool := allSq.all fun s => !D s || b[s] == goal[s]

def FixPt (b : Board) (B D : Sq → Bool) : Prop := ∀ s, D s = true → canMove b s (obst B D s) = false

/-- a line of legal, non-capturing moves during which the `B` squares keep their contents (what `computeBlocked`
    established before the call — no theorem here) and the side to move always has exactly one king -/
inductive QuietLine (B : Sq → Bool) : Pos → List Mv → Pos → Prop
  | nil (p) : QuietLine B p [] p
  | cons (p m ms q) : legalB p m = true → isCaptureMv p m = false → (∃ k, KingAt p.b p.wtm k) →
      (∀ s, B s = true → (apply p m).b[s] = p.b[s]) → QuietLine B (fixupEP (apply p m)) ms q → QuietLine B p (m :: ms) q

theorem QuietLine.playable {B : Sq → Bool} {p q : Pos} {ms : List Mv} (h : QuietLine B p ms q) : Playable p ms q := by
  induction h with
  | nil p => exact .nil p
  | cons p m ms q hl _ _ _ _ ih => exact .cons p m ms q hl ih

theorem sweepStep_sub (b : Board) (B : Sq → Bool) (st : (Sq → Bool) × Bool) (s q : Sq)
    (h : (sweepStep b B st s).1 q = true) : st.1 q = true := by
  unfold sweepStep at h
  split at h
  · simp only [Bool.and_eq_true] at h; exact h.1
  · exact h

theorem sweepStep_flag (b : Board) (B : Sq → Bool) (st : (Sq → Bool) × Bool) (s : Sq) (h : st.2 = true) :
    (sweepStep b B st s).2 = true := by
  unfold sweepStep; split
  · rfl
  · exact h

theorem fold_flag (b : Board) (B : Sq → Bool) (l : List Sq) (st : (Sq → Bool) × Bool) (h : st.2 = true) :
    (l.foldl (sweepStep b B) st).2 = true := by
  induction l generalizing st with
  | nil => exact h
  | cons s l ih => exact ih _ (sweepStep_flag b B st s h)

theorem fold_sub (b : Board) (B : Sq → Bool) (l : List Sq) (st : (Sq → Bool) × Bool) (q : Sq)
    (h : (l.foldl (sweepStep b B) st).1 q = true) : st.1 q = true := by
  induction l generalizing st with
  | nil => exact h
  | cons s l ih => exact sweepStep_sub b B st s q (ih _ h)

theorem fold_quiet (b : Board) (B : Sq → Bool) (l : List Sq) (st : (Sq → Bool) × Bool)
    (h : (l.foldl (sweepStep b B) st).2 = false) :
    l.foldl (sweepStep b B) st = st ∧ ∀ s ∈ l, st.1 s = true → canMove b s (obst B st.1 s) = false := by
  induction l generalizing st with
  | nil => exact ⟨rfl, by simp⟩
  | cons s l ih =>
    simp only [List.foldl_cons] at h ⊢
    by_cases hc : (st.1 s && canMove b s (obst B st.1 s)) = true
    · have : (sweepStep b B st s).2 = true := by unfold sweepStep; rw [if_pos hc]
      rw [fold_flag b B l _ this] at h; cases h
    · have e : sweepStep b B st s = st := by unfold sweepStep; rw [if_neg hc]
      rw [e] at h ⊢
      obtain ⟨h1, h2⟩ := ih st h
      refine ⟨h1, ?_⟩
      intro q hq hD
      rcases List.mem_cons.1 hq with rfl | hq
      · simp only [Bool.and_eq_true, not_and, Bool.not_eq_true] at hc; exact hc hD
      · exact h2 q hq hD

theorem sweep_sub (b : Board) (B D : Sq → Bool) (q : Sq) (h : (sweep b B D).1 q = true) : D q = true := by
  unfold sweep at h
  exact fold_sub b B allSq (D, false) q h

theorem sweep_quiet (b : Board) (B D : Sq → Bool) (h : (sweep b B D).2 = false) : (sweep b B D).1 = D ∧ FixPt b B D := by
  unfold sweep at h ⊢
  obtain ⟨h1, h2⟩ := fold_quiet b B allSq (D, false) h
  refine ⟨by rw [h1], fun s hs => h2 s (List.mem_finRange s) hs⟩

theorem iter_spec (b : Board) (B : Sq → Bool) (n : Nat) (D D' : Sq → Bool) (h : iter b B n D = some D') :
    FixPt b B D' ∧ ∀ q, D' q = true → D q = true := by
  induction n generalizing D with
  | zero => cases h
  | succ n ih =>
    rw [iter] at h
    by_cases hf : (sweep b B D).2 = true
    · simp only [hf, if_true] at h
      obtain ⟨h1, h2⟩ := ih _ h
      exact ⟨h1, fun q hq => sweep_sub b B D q (h2 q hq)⟩
    · simp only [hf, Bool.false_eq_true, if_false, Option.some.injEq] at h
      obtain ⟨e, hfix⟩ := sweep_quiet b B D (by simpa using hf)
      rw [e] at h; subst h
      exact ⟨hfix, fun _ h => h⟩

theorem deadlocked_spec (b : Board) (B D : Sq → Bool) (h : deadlocked b B = some D) :
    FixPt b B D ∧ ∀ q, D q = true → b[q] ≠ 0 := by
  obtain ⟨h1, h2⟩ := iter_spec b B _ _ _ h
  refine ⟨h1, fun q hq => ?_⟩
  have := h2 q hq
  simp only [Bool.and_eq_true, bne_iff_ne, ne_eq] at this
  exact this.1

theorem noncapture_facts (p : Pos) (m : Mv) (h : isCaptureMv p m = false) :
    p.b[m.t] = 0 ∧ ¬ (kind p.b[m.f] = 6 ∧ p.ep = some m.t ∧ m.f.x ≠ m.t.x) := by
  unfold isCaptureMv at h
  simp only [Bool.or_eq_false_iff, bne_eq_false_iff_eq, Bool.and_eq_false_imp, Bool.and_eq_true, beq_iff_eq,
    and_imp] at h
  refine ⟨h.1, ?_⟩
  rintro ⟨h1, h2, h3⟩
  exact h3 (h.2 h1 h2)

theorem isEpMv_false (p : Pos) (m : Mv) (hq : isCaptureMv p m = false) : isEpMv p m = false := by
  obtain ⟨_, hne⟩ := noncapture_facts p m hq
  cases h : isEpMv p m with
  | false => rfl
  | true =>
    unfold isEpMv at h
    simp only [Bool.and_eq_true, beq_iff_eq, bne_iff_ne, ne_eq] at h
    exact absurd ⟨h.1.1.1, h.1.1.2, h.2⟩ hne

section
/-- below, the bound of `b[s]` for a square `s` is closed by `s.isLt` at once; the fallbacks of `get_elem_tactic` end
    in `omega` over the whole context at every occurrence -/
local macro_rules | `(tactic| get_elem_tactic_extensible) => `(tactic| exact Fin.isLt _)

/-- every obstacle square holds, on board `b`, the same non-empty piece as on the reference board `b0` -/
def Occ (occ : Sq → Bool) (b0 b : Board) : Prop := ∀ q, occ q = true → b[q] = b0[q] ∧ b0[q] ≠ 0

theorem Occ.free {occ : Sq → Bool} {b0 b : Board} (h : Occ occ b0 b) (q : Sq) (hq : b[q] = 0) : occ q = false := by
  cases ho : occ q with
  | false => rfl
  | true => obtain ⟨h1, h2⟩ := h q ho; rw [hq] at h1; exact absurd h1.symm h2

theorem stepSq_dxy (f t : Sq) : stepSq f (dxy f t) = some t := by
  unfold stepSq dxy
  rw [mkSq?_eq_some]
  constructor <;> simp only <;> omega

theorem dxy_ne (f t : Sq) (h : f ≠ t) : ¬ ((dxy f t).1 = 0 ∧ (dxy f t).2 = 0) := by
  intro ⟨h1, h2⟩
  have := stepSq_dxy f t
  unfold stepSq at this
  rw [h1, h2] at this
  simp only [Int.add_zero] at this
  rw [mkSq?_xy] at this
  exact h (Option.some.inj this)

theorem ray_first (b : Board) (s t : Sq) (d : Int × Int) (h : rayReach b s t d.1 d.2 = true) :
    ∃ q, stepSq s d = some q ∧ (q = t ∨ b[q] = 0) := by
  unfold rayReach at h
  rw [rayGo] at h
  unfold stepSq
  split at h
  · cases h
  · next q hq =>
    refine ⟨q, hq, ?_⟩
    by_cases e : q = t
    · exact Or.inl e
    · right
      have e' : (q == t) = false := by simpa using e
      rw [e'] at h
      simp only [Bool.false_eq_true, if_false] at h
      split at h
      · cases h
      · next hb => simpa using hb

theorem any_ray_free (b0 b : Board) (occ : Sq → Bool) (hO : Occ occ b0 b) (s t : Sq) (ht : b[t] = 0) (ds : List (Int × Int))
    (h : (ds.any fun dd => rayReach b s t dd.1 dd.2) = true) : ds.any (freeDir s occ) = true := by
  rw [List.any_eq_true] at h ⊢
  obtain ⟨d, hd, hr⟩ := h
  obtain ⟨q, hq, hqq⟩ := ray_first b s t d hr
  refine ⟨d, hd, ?_⟩
  unfold freeDir
  rw [hq]
  have : b[q] = 0 := by
    rcases hqq with e | e
    · rw [e]; exact ht
    · exact e
  have hf := hO.free q this
  simp only [hf, Bool.not_false]

theorem pawn_front (p : Pos) (m : Mv) (hp : pseudo p m = true) (hk : kind p.b[m.f] = 6) (hq : isCaptureMv p m = false) :
    ∃ q, stepSq m.f (0, if p.wtm then 1 else -1) = some q ∧ p.b[q] = 0 := by
  obtain ⟨ht, hne⟩ := noncapture_facts p m hq
  unfold pseudo at hp
  simp only [Pos.at, Bool.and_eq_true] at hp
  obtain ⟨_, h2⟩ := hp
  simp only [hk] at h2
  simp only [Bool.and_eq_true, Bool.or_eq_true, beq_iff_eq] at h2
  obtain ⟨_, h3⟩ := h2
  have hs := stepSq_dxy m.f m.t
  rcases h3 with (⟨⟨h4, h5⟩, _⟩ | ⟨⟨⟨⟨h4, h5⟩, _⟩, _⟩, h6⟩) | ⟨⟨h4, h5⟩, h6⟩
  · -- single push: the square in front is the target
    refine ⟨m.t, ?_, ht⟩
    rw [← hs]
    have : dxy m.f m.t = ((dxy m.f m.t).1, (dxy m.f m.t).2) := rfl
    rw [this, h4, h5]
  · -- double push: `pseudo` tests the square in front
    unfold stepSq
    simp only [Int.add_zero]
    split at h6
    · next q hq' => exact ⟨q, hq', by simpa using h6⟩
    · cases h6
  · -- diagonal step: a capture
    exfalso
    rcases h6 with h6 | h6
    · simp only [bne_iff_ne, ne_eq] at h6; exact h6 ht
    · apply hne
      refine ⟨hk, h6, ?_⟩
      unfold dxy at h4
      simp only at h4
      intro e; rw [e] at h4; simp at h4

theorem other_attacks (p : Pos) (m : Mv) (hp : pseudo p m = true) (h6 : kind p.b[m.f] ≠ 6) (h1 : kind p.b[m.f] ≠ 1) :
    attacks p.b m.f m.t = true := by
  rw [pseudo_other_eq p m h6 h1, Bool.and_eq_true, Bool.and_eq_true] at hp
  exact hp.2.2

theorem knight_dir (d : Int × Int)
    (h : (d.1.natAbs = 1 ∧ d.2.natAbs = 2) ∨ (d.1.natAbs = 2 ∧ d.2.natAbs = 1)) : d ∈ knightDirs := by
  obtain ⟨a, b⟩ := d
  simp only at h
  have ea := Int.natAbs_eq a
  have eb := Int.natAbs_eq b
  rcases h with ⟨h1, h2⟩ | ⟨h1, h2⟩
  · rw [h1] at ea; rw [h2] at eb
    rcases ea with rfl | rfl <;> rcases eb with rfl | rfl <;> decide
  · rw [h1] at ea; rw [h2] at eb
    rcases ea with rfl | rfl <;> rcases eb with rfl | rfl <;> decide

theorem king_dir (d : Int × Int) (h1 : d.1.natAbs ≤ 1) (h2 : d.2.natAbs ≤ 1) (hne : ¬ (d.1 = 0 ∧ d.2 = 0)) : d ∈ dirs8 := by
  obtain ⟨a, b⟩ := d
  simp only at h1 h2 hne
  have ha : a = -1 ∨ a = 0 ∨ a = 1 := by omega
  have hb : b = -1 ∨ b = 0 ∨ b = 1 := by omega
  rcases ha with rfl | rfl | rfl <;> rcases hb with rfl | rfl | rfl <;> simp [dirs8, rookDirs, bishDirs] at hne ⊢

theorem mover_free_nonking (b0 : Board) (occ : Sq → Bool) (p : Pos) (m : Mv) (hO : Occ occ b0 p.b)
    (hf : p.b[m.f] = b0[m.f]) (hp : pseudo p m = true) (hq : isCaptureMv p m = false) (hk1 : kind p.b[m.f] ≠ 1) :
    canMove b0 m.f occ = true := by
  have ht := (noncapture_facts p m hq).1
  have hown := pseudo_own_f p m hp
  unfold canMove
  rw [← hf]
  rcases kind_of_own _ _ hown with hk | hk | hk | hk | hk | hk
  · exact absurd hk hk1
  -- queen, rook, bishop: the first square of the ray is free
  iterate 3
    have ha := other_attacks p m hp (by rw [hk]; decide) hk1
    unfold attacks at ha
    simp only [hk] at ha ⊢
    exact any_ray_free b0 p.b occ hO m.f m.t ht _ ha
  · have ha := other_attacks p m hp (by rw [hk]; decide) hk1
    unfold attacks at ha
    simp only [hk, Bool.or_eq_true, Bool.and_eq_true, beq_iff_eq] at ha ⊢
    rw [List.any_eq_true]
    refine ⟨dxy m.f m.t, knight_dir _ ha, ?_⟩
    unfold freeDir
    rw [stepSq_dxy]
    simp only [hO.free m.t ht, Bool.not_false]
  · obtain ⟨q, hq1, hq2⟩ := pawn_front p m hp hk hq
    simp only [hk]
    rw [isWhite_of_own _ _ hown]
    unfold freeDir
    rw [hq1]
    simp only [hO.free q hq2, Bool.not_false]

theorem enemy_pawn_facts (w : Bool) : own (!w) (if w then BPAWN else WPAWN) = true ∧ kind (if w then BPAWN else WPAWN) = 6 := by
  cases w <;> decide

theorem guard_attacked (b0 b' : Board) (occ : Sq → Bool) (w : Bool) (q : Sq)
    (hb' : ∀ r, occ r = true → b'[r] = b0[r]) (hg : pawnGuard b0 occ w q = true) : attackedBy b' (!w) q = true := by
  unfold pawnGuard at hg
  rw [List.any_eq_true] at hg
  obtain ⟨r, hr, h⟩ := hg
  simp only [Bool.and_eq_true, beq_iff_eq] at h
  obtain ⟨⟨ho, hpc⟩, ha⟩ := h
  unfold attackedBy
  rw [List.any_eq_true]
  refine ⟨r, hr, ?_⟩
  have e := hb' r ho
  have hk6 : kind b0[r] = 6 := by rw [hpc]; exact (enemy_pawn_facts w).2
  -- a pawn's attacks do not depend on the rest of the board
  have hatt : attacks b' r q = attacks b0 r q := by unfold attacks; simp only [e, hk6]
  rw [hatt, ha, e, hpc, (enemy_pawn_facts w).1]
  rfl

theorem castle_pass_safe (p : Pos) (short : Bool) (h : castleOk p short = true) :
    attackedBy p.b (!p.wtm) ⟨(if short then (if p.wtm then 4 else 60) + 1 else (if p.wtm then 4 else 60) - 1) % 64,
      Nat.mod_lt _ (by decide)⟩ = false := by
  unfold castleOk at h
  cases short <;> simp only [Bool.and_eq_true, Bool.not_eq_true', if_true, if_false, Bool.false_eq_true] at h ⊢
  · exact h.2.2
  · exact h.2.2

theorem king_step_near (f t : Sq) (h1 : (dxy f t).1.natAbs ≤ 1) (h2 : (dxy f t).2.natAbs ≤ 1) :
    ¬ (t.val = f.val + 2 ∨ t.val + 2 = f.val) := by
  unfold dxy at h1 h2
  simp only [Sq.x, Sq.y] at h1 h2
  have := f.isLt; have := t.isLt
  omega

theorem dxy_two (f t : Sq) (h2 : (dxy f t).2 = 0) :
    ((dxy f t).1 = 2 → t.val = f.val + 2) ∧ ((dxy f t).1 = -2 → t.val + 2 = f.val) := by
  unfold dxy at h2 ⊢
  simp only [Sq.x, Sq.y] at h2 ⊢
  have := f.isLt; have := t.isLt
  omega

theorem rookOf_kind (w : Bool) : kind (rookOf w) = 3 := by cases w <;> decide

/-- castling either way, king at home on `f`: `pass`, which the king crosses and the rook lands on, is empty and not
    attacked; the rook on `rook` has the empty `nb` beside it towards the king -/
theorem castle_squares (p : Pos) (f : Sq) (short : Bool) (hhome : f.val = if p.wtm then 4 else 60)
    (hc : castleOk p short = true) :
    ∃ pass rook nb : Sq, pass.val = (if short then f.val + 1 else f.val - 1) ∧
      rook.val = (if short then f.val + 3 else f.val - 4) ∧
      stepSq f (if short then 1 else -1, 0) = some pass ∧ stepSq rook (if short then -1 else 1, 0) = some nb ∧
      p.b[pass] = 0 ∧ p.b[nb] = 0 ∧ p.b[rook] = rookOf p.wtm ∧ attackedBy p.b (!p.wtm) pass = false := by
  have hsafe := castle_pass_safe p short hc
  unfold rookOf
  cases short
  · obtain ⟨_, e1, _, e3, e4⟩ := castleOk_long p hc
    cases hw : p.wtm <;> simp only [hw, if_true, if_false, Bool.false_eq_true] at hhome e1 e3 e4 hsafe ⊢
    · obtain rfl : f = ⟨60, by decide⟩ := Fin.ext hhome
      exact ⟨⟨59, by decide⟩, ⟨56, by decide⟩, ⟨57, by decide⟩, rfl, rfl, by decide, by decide,
        (getD_eq p.b 59 (by decide)).symm.trans e1, (getD_eq p.b 57 (by decide)).symm.trans e3,
        (getD_eq p.b 56 (by decide)).symm.trans e4, hsafe⟩
    · obtain rfl : f = ⟨4, by decide⟩ := Fin.ext hhome
      exact ⟨⟨3, by decide⟩, ⟨0, by decide⟩, ⟨1, by decide⟩, rfl, rfl, by decide, by decide,
        (getD_eq p.b 3 (by decide)).symm.trans e1, (getD_eq p.b 1 (by decide)).symm.trans e3,
        (getD_eq p.b 0 (by decide)).symm.trans e4, hsafe⟩
  · obtain ⟨_, e1, e2, e3⟩ := castleOk_short p hc
    cases hw : p.wtm <;> simp only [hw, if_true, if_false, Bool.false_eq_true] at hhome e1 e2 e3 hsafe ⊢
    · obtain rfl : f = ⟨60, by decide⟩ := Fin.ext hhome
      exact ⟨⟨61, by decide⟩, ⟨63, by decide⟩, ⟨62, by decide⟩, rfl, rfl, by decide, by decide,
        (getD_eq p.b 61 (by decide)).symm.trans e1, (getD_eq p.b 62 (by decide)).symm.trans e2,
        (getD_eq p.b 63 (by decide)).symm.trans e3, hsafe⟩
    · obtain rfl : f = ⟨4, by decide⟩ := Fin.ext hhome
      exact ⟨⟨5, by decide⟩, ⟨7, by decide⟩, ⟨6, by decide⟩, rfl, rfl, by decide, by decide,
        (getD_eq p.b 5 (by decide)).symm.trans e1, (getD_eq p.b 6 (by decide)).symm.trans e2,
        (getD_eq p.b 7 (by decide)).symm.trans e3, hsafe⟩

theorem mover_free_king (b0 : Board) (occ : Sq → Bool) (p : Pos) (m : Mv) (hO : Occ occ b0 p.b)
    (hf : p.b[m.f] = b0[m.f]) (hof : occ m.f = false) (hp : pseudo p m = true)
    (hsafe : Chess.inCheck (apply p m).b p.wtm = false) (hq : isCaptureMv p m = false)
    (k : Sq) (hk : KingAt p.b p.wtm k) (hk1 : kind p.b[m.f] = 1) : canMove b0 m.f occ = true := by
  obtain ⟨ht, _⟩ := noncapture_facts p m hq
  have hown := pseudo_own_f p m hp
  have hocc : ∀ r, occ r = true → p.b[r] = b0[r] := fun r hr => (hO r hr).1
  obtain ⟨hpr, hsh⟩ := pseudo_king p m hp hk1
  -- castling either way: the king crosses the square beside it
  have castle_free : ∀ short, m.f.val = (if p.wtm then 4 else 60) → castleOk p short = true →
      ∃ d, d ∈ dirs8 ∧ (match stepSq m.f d with
        | some q => !occ q && !pawnGuard b0 occ p.wtm q
        | none => false) = true := by
    intro short hhome hc
    obtain ⟨pass, _, _, _, _, hst, _, he, _, _, hps⟩ := castle_squares p m.f short hhome hc
    refine ⟨(if short then 1 else -1, 0), by cases short <;> decide, ?_⟩
    rw [hst]
    cases hg : pawnGuard b0 occ p.wtm pass with
    | false => simp only [hO.free _ he, hg, Bool.not_false, Bool.and_self]
    | true => rw [guard_attacked b0 p.b occ p.wtm _ hocc hg] at hps; cases hps
  unfold canMove
  rw [← hf]
  simp only [hk1]
  rw [isWhite_of_own _ _ hown, List.any_eq_true]
  rcases hsh with ⟨h1, h2⟩ | ⟨_, _, hhome, hc⟩ | ⟨_, _, hhome, hc⟩
  · refine ⟨dxy m.f m.t, king_dir _ h1 h2 (dxy_ne _ _ (pseudo_ne p m hp)), ?_⟩
    rw [stepSq_dxy]
    simp only [hO.free m.t ht, Bool.not_false, Bool.true_and, Bool.not_eq_true']
    cases hg : pawnGuard b0 occ p.wtm m.t with
    | false => rfl
    | true =>
      exfalso
      have hE : isEp p m = false := by unfold isEp; rw [Pos.at, hk1]; rfl
      have hC : ¬ (kind p.b[m.f] = 1 ∧ (m.t.val = m.f.val + 2 ∨ m.t.val + 2 = m.f.val)) :=
        fun hh => king_step_near _ _ h1 h2 hh.2
      have hb := apply_b_simple p m hE hC
      have hb' : ∀ r, occ r = true → (apply p m).b[r] = b0[r] := by
        intro r hr
        obtain ⟨e1, e2⟩ := hO r hr
        rw [hb r, if_neg, if_neg, e1]
        · intro e; rw [e, hof] at hr; cases hr
        · intro e; subst e; rw [ht] at e1; exact e2 e1.symm
      have hatt := guard_attacked b0 (apply p m).b occ p.wtm m.t hb' hg
      have hk' := own_king_after p k hk m hp hk1
      unfold Chess.inCheck at hsafe
      rw [kingSq_of_kingAt _ _ _ hk'] at hsafe
      simp only at hsafe
      rw [hatt] at hsafe; cases hsafe
  · exact castle_free true hhome hc
  · exact castle_free false hhome hc

theorem rook_free (b0 b : Board) (occ : Sq → Bool) (hO : Occ occ b0 b) (s q : Sq) (d : Int × Int) (hd : d ∈ rookDirs)
    (hst : stepSq s d = some q) (hq : b[q] = 0) (hs : kind b0[s] = 3) : canMove b0 s occ = true := by
  unfold canMove
  simp only [hs]
  rw [List.any_eq_true]
  refine ⟨d, hd, ?_⟩
  unfold freeDir
  rw [hst]
  simp only [hO.free q hq, Bool.not_false]

theorem mover_free (b0 : Board) (occ : Sq → Bool) (p : Pos) (m : Mv) (hO : Occ occ b0 p.b)
    (hf : p.b[m.f] = b0[m.f]) (hof : occ m.f = false) (hl : legalB p m = true) (hq : isCaptureMv p m = false)
    (k : Sq) (hk : KingAt p.b p.wtm k) : canMove b0 m.f occ = true := by
  unfold legalB at hl
  simp only [Bool.and_eq_true, Bool.not_eq_true'] at hl
  by_cases hk1 : kind p.b[m.f] = 1
  · exact mover_free_king b0 occ p m hO hf hof hl.1 hl.2 hq k hk hk1
  · exact mover_free_nonking b0 occ p m hO hf hl.1 hq hk1

theorem isEp_false (p : Pos) (m : Mv) (hq : isCaptureMv p m = false) : isEp p m = false := isEpMv_false p m hq

theorem apply_b_castle (p : Pos) (m : Mv) (hk1 : kind p.b[m.f] = 1) (hpr : m.promo = 0) (short : Bool)
    (hs : if short then m.t.val = m.f.val + 2 else m.t.val + 2 = m.f.val) (q : Sq) :
    (apply p m).b[q] = if (if short then m.f.val + 1 else m.f.val - 1) = q.val then rookOf p.wtm
      else if (if short then m.f.val + 3 else m.f.val - 4) = q.val then 0
      else if m.t.val = q.val then p.b[m.f] else if m.f.val = q.val then 0 else p.b[q] := by
  cases short
  · exact apply_b_long p m hk1 hpr hs q
  · exact apply_b_short p m hk1 hpr hs q

/-- **one move**: a legal non-capturing move that leaves the `B` squares alone leaves the `D` squares alone as well -/
theorem deadlock_step (b0 : Board) (B D : Sq → Bool) (hfix : FixPt b0 B D)
    (hne : ∀ s, (B s || D s) = true → b0[s] ≠ 0)
    (p : Pos) (hfr : ∀ s, (B s || D s) = true → p.b[s] = b0[s])
    (k : Sq) (hk : KingAt p.b p.wtm k)
    (m : Mv) (hl : legalB p m = true) (hq : isCaptureMv p m = false)
    (hB : ∀ s, B s = true → (apply p m).b[s] = p.b[s]) :
    ∀ s, (B s || D s) = true → (apply p m).b[s] = b0[s] := by
  intro s hs
  by_cases hBs : B s = true
  · rw [hB s hBs]; exact hfr s hs
  have hDs : D s = true := by simpa [hBs] using hs
  have hO : ∀ x, Occ (obst B D x) b0 p.b := by
    intro x q hq'
    unfold obst at hq'
    simp only [Bool.and_eq_true] at hq'
    exact ⟨hfr q hq'.1, hne q hq'.1⟩
  have hself : ∀ x, obst B D x x = false := by intro x; simp [obst]
  have hp : pseudo p m = true := legalB_pseudo p m hl
  obtain ⟨ht, _⟩ := noncapture_facts p m hq
  have hsne : p.b[s] ≠ 0 := by rw [hfr s hs]; exact hne s hs
  have hst : s ≠ m.t := by intro e; rw [e] at hsne; exact hsne ht
  have hsf : s ≠ m.f := by
    intro e
    subst e
    have := mover_free b0 (obst B D m.f) p m (hO _) (hfr _ hs) (hself _) hl hq k hk
    rw [hfix _ hDs] at this; cases this
  have hE := isEp_false p m hq
  by_cases hC : kind p.b[m.f] = 1 ∧ (m.t.val = m.f.val + 2 ∨ m.t.val + 2 = m.f.val)
  · obtain ⟨hk1, hside⟩ := hC
    obtain ⟨hpr, hsh⟩ := pseudo_king p m hp hk1
    obtain ⟨short, hsd, hhome, hc⟩ : ∃ short, (if short then m.t.val = m.f.val + 2 else m.t.val + 2 = m.f.val) ∧
        m.f.val = (if p.wtm then 4 else 60) ∧ castleOk p short = true := by
      rcases hsh with ⟨h1, h2⟩ | ⟨h2, h1, h3, h4⟩ | ⟨h2, h1, h3, h4⟩
      · exact absurd hside (king_step_near _ _ h1 h2)
      · exact ⟨true, by rw [if_pos rfl]; exact (dxy_two _ _ h2).1 h1, h3, h4⟩
      · exact ⟨false, by rw [if_neg Bool.false_ne_true]; exact (dxy_two _ _ h2).2 h1, h3, h4⟩
    obtain ⟨pass, rook, nb, hpv, hrv, _, hnb, he, hnb0, hrk, _⟩ := castle_squares p m.f short hhome hc
    have n1 : ¬ (if short then m.f.val + 1 else m.f.val - 1) = s.val := by
      rw [← hpv]; intro e; rw [← Fin.ext e] at hsne; exact hsne he
    have n3 : ¬ (if short then m.f.val + 3 else m.f.val - 4) = s.val := by
      rw [← hrv]; intro e
      obtain rfl : rook = s := Fin.ext e
      -- the castling rook has a free square beside it, so it is not in `D`
      have hrook : kind b0[rook] = 3 := by rw [← hfr rook hs, hrk]; exact rookOf_kind _
      have := rook_free b0 p.b (obst B D rook) (hO rook) rook nb _ (by cases short <;> decide) hnb hnb0 hrook
      rw [hfix rook hDs] at this; cases this
    rw [apply_b_castle p m hk1 hpr short hsd s, if_neg n1, if_neg n3, if_neg (fun e => hst (Fin.ext e.symm)),
      if_neg (fun e => hsf (Fin.ext e.symm))]
    exact hfr s hs
  · rw [apply_b_simple p m hE hC s, if_neg hst, if_neg hsf]
    exact hfr s hs

theorem deadlock_line (b0 : Board) (B D : Sq → Bool) (hfix : FixPt b0 B D)
    (hne : ∀ s, (B s || D s) = true → b0[s] ≠ 0) (p q : Pos) (ms : List Mv) (h : QuietLine B p ms q)
    (hfr : ∀ s, (B s || D s) = true → p.b[s] = b0[s]) : ∀ s, (B s || D s) = true → q.b[s] = b0[s] := by
  induction h with
  | nil p => exact hfr
  | cons p m ms q hl hq hk hB _ ih =>
    obtain ⟨k, hk⟩ := hk
    apply ih
    rw [fixupEP_b]
    exact deadlock_step b0 B D hfix hne p hfr k hk m hl hq hB

end

theorem deadlock_sound (p q : Pos) (B D : Sq → Bool) (ms : List Mv) (hB : ∀ s, B s = true → p.b[s] ≠ 0)
    (hD : deadlocked p.b B = some D) (h : QuietLine B p ms q) : ∀ s, (B s || D s) = true → q.b[s] = p.b[s] := by
  obtain ⟨hfix, hocc⟩ := deadlocked_spec p.b B D hD
  refine deadlock_line p.b B D hfix ?_ p q ms h (fun _ _ => rfl)
  intro s hs
  rcases Bool.or_eq_true _ _ ▸ hs with h1 | h1
  · exact hB s h1
  · exact hocc s h1

theorem deadlock_reject_sound (p g : Pos) (B D : Sq → Bool) (ms : List Mv) (hB : ∀ s, B s = true → p.b[s] ≠ 0)
    (hD : deadlocked p.b B = some D) (h : QuietLine B p ms g) : verdict p.b g.b D = true := by
  unfold verdict
  rw [List.all_eq_true]
  intro s _
  cases hDs : D s with
  | false => rfl
  | true =>
    have := deadlock_sound p g B D ms hB hD h s (by simp [hDs])
    simp [this]

end PG
