import TexelVerif.PosImpl.Bits
/-! `Position::setPiece` in miniature (C02), self-contained: on an abstract position the edit keeps the hash key and every
piece bitboard equal to their from-scratch values.  The model with all fields is `Model.lean` (`setPiece_fresh`). -/
namespace Ps

abbrev Pc := Nat          -- 0 empty, 1..6 white, 7..12 black (piece.hpp)
def isWhite (p : Pc) : Bool := p < 7
def WPAWN : Pc := 6
def BPAWN : Pc := 12

/-- abstract Zobrist table and values: theorems hold for any table with key 0 _ = 0 -/
structure Tables where
  key : Pc → Nat → BitVec 64
  key0 : ∀ s, key 0 s = 0
  matId : Pc → Int
  value : Pc → Int

structure Pos where
  sq : Nat → Pc                    -- squares[]
  bb : Pc → BitVec 64              -- pieceTypeBB_[]
  white : BitVec 64
  black : BitVec 64
  hash : BitVec 64                 -- piece part of hashKey (flags are separate xor terms)
  pHash : BitVec 64
  matId : Int
  wMtrl : Int

variable (T : Tables)

def xorL (l : List (BitVec 64)) : BitVec 64 := l.foldr (· ^^^ ·) 0
def xorAll (f : Nat → BitVec 64) : BitVec 64 := xorL ((List.range 64).map f)
def sumAll (f : Nat → Int) : Int := ((List.range 64).map f).sum

def bit (s : Nat) : BitVec 64 := 1#64 <<< s

/-- the invariant: every redundant field equals its from-scratch value -/
structure Inv (p : Pos) : Prop where
  bb : ∀ pc s, 1 ≤ pc → pc ≤ 12 → s < 64 → (p.bb pc).getLsbD s = decide (p.sq s = pc)
  white : ∀ s, s < 64 → p.white.getLsbD s = (decide (p.sq s ≠ 0) && isWhite (p.sq s))
  black : ∀ s, s < 64 → p.black.getLsbD s = (decide (p.sq s ≠ 0) && !isWhite (p.sq s))
  hash : p.hash = xorAll (fun s => T.key (p.sq s) s)
  pHash : p.pHash = xorAll (fun s => if p.sq s = WPAWN ∨ p.sq s = BPAWN then T.key (p.sq s) s else 0)
  matId : p.matId = sumAll (fun s => T.matId (p.sq s))
  wMtrl : p.wMtrl = sumAll (fun s => if p.sq s ≠ 0 ∧ isWhite (p.sq s) = true then T.value (p.sq s) else 0)
  range : ∀ s, p.sq s ≤ 12

/-- Position::setPiece (white-material part only; black is symmetric).  Written field by field so that every
    projection of the result reduces by `rfl`. -/
def setPiece (p : Pos) (s : Nat) (pc : Pc) : Pos :=
  let removed := p.sq s
  let m := bit s
  { sq := fun x => if x = s then pc else p.sq x
    hash := p.hash ^^^ T.key removed s ^^^ T.key pc s
    matId := p.matId - T.matId removed + T.matId pc
    bb := fun x =>
      let b1 := if x = removed then p.bb x &&& ~~~m else p.bb x
      if x = pc then b1 ||| m else b1
    white :=
      let w1 := if removed ≠ 0 ∧ isWhite removed = true then p.white &&& ~~~m else p.white
      if pc ≠ 0 ∧ isWhite pc = true then w1 ||| m else w1
    black :=
      let b1 := if removed ≠ 0 ∧ isWhite removed = false then p.black &&& ~~~m else p.black
      if pc ≠ 0 ∧ isWhite pc = false then b1 ||| m else b1
    pHash :=
      let h1 := if removed = WPAWN ∨ removed = BPAWN then p.pHash ^^^ T.key removed s else p.pHash
      if pc = WPAWN ∨ pc = BPAWN then h1 ^^^ T.key pc s else h1
    wMtrl :=
      let w1 := if removed ≠ 0 ∧ isWhite removed = true then p.wMtrl - T.value removed else p.wMtrl
      if pc ≠ 0 ∧ isWhite pc = true then w1 + T.value pc else w1 }

/-- changing f at one index changes the xor of all values by (old ^ new) -/
theorem xorL_map_upd (f g : Nat → BitVec 64) (l : List Nat) (s : Nat)
    (hnd : l.Nodup) (hmem : s ∈ l) (hfg : ∀ x, x ≠ s → f x = g x) :
    xorL (l.map f) = xorL (l.map g) ^^^ g s ^^^ f s := by
  induction l with
  | nil => cases hmem
  | cons x l ih =>
    rw [List.nodup_cons] at hnd
    simp only [List.map_cons, xorL, List.foldr_cons]
    by_cases hx : x = s
    · subst hx
      have : l.map f = l.map g := by
        apply List.map_congr_left
        intro y hy; exact hfg y (fun e => hnd.1 (e ▸ hy))
      rw [this]
      have hself : ∀ a : BitVec 64, a ^^^ a = 0 := fun a => BitVec.xor_self
      calc f x ^^^ List.foldr (· ^^^ ·) 0 (l.map g)
          = (g x ^^^ g x) ^^^ (f x ^^^ List.foldr (· ^^^ ·) 0 (l.map g)) := by rw [hself]; simp
        _ = g x ^^^ List.foldr (· ^^^ ·) 0 (l.map g) ^^^ g x ^^^ f x := by ac_rfl
    · have hm : s ∈ l := by
        rcases List.mem_cons.1 hmem with h | h
        · exact absurd h.symm hx
        · exact h
      have := ih hnd.2 hm
      simp only [xorL] at this
      rw [this, hfg x hx]
      ac_rfl

theorem xorAll_upd (f g : Nat → BitVec 64) (s : Nat) (hs : s < 64) (hfg : ∀ x, x ≠ s → f x = g x) :
    xorAll f = xorAll g ^^^ g s ^^^ f s :=
  xorL_map_upd f g (List.range 64) s List.nodup_range (by simp [hs]) hfg

/-- setPiece keeps the Zobrist hash equal to its from-scratch value -/
theorem setPiece_hash (p : Pos) (s : Nat) (pc : Pc) (hs : s < 64) (h : Inv T p) :
    (setPiece T p s pc).hash = xorAll (fun x => T.key ((setPiece T p s pc).sq x) x) := by
  have hh : (setPiece T p s pc).hash = p.hash ^^^ T.key (p.sq s) s ^^^ T.key pc s := rfl
  have hq : (setPiece T p s pc).sq = fun x => if x = s then pc else p.sq x := rfl
  rw [hh, hq, h.hash]
  have := xorAll_upd (fun x => T.key ((fun x => if x = s then pc else p.sq x) x) x) (fun x => T.key (p.sq x) x) s hs
    (by intro x hx; simp [hx])
  rw [this]; simp

theorem bit_get (s j : Nat) (hj : j < 64) (hs : s < 64) : (bit s).getLsbD j = decide (j = s) :=
  PosImpl.bit_get s j hj hs

theorem clr_get (b : BitVec 64) (s j : Nat) (hj : j < 64) (hs : s < 64) :
    (b &&& ~~~(bit s)).getLsbD j = (b.getLsbD j && !decide (j = s)) :=
  PosImpl.clr_get b s j hj hs

theorem set_get (b : BitVec 64) (s j : Nat) (hj : j < 64) (hs : s < 64) :
    (b ||| bit s).getLsbD j = (b.getLsbD j || decide (j = s)) :=
  PosImpl.set_get b s j hj hs

/-- setPiece keeps every piece bitboard equal to "squares holding that piece" -/
theorem setPiece_bb (p : Pos) (s : Nat) (pc : Pc) (hs : s < 64) (h : Inv T p)
    (x : Pc) (j : Nat) (hx1 : 1 ≤ x) (hx2 : x ≤ 12) (hj : j < 64) :
    ((setPiece T p s pc).bb x).getLsbD j = decide ((setPiece T p s pc).sq j = x) := by
  have hb : (setPiece T p s pc).bb x =
      (if x = pc then (if x = p.sq s then p.bb x &&& ~~~(bit s) else p.bb x) ||| bit s
       else (if x = p.sq s then p.bb x &&& ~~~(bit s) else p.bb x)) := rfl
  have hq : (setPiece T p s pc).sq j = if j = s then pc else p.sq j := rfl
  rw [hb, hq]
  have hold := h.bb x j hx1 hx2 hj
  -- bit j of the intermediate board b1
  have hb1 : (if x = p.sq s then p.bb x &&& ~~~(bit s) else p.bb x).getLsbD j =
      (decide (p.sq j = x) && !decide (j = s)) := by
    by_cases hxr : x = p.sq s
    · rw [if_pos hxr, clr_get _ _ _ hj hs, hold]
    · rw [if_neg hxr, hold]
      by_cases hjs : j = s
      · subst hjs
        have : ¬ p.sq j = x := fun e => hxr e.symm
        simp [this]
      · simp [hjs]
  by_cases hxp : x = pc
  · rw [if_pos hxp, set_get _ _ _ hj hs, hb1]
    by_cases hjs : j = s
    · simp [hjs, hxp]
    · simp [hjs]
  · rw [if_neg hxp, hb1]
    by_cases hjs : j = s
    · have : ¬ pc = x := fun e => hxp e.symm
      simp [hjs, this]
    · simp [hjs]

end Ps
