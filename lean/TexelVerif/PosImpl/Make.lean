import TexelVerif.PosImpl.Prims
/-!
`makeMove` / `unMakeMove` on from-scratch states: symbolic execution of the C++ statement sequence with the
primitive lemmas of `Prims.lean`.  The result is again a from-scratch state, of the essential state
`makeC p m` / `unMakeC q m ui` — the board-and-flags effect of the same statement sequence.
-/
namespace PosImpl
open Chess

-- `setSq` stays folded in this file: comparing the same projection of two records, the unifier first tries to unify
-- their boards and unfolds `setSq` down to `Array.setIfInBounds`
attribute [local irreducible] setSq

@[simp] theorem f_squares (T : Tables) (p : Pos) (x : BB) : (xorHash (fresh T p) x).squares = p.b := rfl
@[simp] theorem f_whiteMove (T : Tables) (p : Pos) (x : BB) : (xorHash (fresh T p) x).whiteMove = p.wtm := rfl
@[simp] theorem f_castleMask (T : Tables) (p : Pos) (x : BB) : (xorHash (fresh T p) x).castleMask = p.castle := rfl
@[simp] theorem f_epSquare (T : Tables) (p : Pos) (x : BB) : (xorHash (fresh T p) x).epSquare = p.ep := rfl
@[simp] theorem f_hmc (T : Tables) (p : Pos) (x : BB) : (xorHash (fresh T p) x).halfMoveClock = p.hmc := rfl
@[simp] theorem f_fmc (T : Tables) (p : Pos) (x : BB) : (xorHash (fresh T p) x).fullMoveCounter = p.fmc := rfl

/-- an enemy pawn (code `pawn`) stands beside file `to % 8` on the rank starting at square `base` -/
def adjPawn (b : Board) (base to pawn : Nat) : Prop :=
  (to % 8 > 0 ∧ (getP b (base + to % 8 - 1)).toNat = pawn) ∨ (to % 8 < 7 ∧ (getP b (base + to % 8 + 1)).toNat = pawn)

instance (b : Board) (base to pawn : Nat) : Decidable (adjPawn b base to pawn) := by unfold adjPawn; infer_instance

/-- board after the en-passant removal of the capture-or-pawn branch -/
def epClearedB (b : Board) (m : Mv) (pc : Pc) (prevEp : Option Sq) : Board :=
  if pc = WPAWN then
    if m.t.val = m.f.val + 16 then b
    else if prevEp = some m.t then setSq b (m.t.val - 8) 0 else b
  else if pc = BPAWN then
    if m.t.val + 16 = m.f.val then b
    else if prevEp = some m.t then setSq b (m.t.val + 8) 0 else b
  else b

/-- e.p. square after the capture-or-pawn branch: set by a double step beside an enemy pawn -/
def epNewC (p : Pos) (m : Mv) (pc : Pc) : Option Sq :=
  if pc = WPAWN then
    if m.t.val = m.f.val + 16 then (if adjPawn p.b 24 m.t.val 12 then mkSqN? (m.f.val + 8) else p.ep) else p.ep
  else if pc = BPAWN then
    if m.t.val + 16 = m.f.val then (if adjPawn p.b 32 m.t.val 6 then mkSqN? (m.f.val - 8) else p.ep) else p.ep
  else p.ep

/-- essential-state effect of the capture-or-pawn branch of `makeMove` (field by field: projections need no case split) -/
def capOrPawnC (p : Pos) (m : Mv) (pc : Pc) (prevEp : Option Sq) : Pos :=
  { p with
    b := setSq (setSq (epClearedB p.b m pc prevEp) m.f.val 0) m.t.val (if m.promo ≠ 0 then m.promo else pc)
    ep := epNewC p m pc }

theorem epMaskW_test (T : Tables) (p : Pos) (x : BB) (to : Nat) :
    ((epMaskW (to % 8) &&& (xorHash (fresh T p) x).pbb 12) ≠ 0) ↔ adjPawn p.b 24 to 12 := by
  unfold epMaskW adjPawn
  exact mask_test T p x 12 (by decide) (by decide) _ _ (by omega) (by omega) _ _

theorem epMaskB_test (T : Tables) (p : Pos) (x : BB) (to : Nat) :
    ((epMaskB (to % 8) &&& (xorHash (fresh T p) x).pbb 6) ≠ 0) ↔ adjPawn p.b 32 to 6 := by
  unfold epMaskB adjPawn
  exact mask_test T p x 6 (by decide) (by decide) _ _ (by omega) (by omega) _ _

theorem makeCapOrPawn_fresh (T : Tables) (p : Pos) (x : BB) (m : Mv) (pc : Pc) (prevEp : Option Sq)
    (hb : pc = BPAWN → prevEp = some m.t → m.t.val + 8 < 64) :
    makeCapOrPawn T (xorHash (fresh T p) x) m pc prevEp = xorHash (fresh T (capOrPawnC p m pc prevEp)) x := by
  have hf := m.f.isLt
  have ht := m.t.isLt
  -- after the first block (new e.p. square, or e.p. capture) the rest is two primitives
  have rest : ∀ s, s = xorHash (fresh T { p with b := epClearedB p.b m pc prevEp, ep := epNewC p m pc }) x →
      setPiece T (clearPiece T s m.f.val) m.t.val (if m.promo ≠ 0 then m.promo else pc) =
        xorHash (fresh T (capOrPawnC p m pc prevEp)) x := by
    intro s hs
    rw [hs, clearPiece_fresh _ _ _ _ hf, setPiece_fresh _ _ _ _ _ ht]
    rfl
  apply rest
  unfold epClearedB epNewC
  simp only [epMaskW_test, epMaskB_test]
  -- each test of the C++ is resolved together with the same test in `epClearedB`, `epNewC`
  by_cases hw : pc = WPAWN
  · simp only [if_pos hw]
    split
    · split
      · rw [setEpSquare_fresh]
      · rfl
    · split
      · rw [clearPiece_fresh _ _ _ _ (by omega)]
        rfl
      · rfl
  · simp only [if_neg hw]
    by_cases hbp : pc = BPAWN
    · simp only [if_pos hbp]
      split
      · split
        · rw [setEpSquare_fresh]
        · rfl
      · split
        · rename_i _ h3
          rw [clearPiece_fresh _ _ _ _ (hb hbp h3)]
          rfl
        · rfl
    · simp only [if_neg hbp]

/-- the calling convention of `movePieceNotPawn` -/
structure MoveOkAt (b : Board) (f t : Nat) : Prop where
  hf : f < 64
  ht : t < 64
  hne : getP b f ≠ 0
  hnp : isPawnPc (getP b f) = false
  hte : getP b t = 0
  hft : f ≠ t

theorem MoveOkAt.back {b : Board} {f t : Nat} (h : MoveOkAt b f t) : MoveOkAt (moveB b f t) t f :=
  ⟨h.ht, h.hf, by rw [getP_moveB_to _ _ _ h.ht]; exact h.hne, by rw [getP_moveB_to _ _ _ h.ht]; exact h.hnp,
    getP_moveB_from _ _ _ h.hf h.hft, fun e => h.hft e.symm⟩

theorem MoveOkAt.moveB_back {b : Board} {f t : Nat} (h : MoveOkAt b f t) : moveB (moveB b f t) t f = b :=
  PosImpl.moveB_back b f t h.ht h.hft h.hte

def moveC (p : Pos) (f t : Nat) : Pos := Pos.withB p (moveB p.b f t)

theorem move_fresh (T : Tables) (p : Pos) (x : BB) (f t : Nat) (h : MoveOkAt p.b f t) :
    movePieceNotPawn T (xorHash (fresh T p) x) f t = xorHash (fresh T (moveC p f t)) x :=
  movePieceNotPawn_fresh T p x f t h.hf h.ht h.hne h.hnp h.hte h.hft

def isKingAt (b : Board) (n : Nat) : Prop := (getP b n).toNat = 1 ∨ (getP b n).toNat = 7
instance (b : Board) (n : Nat) : Decidable (isKingAt b n) := by unfold isKingAt; infer_instance

/-- board after the rook part of castling in `makeMove` -/
def rookB (b : Board) (m : Mv) : Board :=
  if isKingAt b m.f.val then
    if m.t.val = m.f.val + 2 then moveB b (m.f.val + 3) (m.f.val + 1)
    else if m.t.val + 2 = m.f.val then moveB b (m.f.val - 4) (m.f.val - 1)
    else b
  else b

def quietB (b : Board) (m : Mv) : Board := moveB (rookB b m) m.f.val m.t.val

/-- essential-state effect of the quiet non-pawn branch of `makeMove` -/
def quietC (p : Pos) (m : Mv) : Pos := Pos.withB p (quietB p.b m)

structure QuietOk (b : Board) (m : Mv) : Prop where
  short : isKingAt b m.f.val → m.t.val = m.f.val + 2 → MoveOkAt b (m.f.val + 3) (m.f.val + 1)
  long : isKingAt b m.f.val → m.t.val + 2 = m.f.val → MoveOkAt b (m.f.val - 4) (m.f.val - 1)
  main : MoveOkAt (rookB b m) m.f.val m.t.val

theorem makeQuiet_fresh (T : Tables) (p : Pos) (x : BB) (m : Mv) (ok : QuietOk p.b m) :
    makeQuiet T (xorHash (fresh T p) x) m = xorHash (fresh T (quietC p m)) x := by
  have rest : ∀ s, s = xorHash (fresh T (Pos.withB p (rookB p.b m))) x →
      movePieceNotPawn T s m.f.val m.t.val = xorHash (fresh T (quietC p m)) x := by
    intro s hs
    rw [hs, move_fresh T _ x _ _ ok.main]
    rfl
  apply rest
  have hk : (((xorHash (fresh T p) x).pbb 1 ||| (xorHash (fresh T p) x).pbb 7) &&& bit m.f.val ≠ 0) ↔
      isKingAt p.b m.f.val :=
    bb2_test T p x 1 7 (by decide) (by decide) (by decide) (by decide) m.f.val m.f.isLt
  unfold rookB
  simp only [hk]
  split
  · split
    · rename_i h1 h2
      rw [move_fresh T p x _ _ (ok.short h1 h2)]
      rfl
    · split
      · rename_i h1 _ h3
        rw [move_fresh T p x _ _ (ok.long h1 h3)]
        rfl
      · rfl
  · rfl

def isPawnAt (b : Board) (n : Nat) : Prop := (getP b n).toNat = 6 ∨ (getP b n).toNat = 12
instance (b : Board) (n : Nat) : Decidable (isPawnAt b n) := by unfold isPawnAt; infer_instance

/-- essential-state effect of `Position::makeMove` -/
def makeC (p : Pos) (m : Mv) : Pos :=
  if getP p.b m.t.val ≠ 0 ∨ isPawnAt p.b m.f.val then
    { b := setSq (setSq (epClearedB p.b m (getP p.b m.f.val) p.ep) m.f.val 0) m.t.val
             (if m.promo ≠ 0 then m.promo else getP p.b m.f.val)
      wtm := !p.wtm
      castle := p.castle &&& castleKeep m.f &&& castleKeep m.t
      ep := epNewC { p with ep := none, hmc := 0 } m (getP p.b m.f.val)
      hmc := 0
      fmc := if p.wtm then p.fmc else p.fmc + 1 }
  else
    { b := quietB p.b m
      wtm := !p.wtm
      castle := p.castle &&& castleKeep m.f &&& castleKeep m.t
      ep := none
      hmc := p.hmc + 1
      fmc := if p.wtm then p.fmc else p.fmc + 1 }

def uiOf (p : Pos) (m : Mv) : UndoInfo :=
  { capturedPiece := getP p.b m.t.val, castleMask := p.castle, epSquare := p.ep, halfMoveClock := p.hmc }

structure MakeOk (p : Pos) (m : Mv) : Prop where
  epB : getP p.b m.f.val = BPAWN → p.ep = some m.t → m.t.val + 8 < 64
  quiet : getP p.b m.t.val = 0 → ¬ isPawnAt p.b m.f.val → QuietOk p.b m

/-- the end of `makeMove`: castling rights, move counter, side to move -/
def makeEnd (T : Tables) (m : Mv) (wtm : Bool) (s : PosImpl) : PosImpl :=
  let s := setCastleMask T s (s.castleMask &&& castleKeep m.f &&& castleKeep m.t)
  { s with fullMoveCounter := if wtm then s.fullMoveCounter else s.fullMoveCounter + 1, whiteMove := !wtm }

/-- `makeMove` as prologue, branch and end, with the locals of the C++ substituted -/
theorem makeMove_eq (T : Tables) (s : PosImpl) (m : Mv) :
    makeMove T s m =
      (makeEnd T m s.whiteMove
        (if s.getPiece m.t.val ≠ 0 ∨
            (((setEpSquare T (xorHash s T.white) none).pbb 6 ||| (setEpSquare T (xorHash s T.white) none).pbb 12) &&&
              bit m.f.val) ≠ 0 then
           makeCapOrPawn T (setHalfMoveClock (setEpSquare T (xorHash s T.white) none) 0) m (s.getPiece m.f.val) s.epSquare
         else
           makeQuiet T (setHalfMoveClock (setEpSquare T (xorHash s T.white) none)
             ((setEpSquare T (xorHash s T.white) none).halfMoveClock + 1)) m),
       { capturedPiece := s.getPiece m.t.val, castleMask := s.castleMask, epSquare := s.epSquare,
         halfMoveClock := s.halfMoveClock }) := rfl

theorem makeEnd_fresh (T : Tables) (q : Pos) (m : Mv) (w : Bool) (hw : q.wtm = w) :
    makeEnd T m w (xorHash (fresh T q) T.white) =
      fresh T { q with castle := q.castle &&& castleKeep m.f &&& castleKeep m.t, wtm := !w,
                       fmc := if w then q.fmc else q.fmc + 1 } := by
  unfold makeEnd
  simp only [setCastleMask_fresh, f_castleMask, f_fmc]
  exact finish_fresh T _ w _ hw

theorem makeMove_fresh_C (T : Tables) (p : Pos) (m : Mv) (ok : MakeOk p m) :
    makeMove T (fresh T p) m = (fresh T (makeC p m), uiOf p m) := by
  have hpawn : (((xorHash (fresh T { p with ep := none }) T.white).pbb 6 |||
        (xorHash (fresh T { p with ep := none }) T.white).pbb 12) &&& bit m.f.val ≠ 0) ↔ isPawnAt p.b m.f.val :=
    bb2_test T { p with ep := none } T.white 6 12 (by decide) (by decide) (by decide) (by decide) m.f.val m.f.isLt
  have e0 : ∀ x, xorHash (xorHash (fresh T p) 0) x = xorHash (fresh T p) x := fun x => by rw [xorHash_zero]
  rw [makeMove_eq, ← xorHash_zero (fresh T p)]
  unfold makeC
  show (_, uiOf p m) = _
  congr 1
  simp only [e0, setEpSquare_fresh, setHalfMoveClock_fresh, getPiece_fresh, f_whiteMove,
    f_epSquare, f_hmc, hpawn]
  split
  · rw [makeCapOrPawn_fresh T _ _ m _ _ ok.epB]
    rw [makeEnd_fresh T _ m p.wtm]
    · rfl
    · rfl
  · rename_i hc
    have hq := ok.quiet (Classical.byContradiction fun h => hc (Or.inl h)) (fun h => hc (Or.inr h))
    rw [makeQuiet_fresh T { p with ep := none, hmc := p.hmc + 1 } _ m hq, makeEnd_fresh T _ m p.wtm]
    · rfl
    · rfl

/-- the piece that moved, as `unMakeMove` determines it -/
def movedPc (q : Pos) (m : Mv) : Pc :=
  if m.promo ≠ 0 then (if !q.wtm then WPAWN else BPAWN) else getP q.b m.t.val

/-- state of `unMakeMove` before the castling and en-passant fix-ups -/
def unMakeC5 (q : Pos) (m : Mv) (ui : UndoInfo) : Pos :=
  let q0 : Pos := { q with wtm := !q.wtm }
  let q1 := Pos.withB q0 (setSq q0.b m.t.val ui.capturedPiece)
  let q2 := Pos.withB q1 (setSq q1.b m.f.val (getP q.b m.t.val))
  let q3 : Pos := { q2 with castle := ui.castleMask, ep := ui.epSquare, hmc := ui.halfMoveClock }
  let q4 := if m.promo ≠ 0 then Pos.withB q3 (setSq q3.b m.f.val (movedPc q m)) else q3
  if !q.wtm then q4 else { q4 with fmc := q4.fmc - 1 }

/-- board after the castling fix-up of `unMakeMove` -/
def unB6 (q : Pos) (m : Mv) (ui : UndoInfo) : Board :=
  if movedPc q m = (if !q.wtm then WKING else BKING) then
    if m.t.val = m.f.val + 2 then moveB (unMakeC5 q m ui).b (m.f.val + 1) (m.f.val + 3)
    else if m.t.val + 2 = m.f.val then moveB (unMakeC5 q m ui).b (m.f.val - 1) (m.f.val - 4)
    else (unMakeC5 q m ui).b
  else (unMakeC5 q m ui).b

/-- board after the en-passant fix-up of `unMakeMove` -/
def unB (q : Pos) (m : Mv) (ui : UndoInfo) : Board :=
  if ui.epSquare = some m.t then
    if movedPc q m = WPAWN then setSq (unB6 q m ui) (m.t.val - 8) BPAWN
    else if movedPc q m = BPAWN then setSq (unB6 q m ui) (m.t.val + 8) WPAWN
    else unB6 q m ui
  else unB6 q m ui

/-- essential-state effect of `Position::unMakeMove`: the fix-ups only touch the board -/
def unMakeC (q : Pos) (m : Mv) (ui : UndoInfo) : Pos := Pos.withB (unMakeC5 q m ui) (unB q m ui)

structure UnMakeOk (q : Pos) (m : Mv) (ui : UndoInfo) : Prop where
  short : movedPc q m = (if !q.wtm then WKING else BKING) → m.t.val = m.f.val + 2 →
    MoveOkAt (unMakeC5 q m ui).b (m.f.val + 1) (m.f.val + 3)
  long : movedPc q m = (if !q.wtm then WKING else BKING) → m.t.val + 2 = m.f.val →
    MoveOkAt (unMakeC5 q m ui).b (m.f.val - 1) (m.f.val - 4)
  epB : ui.epSquare = some m.t → movedPc q m = BPAWN → m.t.val + 8 < 64

theorem unMakeC5_wtm (q : Pos) (m : Mv) (ui : UndoInfo) : (unMakeC5 q m ui).wtm = !q.wtm := by
  unfold unMakeC5 Pos.withB; simp only []; split <;> split <;> rfl

theorem unMakeC5_ep (q : Pos) (m : Mv) (ui : UndoInfo) : (unMakeC5 q m ui).ep = ui.epSquare := by
  unfold unMakeC5 Pos.withB; simp only []; split <;> split <;> rfl

theorem unMakeMove_fresh_C (T : Tables) (q : Pos) (m : Mv) (ui : UndoInfo) (ok : UnMakeOk q m ui) :
    unMakeMove T (fresh T q) m ui = fresh T (unMakeC q m ui) := by
  have hf := m.f.isLt
  have ht := m.t.isLt
  have h5 : ∀ {α : Type} (k : Bool → Pc → PosImpl → α),
      (let s := toggleSide T (xorHash (fresh T q) 0)
       let p := s.getPiece m.t.val
       let s := setPiece T s m.t.val ui.capturedPiece
       let s := setPiece T s m.f.val p
       let s := setCastleMask T s ui.castleMask
       let s := setEpSquare T s ui.epSquare
       let s := setHalfMoveClock s ui.halfMoveClock
       let wtm := s.whiteMove
       let p2 : Pc := if m.promo ≠ 0 then (if wtm then WPAWN else BPAWN) else p
       let s := if m.promo ≠ 0 then setPiece T s m.f.val p2 else s
       let s := if wtm then s else setFullMoveCounter s (s.fullMoveCounter - 1)
       k wtm p2 s) = k (!q.wtm) (movedPc q m) (xorHash (fresh T (unMakeC5 q m ui)) 0) := by
    intro α k
    simp only [toggleSide_fresh, getPiece_fresh, setPiece_fresh _ _ _ _ _ ht, setPiece_fresh _ _ _ _ _ hf,
      setCastleMask_fresh, setEpSquare_fresh, setHalfMoveClock_fresh, f_whiteMove]
    unfold unMakeC5 movedPc
    simp only [Pos.withB]
    by_cases hp : m.promo ≠ 0
    · simp only [if_pos hp, f_fmc]
      cases hw : q.wtm <;> simp [setFullMoveCounter_fresh]
    · simp only [if_neg hp, f_fmc]
      cases hw : q.wtm <;> simp [setFullMoveCounter_fresh]
  rw [← xorHash_zero (fresh T q)]
  refine Eq.trans (h5 (fun wtm p2 s =>
      let king : Pc := if wtm then WKING else BKING
      let s :=
        if p2 = king then
          if m.t.val = m.f.val + 2 then movePieceNotPawn T s (m.f.val + 1) (m.f.val + 3)
          else if m.t.val + 2 = m.f.val then movePieceNotPawn T s (m.f.val - 1) (m.f.val - 4)
          else s
        else s
      if s.epSquare = some m.t then
        if p2 = WPAWN then setPiece T s (m.t.val - 8) BPAWN
        else if p2 = BPAWN then setPiece T s (m.t.val + 8) WPAWN
        else s
      else s)) ?_
  simp only []
  have h6 : (if movedPc q m = (if (!q.wtm) = true then WKING else BKING) then
        if m.t.val = m.f.val + 2 then movePieceNotPawn T (xorHash (fresh T (unMakeC5 q m ui)) 0) (m.f.val + 1) (m.f.val + 3)
        else if m.t.val + 2 = m.f.val then movePieceNotPawn T (xorHash (fresh T (unMakeC5 q m ui)) 0) (m.f.val - 1) (m.f.val - 4)
        else xorHash (fresh T (unMakeC5 q m ui)) 0
      else xorHash (fresh T (unMakeC5 q m ui)) 0) =
      xorHash (fresh T (Pos.withB (unMakeC5 q m ui) (unB6 q m ui))) 0 := by
    unfold unB6
    by_cases h1 : movedPc q m = (if (!q.wtm) = true then WKING else BKING)
    · simp only [if_pos h1]
      by_cases h2 : m.t.val = m.f.val + 2
      · simp only [if_pos h2]
        rw [move_fresh T _ _ _ _ (ok.short h1 h2)]
        rfl
      · simp only [if_neg h2]
        by_cases h3 : m.t.val + 2 = m.f.val
        · simp only [if_pos h3]
          rw [move_fresh T _ _ _ _ (ok.long h1 h3)]
          rfl
        · simp only [if_neg h3]
          rfl
    · simp only [if_neg h1]
      rfl
  have hep : (Pos.withB (unMakeC5 q m ui) (unB6 q m ui)).ep = ui.epSquare := unMakeC5_ep q m ui
  simp only [h6, f_epSquare, hep]
  unfold unMakeC unB
  split
  · split
    · rw [setPiece_fresh _ _ _ _ _ (by omega), xorHash_zero]
      rfl
    · split
      · rename_i h1 _ h3
        rw [setPiece_fresh _ _ _ _ _ (ok.epB h1 h3), xorHash_zero]
        rfl
      · rw [xorHash_zero]
  · rw [xorHash_zero]
