import TexelVerif.PosImpl.Make
import TexelVerif.Chess.SpecEquations
/-!
Part 1: what a pseudo-legal move looks like in square-index terms (pawn push / double step / capture, king step /
castling with the contents of the castling squares) and piece-code facts — about the specification only.
Part 2: the calling conventions inside `makeMove` hold (`makeOk_of_pseudo`), and `makeC = Chess.apply`, field by field.
-/
namespace PosImpl
open Chess

/-! ## Part 1 (of this directory it uses only `getP`, `getP_eq`, `pcWhite`, `isPawnPc`) -/

/-- a property of all 256 codes from a 16 × 16 check (which keeps the `Decidable` instance of the check shallow) -/
theorem forall_256 (P : Nat → Prop) (h : ∀ a b : Fin 16, P (16 * a.val + b.val)) (n : Fin 256) : P n.val := by
  have := h ⟨n.val / 16, by omega⟩ ⟨n.val % 16, Nat.mod_lt _ (by decide)⟩
  rwa [Nat.div_add_mod] at this

theorem own_true_cases : ∀ (w : Bool) (n : Fin 256), own w (UInt8.ofNat n.val) = true →
    (w = true ∧ 1 ≤ n.val ∧ n.val ≤ 6) ∨ (w = false ∧ 7 ≤ n.val ∧ n.val ≤ 12) := by
  intro w n h
  unfold own isWhite isBlack at h
  cases w <;> simp [UInt8.le_iff_toNat_le, UInt8.size] at h ⊢ <;> omega

theorem pseudo_basic (p : Pos) (m : Mv) (h : pseudo p m = true) :
    own p.wtm (getP p.b m.f.val) = true ∧ own p.wtm (getP p.b m.t.val) = false ∧ m.f.val ≠ m.t.val := by
  have hb := Chess.pseudo_basic p m h
  simp only [at_eq] at hb
  exact ⟨hb.1, hb.2.1, fun e => hb.2.2 (Fin.ext e)⟩

theorem mkSq?_some (x y : Int) (q : Sq) (h : mkSq? x y = some q) :
    (q.val : Int) = y * 8 + x ∧ 0 ≤ x ∧ x < 8 ∧ 0 ≤ y ∧ y < 8 := by
  obtain ⟨hx, hy⟩ := (mkSq?_eq_some x y q).1 h
  have := Sq.x_lt q; have := Sq.y_lt q; have := Sq.val_eq q
  omega

theorem pseudo_wpawn (p : Pos) (m : Mv) (h : pseudo p m = true) (hpc : getP p.b m.f.val = WPAWN) :
    p.wtm = true ∧ promoOk true m = true ∧
    ((m.t.val = m.f.val + 8 ∧ getP p.b m.t.val = 0) ∨
     (m.t.val = m.f.val + 16 ∧ m.f.val / 8 = 1 ∧ getP p.b m.t.val = 0 ∧ getP p.b (m.f.val + 8) = 0) ∨
     (((m.t.val + 1 = m.f.val + 8 ∧ m.f.val % 8 ≠ 0) ∨ (m.t.val = m.f.val + 9 ∧ m.f.val % 8 ≠ 7)) ∧
        (getP p.b m.t.val ≠ 0 ∨ p.ep = some m.t))) := by
  have hb := pseudo_basic p m h
  have hw : p.wtm = true := by
    have := hb.1; rw [hpc] at this
    cases hh : p.wtm
    · rw [hh] at this; exact absurd this (by decide)
    · rfl
  unfold pseudo at h
  simp only [Bool.and_eq_true, at_eq, hpc, hw] at h
  obtain ⟨_, h4⟩ := h
  have hk : kind WPAWN = 6 := by decide
  simp only [hk, Bool.and_eq_true, Bool.or_eq_true, beq_iff_eq, bne_iff_ne, if_true, ne_eq] at h4
  obtain ⟨hpr, hmv⟩ := h4
  refine ⟨hw, hpr, ?_⟩
  have hf := m.f.isLt
  have ht := m.t.isLt
  unfold dxy Sq.x Sq.y at hmv
  simp only [] at hmv
  rcases hmv with (⟨⟨h1, h2⟩, h3⟩ | ⟨⟨⟨⟨h1, h2⟩, h3⟩, h4⟩, h5⟩) | ⟨⟨h1, h2⟩, h3⟩
  · left; exact ⟨by omega, h3⟩
  · right; left
    refine ⟨by omega, by omega, h4, ?_⟩
    cases hq : mkSq? ((m.f.val % 8 : Nat) : Int) (((m.f.val / 8 : Nat) : Int) + 1) with
    | none =>
      have := (mkSq?_eq_none _ _).1 hq
      omega
    | some q =>
      rw [hq] at h5
      simp only [beq_iff_eq] at h5
      have := (mkSq?_some _ _ q hq).1
      have : q.val = m.f.val + 8 := by omega
      rw [← this]; exact h5
  · right; right
    refine ⟨by omega, ?_⟩
    rcases h3 with h3 | h3
    · left; exact h3
    · right; exact h3

theorem pseudo_bpawn (p : Pos) (m : Mv) (h : pseudo p m = true) (hpc : getP p.b m.f.val = BPAWN) :
    p.wtm = false ∧ promoOk false m = true ∧
    ((m.t.val + 8 = m.f.val ∧ getP p.b m.t.val = 0) ∨
     (m.t.val + 16 = m.f.val ∧ m.f.val / 8 = 6 ∧ getP p.b m.t.val = 0 ∧ getP p.b (m.f.val - 8) = 0) ∨
     (((m.t.val + 9 = m.f.val ∧ m.f.val % 8 ≠ 0) ∨ (m.t.val + 7 = m.f.val ∧ m.f.val % 8 ≠ 7)) ∧
        (getP p.b m.t.val ≠ 0 ∨ p.ep = some m.t))) := by
  have hb := pseudo_basic p m h
  have hw : p.wtm = false := by
    have := hb.1; rw [hpc] at this
    cases hh : p.wtm
    · rfl
    · rw [hh] at this; exact absurd this (by decide)
  unfold pseudo at h
  simp only [Bool.and_eq_true, at_eq, hpc, hw] at h
  obtain ⟨_, h4⟩ := h
  have hk : kind BPAWN = 6 := by decide
  simp only [hk, Bool.and_eq_true, Bool.or_eq_true, beq_iff_eq, bne_iff_ne, ne_eq, Bool.false_eq_true, if_false] at h4
  obtain ⟨hpr, hmv⟩ := h4
  refine ⟨hw, hpr, ?_⟩
  have hf := m.f.isLt
  have ht := m.t.isLt
  unfold dxy Sq.x Sq.y at hmv
  simp only [] at hmv
  rcases hmv with (⟨⟨h1, h2⟩, h3⟩ | ⟨⟨⟨⟨h1, h2⟩, h3⟩, h4⟩, h5⟩) | ⟨⟨h1, h2⟩, h3⟩
  · left; exact ⟨by omega, h3⟩
  · right; left
    refine ⟨by omega, by omega, h4, ?_⟩
    cases hq : mkSq? ((m.f.val % 8 : Nat) : Int) (((m.f.val / 8 : Nat) : Int) + -1) with
    | none =>
      have := (mkSq?_eq_none _ _).1 hq
      omega
    | some q =>
      rw [hq] at h5
      simp only [beq_iff_eq] at h5
      have := (mkSq?_some _ _ q hq).1
      have : q.val = m.f.val - 8 := by omega
      rw [← this]; exact h5
  · right; right
    refine ⟨by omega, ?_⟩
    rcases h3 with h3 | h3
    · left; exact h3
    · right; exact h3

theorem forall_pc (P : Pc → Prop) (h : ∀ n : Fin 256, P (UInt8.ofNat n.val)) (pc : Pc) : P pc := by
  have := h ⟨pc.toNat, pc.toNat_lt⟩
  simpa using this

def KindFacts (pc : Pc) : Prop :=
    ((pc.toNat = 1 ∨ pc.toNat = 7) ↔ kind pc = 1) ∧
    ((pc.toNat = 6 ∨ pc.toNat = 12) ↔ kind pc = 6) ∧
    (isPawnPc pc = true ↔ kind pc = 6)

instance (pc : Pc) : Decidable (KindFacts pc) := by unfold KindFacts; infer_instance

theorem kind_facts_all : ∀ n : Fin 256, KindFacts (UInt8.ofNat n.val) :=
  forall_256 (fun k => KindFacts (UInt8.ofNat k)) (by decide +kernel)

theorem kindFacts (pc : Pc) : KindFacts pc := forall_pc KindFacts kind_facts_all pc

theorem isPawnPc_iff (pc : Pc) : isPawnPc pc = true ↔ kind pc = 6 := (kindFacts pc).2.2

theorem own_white (pc : Pc) (h : own true pc = true) :
    pc ≠ 0 ∧ pcWhite pc = true ∧ (kind pc = 6 → pc = WPAWN) ∧ (kind pc = 1 → pc = WKING) := by
  have : ∀ x ∈ ownCodes true, x ≠ 0 ∧ pcWhite x = true ∧ (kind x = 6 → x = WPAWN) ∧ (kind x = 1 → x = WKING) := by
    decide
  exact this pc (own_mem true pc h)

theorem own_black (pc : Pc) (h : own false pc = true) :
    pc ≠ 0 ∧ pcWhite pc = false ∧ (kind pc = 6 → pc = BPAWN) ∧ (kind pc = 1 → pc = BKING) := by
  have : ∀ x ∈ ownCodes false, x ≠ 0 ∧ pcWhite x = false ∧ (kind x = 6 → x = BPAWN) ∧ (kind x = 1 → x = BKING) := by
    decide
  exact this pc (own_mem false pc h)

theorem toNat_eq_iff (pc : Pc) (n : Nat) (hn : n < 256) : pc.toNat = n ↔ pc = UInt8.ofNat n := by
  constructor
  · intro h; apply UInt8.toNat_inj.1; rw [h]; simp; omega
  · intro h; rw [h]; simp; omega

theorem toNat_12 (pc : Pc) : pc.toNat = 12 ↔ pc = BPAWN := toNat_eq_iff pc 12 (by decide)

theorem toNat_6 (pc : Pc) : pc.toNat = 6 ↔ pc = WPAWN := toNat_eq_iff pc 6 (by decide)

theorem kind_wpawn : kind WPAWN = 6 := by decide

theorem kind_bpawn : kind BPAWN = 6 := by decide

theorem not_pawn_of_kind (pc : Pc) (hk : kind pc ≠ 6) : pc ≠ WPAWN ∧ pc ≠ BPAWN := by
  constructor
  · intro h; rw [h] at hk; exact hk kind_wpawn
  · intro h; rw [h] at hk; exact hk kind_bpawn

theorem pawn_of_kind (p : Pos) (m : Mv) (h : pseudo p m = true) (hk6 : kind (getP p.b m.f.val) = 6) :
    (p.wtm = true ∧ getP p.b m.f.val = WPAWN) ∨ (p.wtm = false ∧ getP p.b m.f.val = BPAWN) := by
  have hb := pseudo_basic p m h
  cases hw : p.wtm
  · rw [hw] at hb; exact Or.inr ⟨rfl, (own_black _ hb.1).2.2.1 hk6⟩
  · rw [hw] at hb; exact Or.inl ⟨rfl, (own_white _ hb.1).2.2.1 hk6⟩

theorem apply_wtm (p : Pos) (m : Mv) : (Chess.apply p m).wtm = !p.wtm := rfl

theorem apply_castle (p : Pos) (m : Mv) : (Chess.apply p m).castle = p.castle &&& castleKeep m.f &&& castleKeep m.t := rfl

theorem apply_fmc (p : Pos) (m : Mv) : (Chess.apply p m).fmc = if p.wtm then p.fmc else p.fmc + 1 := rfl

theorem apply_hmc (p : Pos) (m : Mv) :
    (Chess.apply p m).hmc = if (kind (getP p.b m.f.val) == 6 || getP p.b m.t.val != 0) then 0 else p.hmc + 1 := by
  unfold Chess.apply; simp only [at_eq]

theorem getD_eq_getP (b : Board) (n : Nat) : b.getD n 0 = getP b n := rfl

theorem ep_white_facts (p : Pos) (m : Mv) (h : pseudo p m = true) (he : EpOk p) (hpc : getP p.b m.f.val = WPAWN)
    (hep : p.ep = some m.t) : getP p.b m.t.val = 0 ∧ m.t.val ≠ m.f.val + 16 ∧ m.f.val % 8 ≠ m.t.val % 8 := by
  obtain ⟨hw, _, hmv⟩ := pseudo_wpawn p m h hpc
  have h2 := he m.t hep
  rw [hw] at h2
  simp only [if_true] at h2
  have hbw : ¬ WPAWN = BPAWN := by decide
  have hb0 : ¬ (0 : Pc) = BPAWN := by decide
  rcases hmv with h1 | h1 | h1
  · exfalso
    have : m.t.val - 8 = m.f.val := by omega
    rw [this, hpc] at h2; exact hbw h2.2
  · exfalso
    have : m.t.val - 8 = m.f.val + 8 := by omega
    rw [this, h1.2.2.2] at h2; exact hb0 h2.2
  · refine ⟨h2.1, by omega, by omega⟩

theorem isEp_white (p : Pos) (m : Mv) (h : pseudo p m = true) (he : EpOk p) (hpc : getP p.b m.f.val = WPAWN) :
    isEp p m = decide (p.ep = some m.t) := by
  unfold isEp; simp only [at_eq]
  rw [hpc, kind_wpawn]
  by_cases hep : p.ep = some m.t
  · obtain ⟨h1, _, h3⟩ := ep_white_facts p m h he hpc hep
    have hx : (m.f.x != m.t.x) = true := by
      unfold Sq.x; simp only [bne_iff_ne, ne_eq]; exact h3
    simp [hep, h1, hx]
  · simp [hep]

theorem ep_black_facts (p : Pos) (m : Mv) (h : pseudo p m = true) (he : EpOk p) (hpc : getP p.b m.f.val = BPAWN)
    (hep : p.ep = some m.t) : getP p.b m.t.val = 0 ∧ m.t.val + 16 ≠ m.f.val ∧ m.f.val % 8 ≠ m.t.val % 8 := by
  obtain ⟨hw, _, hmv⟩ := pseudo_bpawn p m h hpc
  have h2 := he m.t hep
  rw [hw] at h2
  simp only [Bool.false_eq_true, if_false] at h2
  have hbw : ¬ BPAWN = WPAWN := by decide
  have hb0 : ¬ (0 : Pc) = WPAWN := by decide
  rcases hmv with h1 | h1 | h1
  · exfalso
    have : m.t.val + 8 = m.f.val := by omega
    rw [this, hpc] at h2; exact hbw h2.2
  · exfalso
    have : m.t.val + 8 = m.f.val - 8 := by omega
    rw [this, h1.2.2.2] at h2; exact hb0 h2.2
  · refine ⟨h2.1, by omega, by omega⟩

theorem isEp_black (p : Pos) (m : Mv) (h : pseudo p m = true) (he : EpOk p) (hpc : getP p.b m.f.val = BPAWN) :
    isEp p m = decide (p.ep = some m.t) := by
  unfold isEp; simp only [at_eq]
  rw [hpc, kind_bpawn]
  by_cases hep : p.ep = some m.t
  · obtain ⟨h1, _, h3⟩ := ep_black_facts p m h he hpc hep
    have hx : (m.f.x != m.t.x) = true := by
      unfold Sq.x; simp only [bne_iff_ne, ne_eq]; exact h3
    simp [hep, h1, hx]
  · simp [hep]

/-! ## Part 2 -/

theorem kingAt_iff (b : Board) (n : Nat) : isKingAt b n ↔ kind (getP b n) = 1 := (kindFacts (getP b n)).1

theorem pawnAt_iff (b : Board) (n : Nat) : isPawnAt b n ↔ kind (getP b n) = 6 := (kindFacts (getP b n)).2.1

theorem rook_not_pawn (w : Bool) : (if w then WROOK else BROOK) ≠ (0 : Pc) ∧ isPawnPc (if w then WROOK else BROOK) = false := by
  cases w <;> decide

/-- a king move is a plain step, or castling from the e-file with the squares between empty and the own rook in the corner -/
theorem king_shape (p : Pos) (m : Mv) (h : pseudo p m = true) (hk : isKingAt p.b m.f.val) :
    (m.t.val ≠ m.f.val + 2 ∧ m.t.val + 2 ≠ m.f.val) ∨
    (m.t.val = m.f.val + 2 ∧ m.f.val + 3 < 64 ∧ getP p.b (m.f.val + 1) = 0 ∧ getP p.b (m.f.val + 2) = 0 ∧
      getP p.b (m.f.val + 3) = (if p.wtm then WROOK else BROOK)) ∨
    (m.t.val + 2 = m.f.val ∧ 4 ≤ m.f.val ∧ getP p.b (m.f.val - 1) = 0 ∧ getP p.b (m.f.val - 2) = 0 ∧
      getP p.b (m.f.val - 3) = 0 ∧ getP p.b (m.f.val - 4) = (if p.wtm then WROOK else BROOK)) := by
  have hsq : ∀ w : Bool, 4 ≤ (if w then 4 else 60) ∧ (if w then 4 else 60) + 3 < 64 := by
    intro w; cases w <;> decide
  rcases (pseudo_king_val p m h (by rw [at_eq]; exact (kindFacts _).1.1 hk)).2 with h3 | ⟨h2, h4, h5⟩ | ⟨h2, h4, h5⟩
  · exact Or.inl h3
  · have hc := (castleOk_short p h5).2
    rw [← h4] at hc
    exact Or.inr (Or.inl ⟨h2, by rw [h4]; exact (hsq p.wtm).2, hc⟩)
  · have hc := (castleOk_long p h5).2
    rw [← h4] at hc
    exact Or.inr (Or.inr ⟨h2, by rw [h4]; exact (hsq p.wtm).1, hc⟩)

theorem rookB_keep (p : Pos) (m : Mv) (h : pseudo p m = true) :
    getP (rookB p.b m) m.f.val = getP p.b m.f.val ∧ getP (rookB p.b m) m.t.val = getP p.b m.t.val := by
  unfold rookB
  by_cases hk : isKingAt p.b m.f.val
  · rw [if_pos hk]
    rcases king_shape p m h hk with h3 | ⟨h2, _⟩ | ⟨h2, hge, _⟩
    · rw [if_neg h3.1, if_neg h3.2]
      exact ⟨rfl, rfl⟩
    · rw [if_pos h2]
      exact ⟨getP_moveB_ne _ _ _ _ (by omega) (by omega), getP_moveB_ne _ _ _ _ (by omega) (by omega)⟩
    · rw [if_neg (by omega), if_pos h2]
      exact ⟨getP_moveB_ne _ _ _ _ (by omega) (by omega), getP_moveB_ne _ _ _ _ (by omega) (by omega)⟩
  · rw [if_neg hk]
    exact ⟨rfl, rfl⟩

theorem quietOk_of_pseudo (p : Pos) (m : Mv) (h : pseudo p m = true) (htg : getP p.b m.t.val = 0)
    (hnp : ¬ isPawnAt p.b m.f.val) : QuietOk p.b m := by
  have hb := pseudo_basic p m h
  have hk6 : kind (getP p.b m.f.val) ≠ 6 := fun hk => hnp ((pawnAt_iff _ _).2 hk)
  have hne : getP p.b m.f.val ≠ 0 := own_ne_zero _ _ hb.1
  have hnpp : isPawnPc (getP p.b m.f.val) = false := by
    cases hh : isPawnPc (getP p.b m.f.val)
    · rfl
    · exact absurd ((isPawnPc_iff _).1 hh) hk6
  have hr := rook_not_pawn p.wtm
  have keep := rookB_keep p m h
  refine ⟨?_, ?_, ⟨m.f.isLt, m.t.isLt, by rw [keep.1]; exact hne, by rw [keep.1]; exact hnpp, by rw [keep.2]; exact htg, hb.2.2⟩⟩
  · intro hk h2
    rcases king_shape p m h hk with h3 | ⟨_, hlt, e1, _, e3⟩ | ⟨h3, _⟩
    · exact absurd h2 h3.1
    · exact ⟨hlt, by omega, by rw [e3]; exact hr.1, by rw [e3]; exact hr.2, e1, by omega⟩
    · omega
  · intro hk h2
    rcases king_shape p m h hk with h3 | ⟨h3, _⟩ | ⟨_, hge, e1, _, _, e4⟩
    · exact absurd h2 h3.2
    · omega
    · exact ⟨by omega, by omega, by rw [e4]; exact hr.1, by rw [e4]; exact hr.2, e1, by omega⟩

theorem makeOk_of_pseudo (p : Pos) (m : Mv) (h : pseudo p m = true) (he : EpOk p) : MakeOk p m := by
  refine ⟨?_, quietOk_of_pseudo p m h⟩
  intro hpc hep
  have hw := (pseudo_bpawn p m h hpc).1
  have h2 := (he m.t hep).2
  rw [hw] at h2
  simp only [Bool.false_eq_true, if_false] at h2
  apply Classical.byContradiction
  intro hlt
  rw [getP_oob _ _ hlt] at h2
  exact absurd h2 (by decide)

theorem makeC_cap (p : Pos) (m : Mv) (hc : getP p.b m.t.val ≠ 0 ∨ isPawnAt p.b m.f.val) :
    makeC p m =
      { b := setSq (setSq (epClearedB p.b m (getP p.b m.f.val) p.ep) m.f.val 0) m.t.val
               (if m.promo ≠ 0 then m.promo else getP p.b m.f.val)
        wtm := !p.wtm
        castle := p.castle &&& castleKeep m.f &&& castleKeep m.t
        ep := epNewC { p with ep := none, hmc := 0 } m (getP p.b m.f.val)
        hmc := 0
        fmc := if p.wtm then p.fmc else p.fmc + 1 } := by
  unfold makeC
  rw [if_pos hc]

theorem makeC_quiet (p : Pos) (m : Mv) (hc : ¬ (getP p.b m.t.val ≠ 0 ∨ isPawnAt p.b m.f.val)) :
    makeC p m =
      { b := quietB p.b m
        wtm := !p.wtm
        castle := p.castle &&& castleKeep m.f &&& castleKeep m.t
        ep := none
        hmc := p.hmc + 1
        fmc := if p.wtm then p.fmc else p.fmc + 1 } := by
  unfold makeC
  rw [if_neg hc]

/-- Texel tests adjacency on the old board along the rank starting at `base`, the specification on the new board beside `to` -/
theorem adjPawn_iff (p : Pos) (m : Mv) (base code : Nat) (pawn : Pc) (hcode : ∀ pc : Pc, pc.toNat = code ↔ pc = pawn)
    (hbase : base = 8 * (m.t.val / 8)) (hrank : m.f.val / 8 ≠ m.t.val / 8)
    (hb3 : ∀ k, k ≠ m.f.val → k ≠ m.t.val → getP (movedB p m) k = getP p.b k) :
    adjPawn p.b base m.t.val code ↔
      ((decide (m.t.x > 0) && getP (movedB p m) (m.t.val - 1) == pawn) ||
       (decide (m.t.x < 7) && getP (movedB p m) (m.t.val + 1) == pawn)) = true := by
  have ht := m.t.isLt
  have e1 : m.t.x > 0 → getP (movedB p m) (m.t.val - 1) = getP p.b (base + m.t.val % 8 - 1) := by
    intro hx; unfold Sq.x at hx
    rw [hb3 _ (by omega) (by omega)]; congr 1; omega
  have e2 : m.t.x < 7 → getP (movedB p m) (m.t.val + 1) = getP p.b (base + m.t.val % 8 + 1) := by
    intro hx; unfold Sq.x at hx
    rw [hb3 _ (by omega) (by omega)]; congr 1; omega
  unfold adjPawn
  simp only [Bool.or_eq_true, Bool.and_eq_true, decide_eq_true_eq, beq_iff_eq, hcode]
  constructor
  · rintro (⟨a, b⟩ | ⟨a, b⟩)
    · left; have a' : m.t.x > 0 := a; exact ⟨a', by rw [e1 a']; exact b⟩
    · right; have a' : m.t.x < 7 := a; exact ⟨a', by rw [e2 a']; exact b⟩
  · rintro (⟨a, b⟩ | ⟨a, b⟩)
    · left; exact ⟨a, by rw [← e1 a]; exact b⟩
    · right; exact ⟨a, by rw [← e2 a]; exact b⟩

theorem apply_hmc_cap (p : Pos) (m : Mv) (hc : getP p.b m.t.val ≠ 0 ∨ isPawnAt p.b m.f.val) :
    (if (kind (getP p.b m.f.val) == 6 || getP p.b m.t.val != 0) then 0 else p.hmc + 1) = 0 := by
  rw [pawnAt_iff] at hc
  rcases hc with h1 | h1
  · simp [h1]
  · simp [h1]

theorem apply_hmc_quiet (p : Pos) (m : Mv) (hc : ¬ (getP p.b m.t.val ≠ 0 ∨ isPawnAt p.b m.f.val)) :
    (if (kind (getP p.b m.f.val) == 6 || getP p.b m.t.val != 0) then 0 else p.hmc + 1) = p.hmc + 1 := by
  rw [pawnAt_iff] at hc
  have h1 : getP p.b m.t.val = 0 := Classical.byContradiction fun hh => hc (Or.inl hh)
  have h2 : ¬ kind (getP p.b m.f.val) = 6 := fun hh => hc (Or.inr hh)
  simp [h1, h2]

theorem epClearedB_id (b : Board) (m : Mv) (pc : Pc) (e : Option Sq)
    (h : e = some m.t → pc ≠ WPAWN ∧ pc ≠ BPAWN) : epClearedB b m pc e = b := by
  unfold epClearedB
  by_cases he : e = some m.t
  · rw [if_neg (h he).1, if_neg (h he).2]
  · simp only [if_neg he, ite_self]

theorem epClearedB_spec (p : Pos) (m : Mv) (h : pseudo p m = true) (he : EpOk p) :
    epClearedB p.b m (getP p.b m.f.val) p.ep =
      if isEp p m then setSq p.b (if p.wtm then m.t.val - 8 else m.t.val + 8) 0 else p.b := by
  by_cases hk6 : kind (getP p.b m.f.val) = 6
  · rcases pawn_of_kind p m h hk6 with ⟨hw, hpc⟩ | ⟨hw, hpc⟩
    · rw [isEp_white p m h he hpc, hpc, hw]
      unfold epClearedB
      simp only [decide_eq_true_eq, if_true]
      by_cases hep : p.ep = some m.t
      · rw [if_neg (ep_white_facts p m h he hpc hep).2.1]
      · simp only [if_neg hep, ite_self]
    · have hbw : ¬ BPAWN = WPAWN := by decide
      rw [isEp_black p m h he hpc, hpc, hw]
      unfold epClearedB
      simp only [decide_eq_true_eq, if_neg hbw, if_true, Bool.false_eq_true, if_false]
      by_cases hep : p.ep = some m.t
      · rw [if_neg (ep_black_facts p m h he hpc hep).2.1]
      · simp only [if_neg hep, ite_self]
  · have hk6b : (kind (getP p.b m.f.val) == 6) = false := by simpa using hk6
    have hisEp : isEp p m = false := by unfold isEp; simp only [at_eq]; rw [hk6b]; rfl
    rw [hisEp, epClearedB_id _ _ _ _ (fun _ => not_pawn_of_kind _ hk6)]
    rfl

/-- a capture or pawn move is not castling -/
theorem applyB_cap (p : Pos) (m : Mv) (h : pseudo p m = true)
    (hc : getP p.b m.t.val ≠ 0 ∨ isPawnAt p.b m.f.val) : applyB p m = movedB p m := by
  unfold applyB; simp only [at_eq]
  by_cases hk : isKingAt p.b m.f.val
  · have htg : getP p.b m.t.val ≠ 0 := by
      rcases hc with h1 | h1
      · exact h1
      · have := (pawnAt_iff _ _).1 h1
        rw [(kingAt_iff _ _).1 hk] at this
        exact absurd this (by decide)
    rcases king_shape p m h hk with h3 | ⟨h2, _, _, e2, _⟩ | ⟨h2, _, _, e2, _⟩
    · simp [h3.1, h3.2]
    · rw [← h2] at e2; exact absurd e2 htg
    · rw [show m.f.val - 2 = m.t.val by omega] at e2; exact absurd e2 htg
  · have hkb : (kind (getP p.b m.f.val) == 1) = false := by
      have : ¬ kind (getP p.b m.f.val) = 1 := fun hh => hk ((kingAt_iff _ _).2 hh)
      simpa using this
    simp [hkb]

theorem capB_spec (p : Pos) (m : Mv) (h : pseudo p m = true) (he : EpOk p)
    (hc : getP p.b m.t.val ≠ 0 ∨ isPawnAt p.b m.f.val) :
    setSq (setSq (epClearedB p.b m (getP p.b m.f.val) p.ep) m.f.val 0) m.t.val
      (if m.promo ≠ 0 then m.promo else getP p.b m.f.val) = applyB p m := by
  rw [applyB_cap p m h hc, epClearedB_spec p m h he]
  unfold movedB; simp only [at_eq]
  simp only [bne_iff_ne, ne_eq]

/-- the square a double step passes over: `from ± 8` in `makeMove`, the midpoint in the specification -/
theorem mkSqN?_mid (m : Mv) (k : Nat) (hk : 2 * k = m.f.val + m.t.val) :
    mkSqN? k = some ⟨((m.f.val + m.t.val) / 2) % 64, Nat.mod_lt _ (by decide)⟩ := by
  have hf := m.f.isLt
  have ht := m.t.isLt
  unfold mkSqN?
  rw [dif_pos (by omega : k < 64)]
  congr 1
  apply Fin.ext
  simp only []
  omega

theorem epNewC_spec (p : Pos) (m : Mv) (h : pseudo p m = true) (he : EpOk p) :
    epNewC { p with ep := none, hmc := 0 } m (getP p.b m.f.val) = newEp p m := by
  have hf := m.f.isLt
  have ht := m.t.isLt
  by_cases hk6 : kind (getP p.b m.f.val) = 6
  · have hb4 := applyB_cap p m h (Or.inr ((pawnAt_iff _ _).2 hk6))
    have hb3 : ¬ p.ep = some m.t → ∀ k, k ≠ m.f.val → k ≠ m.t.val → getP (movedB p m) k = getP p.b k := by
      intro hne k hkf hkt
      have hisEp : isEp p m = false := by
        unfold isEp; simp only [at_eq]
        simp [hne]
      unfold movedB; simp only [at_eq]
      rw [hisEp]
      simp only [Bool.false_eq_true, if_false]
      rw [getP_setSq _ _ _ _ ht, if_neg hkt, getP_setSq _ _ _ _ hf, if_neg hkf]
    rcases pawn_of_kind p m h hk6 with ⟨hw, hpc⟩ | ⟨hw, hpc⟩
    · obtain ⟨_, _, hmv⟩ := pseudo_wpawn p m h hpc
      unfold epNewC newEp
      simp only [at_eq]
      rw [hpc, kind_wpawn, hw]
      simp only [if_true, beq_self_eq_true, Bool.true_and]
      have hno : (m.f.val == m.t.val + 16) = false := by simp; omega
      by_cases h16 : m.t.val = m.f.val + 16
      · have hbeq : (m.t.val == m.f.val + 16) = true := by simpa using h16
        simp only [if_pos h16, hbeq, Bool.true_or, if_true, hb4]
        have hne : ¬ p.ep = some m.t := fun hep => (ep_white_facts p m h he hpc hep).2.1 h16
        have hadj := adjPawn_iff p m 24 12 BPAWN toNat_12 (by omega) (by omega) (hb3 hne)
        by_cases ha : adjPawn p.b 24 m.t.val 12
        · rw [if_pos ha, if_pos (hadj.1 ha)]
          exact mkSqN?_mid m _ (by omega)
        · rw [if_neg ha, if_neg (fun hh => ha (hadj.2 hh))]
      · have hbeq : (m.t.val == m.f.val + 16) = false := by simpa using h16
        simp only [if_neg h16, hbeq, hno, Bool.or_self, Bool.false_eq_true, if_false]
    · obtain ⟨_, _, hmv⟩ := pseudo_bpawn p m h hpc
      have hbw : ¬ BPAWN = WPAWN := by decide
      unfold epNewC newEp
      simp only [at_eq]
      rw [hpc, kind_bpawn, hw]
      simp only [if_neg hbw, if_true, Bool.false_eq_true, if_false, beq_self_eq_true, Bool.true_and]
      have hno : (m.t.val == m.f.val + 16) = false := by simp; omega
      by_cases h16 : m.t.val + 16 = m.f.val
      · have hbeq : (m.f.val == m.t.val + 16) = true := by simp; omega
        simp only [if_pos h16, hbeq, Bool.or_true, if_true, hb4]
        have hne : ¬ p.ep = some m.t := fun hep => (ep_black_facts p m h he hpc hep).2.1 h16
        have hadj := adjPawn_iff p m 32 6 WPAWN toNat_6 (by omega) (by omega) (hb3 hne)
        by_cases ha : adjPawn p.b 32 m.t.val 6
        · rw [if_pos ha, if_pos (hadj.1 ha)]
          exact mkSqN?_mid m _ (by omega)
        · rw [if_neg ha, if_neg (fun hh => ha (hadj.2 hh))]
      · have hbeq : (m.f.val == m.t.val + 16) = false := by simp; omega
        simp only [if_neg h16, hbeq, hno, Bool.or_self, Bool.false_eq_true, if_false]
  · have hk6b : (kind (getP p.b m.f.val) == 6) = false := by simpa using hk6
    have hnp := not_pawn_of_kind _ hk6
    have hepS : newEp p m = none := by unfold newEp; simp only [at_eq]; rw [hk6b]; rfl
    rw [hepS]
    unfold epNewC
    rw [if_neg hnp.1, if_neg hnp.2]

/-- for castling, the king's move and the rook's move commute -/
theorem quietB_spec (p : Pos) (m : Mv) (h : pseudo p m = true)
    (hc : ¬ (getP p.b m.t.val ≠ 0 ∨ isPawnAt p.b m.f.val)) : quietB p.b m = applyB p m := by
  have hk6 : kind (getP p.b m.f.val) ≠ 6 := fun hk => hc (Or.inr ((pawnAt_iff _ _).2 hk))
  have hk6b : (kind (getP p.b m.f.val) == 6) = false := by simpa using hk6
  have hisEp : isEp p m = false := by unfold isEp; simp only [at_eq]; rw [hk6b]; rfl
  have hb3 : movedB p m = moveB p.b m.f.val m.t.val := by
    unfold movedB moveB; simp only [at_eq]; rw [hisEp, pseudo_nonpawn_promo p m h (by rw [at_eq]; exact hk6)]; simp
  unfold applyB; simp only [at_eq]
  simp only [Bool.and_eq_true, beq_iff_eq, ← kingAt_iff, hb3]
  unfold quietB rookB
  by_cases hk : isKingAt p.b m.f.val
  · rcases king_shape p m h hk with h3 | ⟨h2, hlt, _, _, e3⟩ | ⟨h2, hge, _, _, _, e4⟩
    · rw [if_pos hk, if_neg h3.1, if_neg h3.2, if_neg (fun hh => h3.1 hh.2), if_neg (fun hh => h3.2 hh.2)]
    · rw [if_pos hk, if_pos h2, if_pos ⟨hk, h2⟩, moveB_comm _ _ _ _ _ (by omega) (by omega) (by omega) (by omega)]
      show moveB (moveB p.b m.f.val m.t.val) (m.f.val + 3) (m.f.val + 1) = _
      unfold moveB
      rw [getP_setSq_ne _ _ _ _ (by omega), getP_setSq_ne _ _ _ _ (by omega), e3]
    · rw [if_pos hk, if_neg (by omega), if_pos h2, if_neg (fun hh => by omega), if_pos ⟨hk, h2⟩,
        moveB_comm _ _ _ _ _ (by omega) (by omega) (by omega) (by omega)]
      show moveB (moveB p.b m.f.val m.t.val) (m.f.val - 4) (m.f.val - 1) = _
      unfold moveB
      rw [getP_setSq_ne _ _ _ _ (by omega), getP_setSq_ne _ _ _ _ (by omega), e4]
  · rw [if_neg hk, if_neg (fun hh => hk hh.1), if_neg (fun hh => hk hh.1)]

/-- **`makeMove` computes the specification's `apply`** (essential state) -/
theorem makeC_eq_apply (p : Pos) (m : Mv) (h : pseudo p m = true) (he : EpOk p) : makeC p m = Chess.apply p m := by
  rw [apply_eq]
  simp only [at_eq]
  by_cases hc : getP p.b m.t.val ≠ 0 ∨ isPawnAt p.b m.f.val
  · rw [makeC_cap p m hc, capB_spec p m h he hc, epNewC_spec p m h he, apply_hmc_cap p m hc]
  · have hk6 : kind (getP p.b m.f.val) ≠ 6 := fun hk => hc (Or.inr ((pawnAt_iff _ _).2 hk))
    have hk6b : (kind (getP p.b m.f.val) == 6) = false := by simpa using hk6
    have hepS : newEp p m = none := by unfold newEp; simp only [at_eq]; rw [hk6b]; rfl
    rw [makeC_quiet p m hc, quietB_spec p m h hc, hepS, apply_hmc_quiet p m hc]

end PosImpl
