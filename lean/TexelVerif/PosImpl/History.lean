import TexelVerif.PosImpl.UnMake
import TexelVerif.Draw.Game
/-!
Histories of operations on a `Position` as the search and the game layer perform them: make a move, take back
the last pending operation, the null-move edit, copy.  `Good` is the invariant carried along a history:
the current state satisfies `Inv` (+ meaningful e.p. flag), and taking back the top pending operation yields
exactly the state that was current before it (the "saved copy"), which is again `Good` for the rest.
-/
namespace PosImpl
open Chess

/-- `Position::drawRuleEquals` -/
def drawRuleEq (p q : Pos) : Prop := p.b = q.b ∧ p.wtm = q.wtm ∧ p.castle = q.castle ∧ p.ep = q.ep

theorem drawRuleEq_iff_drawKey (p q : Pos) : drawRuleEq p q ↔ GameM.drawKey p = GameM.drawKey q := by
  simp only [drawRuleEq, GameM.drawKey, Prod.mk.injEq]

inductive Op where
  | mk (m : Mv)        -- makeMove
  | null               -- null-move edit (search.cpp:707-713)
  | undo               -- take back the last pending make / null edit
  | copy               -- copy-construct and assign back

inductive Frame where
  | move (m : Mv) (ui : UndoInfo)
  | null (saved : Option Sq × Nat)

def undoFrame (T : Tables) (s : PosImpl) : Frame → PosImpl
  | .move m ui => unMakeMove T s m ui
  | .null sv => nullUndo T s sv

/-- configuration: current position, pending operations, and (ghost) the states saved before each of them -/
structure Cfg where
  cur : PosImpl
  stack : List Frame
  saved : List PosImpl

def step (T : Tables) (c : Cfg) : Op → Option Cfg
  | .mk m =>
    if pseudo (abs c.cur) m then
      some { cur := (makeMove T c.cur m).1, stack := .move m (makeMove T c.cur m).2 :: c.stack, saved := c.cur :: c.saved }
    else none
  | .null => some { cur := (nullEdit T c.cur).1, stack := .null (nullEdit T c.cur).2 :: c.stack, saved := c.cur :: c.saved }
  | .undo =>
    match c.stack, c.saved with
    | f :: st, _ :: sv => some { cur := undoFrame T c.cur f, stack := st, saved := sv }
    | _, _ => none
  | .copy => some { c with cur := copy c.cur }

def run (T : Tables) (c : Cfg) : List Op → Option Cfg
  | [] => some c
  | op :: ops => (step T c op).bind fun c' => run T c' ops

/-- well-formed state: every redundant field is right and the e.p. flag is meaningful -/
def WFI (T : Tables) (s : PosImpl) : Prop := Inv T s ∧ EpOk (abs s)

inductive Good (T : Tables) : PosImpl → List Frame → List PosImpl → Prop where
  | nil (s) : WFI T s → Good T s [] []
  | cons (s f st s' sv) : WFI T s → undoFrame T s f = s' → Good T s' st sv → Good T s (f :: st) (s' :: sv)

theorem find?_range_congr (f g : Nat → Bool) (n : Nat) (h : ∀ i, i < n → f i = g i) :
    (List.range n).find? f = (List.range n).find? g := by
  have gen : ∀ (l : List Nat), (∀ i ∈ l, f i = g i) → l.find? f = l.find? g := by
    intro l
    induction l with
    | nil => intro _; rfl
    | cons a l ih =>
      intro hl
      simp only [List.find?_cons]
      rw [hl a (by simp), ih (fun i hi => hl i (by simp [hi]))]
  exact gen _ (fun i hi => h i (List.mem_range.1 hi))

theorem firstSquare_bbOf (f : Nat → Bool) : firstSquare (bbOf f) = (List.range 64).find? f :=
  find?_range_congr _ _ 64 (fun i hi => bbOf_get f i hi)

theorem Inv.pbb {T : Tables} {s : PosImpl} (h : Inv T s) (j : Nat) (hj : j < 13) (hj0 : j ≠ 0) :
    s.pbb j = bbOf fun sq => (getP s.squares sq).toNat == j := by
  have e : s.pbb j = (xorHash (fresh T (abs s)) 0).pbb j := by
    rw [xorHash_zero]
    exact congrArg (PosImpl.pbb · j) h
  rw [e]
  exact pbb_fresh T (abs s) 0 j hj hj0

theorem toNat_beq (a b : Pc) : (a.toNat == b.toNat) = (a == b) := by
  rw [Bool.eq_iff_iff, beq_iff_eq, beq_iff_eq]
  exact UInt8.toNat_inj

/-- king squares are derived from the king bitboards; under the invariant they are the first square holding the king -/
theorem kingSq_spec (T : Tables) (s : PosImpl) (h : Inv T s) :
    s.wKingSq = (List.range 64).find? (fun i => getP s.squares i == WKING) ∧
    s.bKingSq = (List.range 64).find? (fun i => getP s.squares i == BKING) := by
  have key : ∀ K : Pc, K.toNat < 13 → K.toNat ≠ 0 →
      firstSquare (s.pbb K.toNat) = (List.range 64).find? (fun i => getP s.squares i == K) := by
    intro K hj hj0
    rw [h.pbb _ hj hj0, firstSquare_bbOf]
    exact find?_range_congr _ _ 64 (fun i _ => toNat_beq _ K)
  exact ⟨key WKING (by decide) (by decide), key BKING (by decide) (by decide)⟩

end PosImpl
