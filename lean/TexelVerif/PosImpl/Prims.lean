import TexelVerif.Chess.SpecEquations
/-!
Each primitive of `Position` maps "from-scratch state of `p` (with an arbitrary pending XOR `x` on the hash
key)" to "from-scratch state of the edited `p`" (with the same pending XOR).  The pending XOR is what lets
`makeMove` flip the side-to-move key at its start and the flag at its end.

`Inv.of_fresh_step` turns such an equation into "the primitive keeps `Inv`".  `moveB` (the board effect of
`movePieceNotPawn`) with `moveB_back`, `moveB_comm` rests on the `setSq` algebra of `Chess/SpecEquations`; by it the later
files compare boards without going square by square.
-/
namespace PosImpl
open Chess

/-- board effect of `movePieceNotPawn` -/
def moveB (b : Board) (i j : Nat) : Board := setSq (setSq b i 0) j (getP b i)

theorem getP_moveB_ne (b : Board) (i j k : Nat) (hi : k ≠ i) (hj : k ≠ j) : getP (moveB b i j) k = getP b k := by
  unfold moveB
  rw [getP_setSq_ne _ _ _ _ hj, getP_setSq_ne _ _ _ _ hi]

theorem getP_moveB_to (b : Board) (i j : Nat) (hj : j < 64) : getP (moveB b i j) j = getP b i := by
  unfold moveB
  rw [getP_setSq _ _ _ _ hj, if_pos rfl]

theorem getP_moveB_from (b : Board) (i j : Nat) (hi : i < 64) (hij : i ≠ j) : getP (moveB b i j) i = 0 := by
  unfold moveB
  rw [getP_setSq_ne _ _ _ _ hij, getP_setSq _ _ _ _ hi, if_pos rfl]

theorem moveB_back (b : Board) (i j : Nat) (hj : j < 64) (hij : i ≠ j) (he : getP b j = 0) :
    moveB (moveB b i j) j i = b := by
  have hp := getP_moveB_to b i j hj
  unfold moveB at hp ⊢
  rw [hp, setSq_setSq, setSq_comm _ _ _ _ _ (fun e => hij e.symm), setSq_setSq, setSq_getP _ _ _ rfl, setSq_getP _ _ _ he]

theorem moveB_comm (b : Board) (i j k l : Nat) (hik : i ≠ k) (hil : i ≠ l) (hjk : j ≠ k) (hjl : j ≠ l) :
    moveB (moveB b i j) k l = moveB (moveB b k l) i j := by
  have h1 := getP_moveB_ne b i j k (fun e => hik e.symm) (fun e => hjk e.symm)
  have h2 := getP_moveB_ne b k l i hik hil
  unfold moveB at h1 h2 ⊢
  rw [h1, h2, setSq_comm _ j k _ _ hjk, setSq_comm _ i k _ _ hik, setSq_comm _ j l _ _ hjl, setSq_comm _ i l _ _ hil]

theorem pos_ext {a b : Pos} (h1 : a.b = b.b) (h2 : a.wtm = b.wtm) (h3 : a.castle = b.castle) (h4 : a.ep = b.ep)
    (h5 : a.hmc = b.hmc) (h6 : a.fmc = b.fmc) : a = b := by
  cases a; cases b; simp_all

theorem PosImpl.ext' {a b : PosImpl} (h1 : a.squares = b.squares) (h2 : a.bb = b.bb) (h3 : a.whiteBB = b.whiteBB)
    (h4 : a.blackBB = b.blackBB) (h5 : a.whiteMove = b.whiteMove) (h6 : a.castleMask = b.castleMask)
    (h7 : a.epSquare = b.epSquare) (h8 : a.halfMoveClock = b.halfMoveClock) (h9 : a.fullMoveCounter = b.fullMoveCounter)
    (h10 : a.hashKey = b.hashKey) (h11 : a.pHashKey = b.pHashKey) (h12 : a.matId = b.matId)
    (h13 : a.wMtrl = b.wMtrl) (h14 : a.bMtrl = b.bMtrl) (h15 : a.wMtrlPawns = b.wMtrlPawns)
    (h16 : a.bMtrlPawns = b.bMtrlPawns) : a = b := by
  cases a; cases b; simp_all

theorem empty_tests : ((0 : Pc) != 0) = false ∧ ((0 : Pc) == WPAWN) = false ∧ ((0 : Pc) == BPAWN) = false := by decide

theorem updBB_zero (v : Vector BB 13) (g : BB → BB) : updBB v 0 g = v := by
  unfold updBB; rw [if_pos rfl]

/-- `clearPiece` is `setPiece … EMPTY` (uses `psHashKeys[EMPTY] = 0`, `materialId[EMPTY] = 0`) -/
theorem clearPiece_eq_setPiece (T : Tables) (s : PosImpl) (sq : Nat) : clearPiece T s sq = setPiece T s sq 0 := by
  have hk : ∀ a : BB, a ^^^ T.ps 0 sq = a := fun a => by rw [T.ps0]; exact BitVec.xor_zero
  have hm : ∀ a : BitVec 32, a + T.mat 0 = a := fun a => by rw [T.mat0]; exact BitVec.add_zero a
  unfold setPiece clearPiece
  simp only [empty_tests, hk, hm, updBB_zero, Bool.false_and, Bool.or_self, Bool.false_eq_true, if_false]

/-! ### bitboard vector -/

theorem updBB_get (v : Vector BB 13) (i : Pc) (f : BB → BB) (j : Nat) (hj : j < 13) :
    (updBB v i f)[j] = if i ≠ 0 ∧ i.toNat = j then f v[j] else v[j] := by
  unfold updBB
  by_cases h0 : i = 0
  · simp [h0]
  · rw [if_neg h0, Vector.getElem_setIfInBounds]
    by_cases hij : i.toNat = j
    · subst hij
      simp [h0, Vector.getD, hj]
    · simp [h0, hij]

theorem freshBB_get (b : Board) (j : Nat) (hj : j < 13) :
    (freshBB b)[j] = if j = 0 then 0 else bbOf fun s => (getP b s).toNat == j := by
  unfold freshBB
  rw [Vector.getElem_ofFn]

theorem toNat_eq_zero_iff (p : Pc) : p.toNat = 0 ↔ p = 0 := by
  constructor
  · intro h; exact UInt8.toNat_inj.1 (by simpa using h)
  · intro h; subst h; rfl

/-- `setPiece`'s update of the bitboard of the squares whose piece satisfies `sel` -/
theorem bbOf_upd (b : Board) (sq : Nat) (pc : Pc) (hs : sq < 64) (sel : Pc → Bool) :
    (let w1 := if sel (getP b sq) then bbOf (fun s => sel (getP b s)) &&& ~~~(bit sq) else bbOf (fun s => sel (getP b s))
     if sel pc then w1 ||| bit sq else w1) = bbOf (fun s => sel (getP (setSq b sq pc) s)) := by
  apply bb_ext
  intro i hi
  have hb1 : (if sel (getP b sq) = true then bbOf (fun s => sel (getP b s)) &&& ~~~(bit sq)
               else bbOf (fun s => sel (getP b s))).getLsbD i = (sel (getP b i) && !decide (i = sq)) := by
    by_cases hr : sel (getP b sq) = true
    · rw [if_pos hr, clr_get _ _ _ hi hs, bbOf_get _ _ hi]
    · rw [if_neg hr, bbOf_get _ _ hi]
      by_cases his : i = sq
      · subst his
        have : sel (getP b i) = false := by simpa using hr
        simp [this]
      · simp [his]
  simp only []
  by_cases hp : sel pc = true
  · rw [if_pos hp, set_get _ _ _ hi hs, hb1, bbOf_get _ _ hi, getP_setSq _ _ _ _ hs]
    by_cases his : i = sq
    · simp [his, hp]
    · simp [his]
  · rw [if_neg hp, hb1, bbOf_get _ _ hi, getP_setSq _ _ _ _ hs]
    by_cases his : i = sq
    · have : sel pc = false := by simpa using hp
      simp [his, this]
    · simp [his]

theorem setPiece_bb (b : Board) (sq : Nat) (pc : Pc) (hs : sq < 64) :
    updBB (updBB (freshBB b) (getP b sq) (· &&& ~~~(bit sq))) pc (· ||| bit sq) = freshBB (setSq b sq pc) := by
  apply Vector.ext
  intro j hj
  rw [updBB_get _ _ _ _ hj, updBB_get _ _ _ _ hj, freshBB_get _ _ hj, freshBB_get _ _ hj]
  by_cases hj0 : j = 0
  · subst hj0
    have h0 : ∀ q : Pc, ¬ (q ≠ 0 ∧ q.toNat = 0) := fun q h => h.1 ((toNat_eq_zero_iff q).1 h.2)
    simp [h0]
  · -- for an index `j ≠ 0` the guard `i ≠ 0` of `updBB` is implied by `i.toNat = j`
    have hg : ∀ q : Pc, (q ≠ 0 ∧ q.toNat = j) = ((q.toNat == j) = true) := by
      intro q
      apply propext
      rw [beq_iff_eq]
      exact ⟨fun h => h.2, fun h => ⟨fun h0 => hj0 (by rw [← h, h0]; rfl), h⟩⟩
    simp only [hj0, if_false, hg]
    exact bbOf_upd b sq pc hs (fun q => q.toNat == j)

/-! ### folds -/

theorem xorAll_setSq (F : Pc → Nat → BB) (b : Board) (sq : Nat) (pc : Pc) (hs : sq < 64) :
    xorAll (fun s => F (getP (setSq b sq pc) s) s) = xorAll (fun s => F (getP b s) s) ^^^ F (getP b sq) sq ^^^ F pc sq := by
  have h := xorAll_upd (fun s => F (getP b s) s) (fun s => F (getP (setSq b sq pc) s) s) sq hs
    (by intro x hx; simp only [getP_setSq b sq x pc hs, if_neg hx])
  rw [h]
  simp only [getP_setSq b sq sq pc hs, if_true]

theorem sumI_setSq (F : Pc → Int) (b : Board) (sq : Nat) (pc : Pc) (hs : sq < 64) :
    sumI (fun s => F (getP (setSq b sq pc) s)) = sumI (fun s => F (getP b s)) - F (getP b sq) + F pc := by
  have h := sumI_upd (fun s => F (getP b s)) (fun s => F (getP (setSq b sq pc) s)) sq hs
    (by intro x hx; simp only [getP_setSq b sq x pc hs, if_neg hx])
  rw [h]
  simp only [getP_setSq b sq sq pc hs, if_true]

theorem sum32_setSq (F : Pc → BitVec 32) (b : Board) (sq : Nat) (pc : Pc) (hs : sq < 64) :
    sum32 (fun s => F (getP (setSq b sq pc) s)) = sum32 (fun s => F (getP b s)) - F (getP b sq) + F pc := by
  have h := sum32_upd (fun s => F (getP b s)) (fun s => F (getP (setSq b sq pc) s)) sq hs
    (by intro x hx; simp only [getP_setSq b sq x pc hs, if_neg hx])
  rw [h]
  simp only [getP_setSq b sq sq pc hs, if_true]

theorem mtrl_field (T : Tables) (b : Board) (sq : Nat) (pc : Pc) (hs : sq < 64) (sel : Pc → Bool) (k : Int) :
    (let w1 := if sel (getP b sq) then (k + sumI (fun s => if sel (getP b s) then T.value (getP b s) else 0)) - T.value (getP b sq)
               else (k + sumI (fun s => if sel (getP b s) then T.value (getP b s) else 0))
     if sel pc then w1 + T.value pc else w1) =
    k + sumI (fun s => if sel (getP (setSq b sq pc) s) then T.value (getP (setSq b sq pc) s) else 0) := by
  rw [sumI_setSq (fun q => if sel q then T.value q else 0) b sq pc hs]
  cases h1 : sel (getP b sq) <;> cases h2 : sel pc <;> simp <;> omega

theorem mtrl_field0 (T : Tables) (b : Board) (sq : Nat) (pc : Pc) (hs : sq < 64) (sel : Pc → Bool) :
    (let w1 := if sel (getP b sq) then (sumI (fun s => if sel (getP b s) then T.value (getP b s) else 0)) - T.value (getP b sq)
               else (sumI (fun s => if sel (getP b s) then T.value (getP b s) else 0))
     if sel pc then w1 + T.value pc else w1) =
    sumI (fun s => if sel (getP (setSq b sq pc) s) then T.value (getP (setSq b sq pc) s) else 0) := by
  have := mtrl_field T b sq pc hs sel 0
  simpa using this

/-! ### the primitives on from-scratch states -/

def Pos.withB (p : Pos) (b : Board) : Pos := { p with b := b }

-- `bbOf` stays folded from here on: comparing two from-scratch colour bitboards otherwise unfolds it over 64 squares
attribute [local irreducible] bbOf

theorem setPiece_fresh (T : Tables) (p : Pos) (x : BB) (sq : Nat) (pc : Pc) (hs : sq < 64) :
    setPiece T (xorHash (fresh T p) x) sq pc = xorHash (fresh T (Pos.withB p (setSq p.b sq pc))) x := by
  apply PosImpl.ext'
  · rfl
  · exact setPiece_bb p.b sq pc hs
  · exact bbOf_upd p.b sq pc hs (fun q => q != 0 && pcWhite q)
  · exact bbOf_upd p.b sq pc hs (fun q => q != 0 && !pcWhite q)
  · rfl
  · rfl
  · rfl
  · rfl
  · rfl
  · show ((freshHash T p ^^^ x) ^^^ T.ps (getP p.b sq) sq ^^^ T.ps pc sq) = freshHash T (Pos.withB p (setSq p.b sq pc)) ^^^ x
    unfold freshHash Pos.withB
    rw [xorAll_setSq (fun q s => T.ps q s) p.b sq pc hs]
    ac_rfl
  · show (let h1 := if (getP p.b sq == WPAWN || getP p.b sq == BPAWN) then freshPHash T p.b ^^^ T.ps (getP p.b sq) sq else freshPHash T p.b
          if (pc == WPAWN || pc == BPAWN) then h1 ^^^ T.ps pc sq else h1) = freshPHash T (setSq p.b sq pc)
    unfold freshPHash
    rw [xorAll_setSq (fun q s => if isPawnPc q then T.ps q s else 0) p.b sq pc hs]
    unfold isPawnPc
    cases h1 : (getP p.b sq == WPAWN || getP p.b sq == BPAWN) <;>
    cases h2 : (pc == WPAWN || pc == BPAWN) <;> simp [BitVec.xor_assoc]
  · exact (sum32_setSq T.mat p.b sq pc hs).symm
  · exact mtrl_field T p.b sq pc hs (fun q => q != 0 && pcWhite q) (-T.kV)
  · exact mtrl_field T p.b sq pc hs (fun q => q != 0 && !pcWhite q) (-T.kV)
  · exact mtrl_field0 T p.b sq pc hs (fun q => q == WPAWN)
  · exact mtrl_field0 T p.b sq pc hs (fun q => q == BPAWN)

theorem clearPiece_fresh (T : Tables) (p : Pos) (x : BB) (sq : Nat) (hs : sq < 64) :
    clearPiece T (xorHash (fresh T p) x) sq = xorHash (fresh T (Pos.withB p (setSq p.b sq 0))) x := by
  rw [clearPiece_eq_setPiece, setPiece_fresh T p x sq 0 hs]

/-- `movePieceNotPawn` is "clear `from`, put the piece on `to`" whenever its calling convention holds:
    a non-empty, non-pawn piece on `from` and an empty `to` -/
theorem movePieceNotPawn_eq (T : Tables) (s : PosImpl) (f t : Nat)
    (hne : s.getPiece f ≠ 0) (hnp : isPawnPc (s.getPiece f) = false) (hte : getP (setSq s.squares f 0) t = 0) :
    movePieceNotPawn T s f t = setPiece T (clearPiece T s f) t (s.getPiece f) := by
  have hrem : (clearPiece T s f).getPiece t = 0 := hte
  have h0 : (s.getPiece f != 0) = true := by simpa using hne
  have hp : (s.getPiece f == WPAWN) = false ∧ (s.getPiece f == BPAWN) = false := by
    unfold isPawnPc at hnp; simpa using hnp
  -- `setPiece` removes nothing (`to` is empty)
  unfold setPiece
  simp only [hrem, empty_tests, T.ps0, T.mat0, updBB_zero, Bool.false_and, Bool.or_self, Bool.false_eq_true, if_false]
  unfold movePieceNotPawn clearPiece
  simp only [h0, hp.1, hp.2, Bool.true_and, Bool.or_self, Bool.false_eq_true, if_false]
  cases pcWhite (s.getPiece f) <;> simp [BitVec.sub_add_cancel]

theorem movePieceNotPawn_fresh (T : Tables) (p : Pos) (x : BB) (f t : Nat) (hf : f < 64) (ht : t < 64)
    (hne : getP p.b f ≠ 0) (hnp : isPawnPc (getP p.b f) = false) (hte : getP p.b t = 0) (hft : f ≠ t) :
    movePieceNotPawn T (xorHash (fresh T p) x) f t =
      xorHash (fresh T (Pos.withB p (setSq (setSq p.b f 0) t (getP p.b f)))) x := by
  have h1 : getP (setSq p.b f 0) t = 0 := by
    rw [getP_setSq _ _ _ _ hf, if_neg (fun h => hft h.symm)]; exact hte
  rw [movePieceNotPawn_eq T (xorHash (fresh T p) x) f t hne hnp h1, clearPiece_fresh T p x f hf,
    setPiece_fresh T _ x t _ ht]
  rfl

theorem xor_replace {h h' : BB} (r e1 e2 : BB) (hh : h = r ^^^ e1) (hh' : h' = r ^^^ e2) : h ^^^ e1 ^^^ e2 = h' := by
  rw [hh, hh', BitVec.xor_assoc r, BitVec.xor_self, BitVec.xor_zero]

theorem setEpSquare_fresh (T : Tables) (p : Pos) (x : BB) (e : Option Sq) :
    setEpSquare T (xorHash (fresh T p) x) e = xorHash (fresh T { p with ep := e }) x := by
  have he : (if p.ep ≠ e then e else p.ep) = e := by
    by_cases h : p.ep = e
    · rw [if_neg (fun n => n h), h]
    · rw [if_pos h]
  have hk : (if p.ep ≠ e then (freshHash T p ^^^ x) ^^^ T.ep (epIdx p.ep) ^^^ T.ep (epIdx e) else freshHash T p ^^^ x) =
      freshHash T { p with ep := e } ^^^ x := by
    by_cases h : p.ep = e
    · rw [if_neg (fun n => n h), ← h]
    · rw [if_pos h]
      exact xor_replace (T.empty ^^^ xorAll (fun s => T.ps (getP p.b s) s) ^^^ (if p.wtm then T.white else 0) ^^^
        T.castle p.castle.toNat ^^^ x) _ _ (by unfold freshHash; ac_rfl) (by unfold freshHash; ac_rfl)
  exact PosImpl.ext' rfl rfl rfl rfl rfl rfl he rfl rfl hk rfl rfl rfl rfl rfl rfl

theorem setCastleMask_fresh (T : Tables) (p : Pos) (x : BB) (cm : UInt8) :
    setCastleMask T (xorHash (fresh T p) x) cm = xorHash (fresh T { p with castle := cm }) x := by
  have hc : (if cm ≠ p.castle then cm else p.castle) = cm := by
    by_cases h : cm = p.castle
    · rw [if_neg (fun n => n h), h]
    · rw [if_pos h]
  have hk : (if cm ≠ p.castle then (freshHash T p ^^^ x) ^^^ T.castle p.castle.toNat ^^^ T.castle cm.toNat
             else freshHash T p ^^^ x) = freshHash T { p with castle := cm } ^^^ x := by
    by_cases h : cm = p.castle
    · rw [if_neg (fun n => n h), h]
    · rw [if_pos h]
      exact xor_replace (T.empty ^^^ xorAll (fun s => T.ps (getP p.b s) s) ^^^ (if p.wtm then T.white else 0) ^^^
        T.ep (epIdx p.ep) ^^^ x) _ _ (by unfold freshHash; ac_rfl) (by unfold freshHash; ac_rfl)
  exact PosImpl.ext' rfl rfl rfl rfl rfl hc rfl rfl rfl hk rfl rfl rfl rfl rfl rfl

theorem xor_white_flip (T : Tables) (w : Bool) :
    (if w then T.white else 0) ^^^ T.white = (if !w then T.white else 0) := by
  cases w <;> simp

theorem freshHash_flip (T : Tables) (p : Pos) (x : BB) :
    (freshHash T p ^^^ x) ^^^ T.white = freshHash T { p with wtm := !p.wtm } ^^^ x := by
  unfold freshHash
  rw [← xor_white_flip]
  ac_rfl

/-- `hashKey ^= whiteHashKey; whiteMove = !whiteMove` -/
theorem toggleSide_fresh (T : Tables) (p : Pos) (x : BB) :
    toggleSide T (xorHash (fresh T p) x) = xorHash (fresh T { p with wtm := !p.wtm }) x :=
  PosImpl.ext' rfl rfl rfl rfl rfl rfl rfl rfl rfl (freshHash_flip T p x) rfl rfl rfl rfl rfl rfl

theorem setWhiteMove_fresh (T : Tables) (p : Pos) (x : BB) (w : Bool) :
    setWhiteMove T (xorHash (fresh T p) x) w = xorHash (fresh T { p with wtm := w }) x := by
  have hw : (if w ≠ p.wtm then w else p.wtm) = w := by
    by_cases h : w = p.wtm
    · rw [if_neg (fun n => n h), h]
    · rw [if_pos h]
  have hk : (if w ≠ p.wtm then (freshHash T p ^^^ x) ^^^ T.white else freshHash T p ^^^ x) =
      freshHash T { p with wtm := w } ^^^ x := by
    by_cases h : w = p.wtm
    · rw [if_neg (fun n => n h), h]
    · rw [if_pos h, Bool.eq_not_of_ne h]
      exact freshHash_flip T p x
  exact PosImpl.ext' rfl rfl rfl rfl hw rfl rfl rfl rfl hk rfl rfl rfl rfl rfl rfl

theorem setHalfMoveClock_fresh (T : Tables) (p : Pos) (x : BB) (h : Nat) :
    setHalfMoveClock (xorHash (fresh T p) x) h = xorHash (fresh T { p with hmc := h }) x := by
  apply PosImpl.ext' <;> rfl

theorem setFullMoveCounter_fresh (T : Tables) (p : Pos) (x : BB) (h : Nat) :
    setFullMoveCounter (xorHash (fresh T p) x) h = xorHash (fresh T { p with fmc := h }) x := by
  apply PosImpl.ext' <;> rfl

theorem xorHash_zero (s : PosImpl) : xorHash s 0 = s := by
  cases s; simp [xorHash]

theorem xorHash_xorHash (s : PosImpl) (x y : BB) : xorHash (xorHash s x) y = xorHash s (x ^^^ y) := by
  cases s; simp [xorHash, BitVec.xor_assoc]

theorem Inv.of_fresh {T : Tables} {s : PosImpl} {p : Pos} (h : s = fresh T p) : Inv T s ∧ abs s = p := by
  subst h
  exact ⟨rfl, rfl⟩

/-- how a `*_fresh` lemma (pending XOR 0) gives preservation of `Inv` -/
theorem Inv.of_fresh_step {T : Tables} {s : PosImpl} {p' : Pos} (f : PosImpl → PosImpl) (h : Inv T s)
    (e : f (xorHash (fresh T (abs s)) 0) = xorHash (fresh T p') 0) : Inv T (f s) ∧ abs (f s) = p' := by
  have hs : s = fresh T (abs s) := h
  rw [xorHash_zero, xorHash_zero, ← hs] at e
  exact Inv.of_fresh e

theorem Inv.setCounters {T : Tables} {s : PosImpl} (h : Inv T s) (a b : Nat) :
    Inv T (setFullMoveCounter (setHalfMoveClock s a) b) :=
  (Inv.of_fresh_step (fun s => setFullMoveCounter (setHalfMoveClock s a) b) h
    (by rw [setHalfMoveClock_fresh, setFullMoveCounter_fresh])).1

/-- finishing `makeMove`: the pending side-to-move key is absorbed when the flag is flipped -/
theorem finish_fresh (T : Tables) (p : Pos) (w : Bool) (fm : Nat) (hw : p.wtm = w) :
    ({ xorHash (fresh T p) T.white with fullMoveCounter := fm, whiteMove := !w } : PosImpl) =
      fresh T { p with wtm := !w, fmc := fm } := by
  subst hw
  have hk : freshHash T p ^^^ T.white = freshHash T { p with wtm := !p.wtm, fmc := fm } := by
    have h := freshHash_flip T p 0#64
    rw [BitVec.xor_zero, BitVec.xor_zero] at h
    exact h
  exact PosImpl.ext' rfl rfl rfl rfl rfl rfl rfl rfl rfl hk rfl rfl rfl rfl rfl rfl

/-! ### reading a from-scratch state -/

@[simp] theorem getPiece_fresh (T : Tables) (p : Pos) (x : BB) (n : Nat) :
    (xorHash (fresh T p) x).getPiece n = getP p.b n := rfl

theorem pbb_fresh (T : Tables) (p : Pos) (x : BB) (j : Nat) (hj : j < 13) (hj0 : j ≠ 0) :
    (xorHash (fresh T p) x).pbb j = bbOf fun s => (getP p.b s).toNat == j := by
  show (freshBB p.b).getD j 0 = _
  have : (freshBB p.b).getD j 0 = (freshBB p.b)[j] := by simp [Vector.getD, hj]
  rw [this, freshBB_get _ _ hj, if_neg hj0]

theorem and_bit_ne_zero (a : BB) (n : Nat) (hn : n < 64) : (a &&& bit n ≠ 0) ↔ a.getLsbD n = true := by
  constructor
  · intro h
    by_cases hb : a.getLsbD n = true
    · exact hb
    · exfalso; apply h
      apply bb_ext
      intro i hi
      rw [BitVec.getLsbD_and, bit_get _ _ hi hn]
      by_cases hin : i = n
      · subst hin; simp at hb; simp [hb]
      · simp [hin]
  · intro h h0
    have : (a &&& bit n).getLsbD n = true := by
      rw [BitVec.getLsbD_and, bit_get _ _ hn hn, h]; simp
    rw [h0] at this; simp at this

theorem or_ne_zero (a b : BB) : (a ||| b ≠ 0) ↔ (a ≠ 0 ∨ b ≠ 0) := by
  constructor
  · intro h
    by_cases ha : a = 0
    · right; intro hb; apply h; rw [ha, hb]; simp
    · left; exact ha
  · intro h h0
    have h1 : a = 0 := by
      apply bb_ext; intro i _
      have : (a ||| b).getLsbD i = false := by rw [h0]; simp
      rw [BitVec.getLsbD_or] at this
      simp at this ⊢; exact this.1
    have h2 : b = 0 := by
      apply bb_ext; intro i _
      have : (a ||| b).getLsbD i = false := by rw [h0]; simp
      rw [BitVec.getLsbD_or] at this
      simp at this ⊢; exact this.2
    rcases h with h | h
    · exact h h1
    · exact h h2

/-- `(pieceTypeBB(a, b) & (1ULL << n)) != 0` on a from-scratch state -/
theorem bb2_test (T : Tables) (p : Pos) (x : BB) (a b : Nat) (ha : a < 13) (hb : b < 13) (ha0 : a ≠ 0) (hb0 : b ≠ 0)
    (n : Nat) (hn : n < 64) :
    (((xorHash (fresh T p) x).pbb a ||| (xorHash (fresh T p) x).pbb b) &&& bit n ≠ 0) ↔
      ((getP p.b n).toNat = a ∨ (getP p.b n).toNat = b) := by
  rw [and_bit_ne_zero _ _ hn, BitVec.getLsbD_or, pbb_fresh T p x a ha ha0, pbb_fresh T p x b hb hb0,
    bbOf_get _ _ hn, bbOf_get _ _ hn]
  simp

/-- `(mask & pieceTypeBB(a)) != 0` for a two-square mask -/
theorem mask_test (T : Tables) (p : Pos) (x : BB) (a : Nat) (ha : a < 13) (ha0 : a ≠ 0) (i j : Nat) (hi : i < 64) (hj : j < 64)
    (ci cj : Prop) [Decidable ci] [Decidable cj] :
    ((((if ci then bit i else 0) ||| (if cj then bit j else 0)) &&& (xorHash (fresh T p) x).pbb a) ≠ 0) ↔
      ((ci ∧ (getP p.b i).toNat = a) ∨ (cj ∧ (getP p.b j).toNat = a)) := by
  have hd : ∀ m1 m2 B : BB, (m1 ||| m2) &&& B = (B &&& m1) ||| (B &&& m2) := by
    intro m1 m2 B
    apply bb_ext; intro k _
    simp only [BitVec.getLsbD_and, BitVec.getLsbD_or]
    cases m1.getLsbD k <;> cases m2.getLsbD k <;> cases B.getLsbD k <;> rfl
  rw [hd, or_ne_zero, pbb_fresh T p x a ha ha0]
  have one : ∀ (c : Prop) [Decidable c] (k : Nat), k < 64 →
      (((bbOf fun s => (getP p.b s).toNat == a) &&& (if c then bit k else 0)) ≠ 0 ↔ (c ∧ (getP p.b k).toNat = a)) := by
    intro c _ k hk
    by_cases hc : c
    · rw [if_pos hc, and_bit_ne_zero _ _ hk, bbOf_get _ _ hk]; simp [hc]
    · rw [if_neg hc]; simp [hc]
  rw [one ci i hi, one cj j hj]
