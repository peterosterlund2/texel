import TexelVerif.PosImpl.Model
/-!
# `MatId` (material.hpp / material.cpp) — the material identifier (property C02)

`MatId` keeps the sum, over all pieces on the board, of a per-piece weight: `WP = 1, WR = 9, WN = 91, WB = 767,
WQ = 5903` for White and the same numbers shifted left by 16 for Black; kings and empty squares weigh 0.

* **Original code** (`int hash; hash += materialId[pType]`): the mathematically exact identifier of a position
  with six black queens is `≥ 2^31` (`matId_overflow_witness`), so the signed 32-bit addition overflowed
  (undefined behaviour); promotion makes up to nine queens per side reachable.  `Evaluate::materialScore` computed
  `int key = (mId >> 16) * 40507 + mId`, whose exact value is `≥ 2^31` already with four black queens
  (`matKey_overflow_witness`).  `MatIdOld.addPiece` / `MatIdOld.key` model the signed operations with `none` for
  overflow; `matId_signed_iff` gives the exact overflow condition (Black's half `≥ 2^15`).
* **Repaired code** (`unsigned int hash`): for every promotion-consistent material configuration the exact
  identifier is `< 2^32` (`matId_lt`), so the unsigned sum never wraps (`matId_toNat`), both 16-bit halves hold
  their colour's sum exactly (`half_lt`), and the identifier determines the configuration (`matId_injective`; the
  stock unit test `PositionTest.testMaterialId` checks this by enumeration).  The weights are *not* a mixed-radix
  system (ten bishops outweigh a queen): uniqueness relies on the promotion constraint and is proved by a
  kernel-checked enumeration of the 8694 one-colour configurations against a four-candidate decoder.
* `sum32_matTable` connects the from-scratch value of the model (`fresh`, `Tables.mat := matTable`) with
  `matIdNat (countsOf b)`.
-/
namespace PosImpl
open Chess

/-! ## A. definitions -/

def MatId.WP : Nat := 1
def MatId.WR : Nat := 9
def MatId.WN : Nat := 91
def MatId.WB : Nat := 767
def MatId.WQ : Nat := 5903
def MatId.BP : Nat := 1 <<< 16
def MatId.BR : Nat := 9 <<< 16
def MatId.BN : Nat := 91 <<< 16
def MatId.BB : Nat := 767 <<< 16
def MatId.BQ : Nat := 5903 <<< 16

/-- `MatId::materialId[]` (material.cpp), in the table order of the C++: index = piece code (piece.hpp) -/
def matW (p : Pc) : Nat :=
  (#[0,
     0, MatId.WQ, MatId.WR, MatId.WB, MatId.WN, MatId.WP,
     0, MatId.BQ, MatId.BR, MatId.BB, MatId.BN, MatId.BP] : Array Nat).getD p.toNat 0

/-- number of pieces of each non-king kind -/
structure Counts where
  wq : Nat
  wr : Nat
  wb : Nat
  wn : Nat
  wp : Nat
  bq : Nat
  br : Nat
  bb : Nat
  bn : Nat
  bp : Nat
deriving DecidableEq, Repr

/-- one colour: pawns plus the pieces beyond the initial 1 queen, 2 rooks, 2 bishops, 2 knights number at most 8
    (every extra piece is a promoted pawn); `-` is truncated subtraction -/
def HalfOK (p r n b q : Nat) : Prop := p + (q - 1) + (r - 2) + (b - 2) + (n - 2) ≤ 8

instance (p r n b q : Nat) : Decidable (HalfOK p r n b q) := Nat.decLe _ _

/-- what legal play from the normal start position can produce -/
def PromoConsistent (c : Counts) : Prop :=
  HalfOK c.wp c.wr c.wn c.wb c.wq ∧ HalfOK c.bp c.br c.bn c.bb c.bq

instance (c : Counts) : Decidable (PromoConsistent c) := by unfold PromoConsistent; infer_instance

/-- one colour's sum with the unshifted weights -/
def halfId (p r n b q : Nat) : Nat := p + 9 * r + 91 * n + 767 * b + 5903 * q

def whiteHalf (c : Counts) : Nat := halfId c.wp c.wr c.wn c.wb c.wq
def blackHalf (c : Counts) : Nat := halfId c.bp c.br c.bn c.bb c.bq

/-- the exact (mathematical) sum of the weights of all pieces -/
def matIdNat (c : Counts) : Nat :=
  c.wq * matW WQUEEN + c.wr * matW WROOK + c.wb * matW WBISHOP + c.wn * matW WKNIGHT + c.wp * matW WPAWN +
  c.bq * matW BQUEEN + c.br * matW BROOK + c.bb * matW BBISHOP + c.bn * matW BKNIGHT + c.bp * matW BPAWN

/-- exact value of `(mId >> 16) * 40507 + mId` (evaluate.hpp, `Evaluate::materialScore`) for `mId ≥ 0` -/
def keyNat (id : Nat) : Nat := (id / 65536) * 40507 + id

theorem matW_values :
    matW EMPTY = 0 ∧ matW WKING = 0 ∧ matW BKING = 0 ∧
    matW WQUEEN = 5903 ∧ matW WROOK = 9 ∧ matW WBISHOP = 767 ∧ matW WKNIGHT = 91 ∧ matW WPAWN = 1 ∧
    matW BQUEEN = 5903 * 65536 ∧ matW BROOK = 9 * 65536 ∧ matW BBISHOP = 767 * 65536 ∧
    matW BKNIGHT = 91 * 65536 ∧ matW BPAWN = 65536 := by decide

theorem matW_ge13 (p : Pc) (h : 13 ≤ p.toNat) : matW p = 0 := by
  unfold matW Array.getD
  rw [dif_neg]
  simp only [List.size_toArray, List.length_cons, List.length_nil]
  omega

theorem matIdNat_eq (c : Counts) : matIdNat c = blackHalf c * 65536 + whiteHalf c := by
  obtain ⟨_, _, _, h1, h2, h3, h4, h5, h6, h7, h8, h9, h10⟩ := matW_values
  unfold matIdNat blackHalf whiteHalf halfId
  rw [h1, h2, h3, h4, h5, h6, h7, h8, h9, h10]
  omega

/-! ## B. the original signed arithmetic: defect witnesses -/

/-- six black queens: the exact identifier does not fit a signed 32-bit `int` -/
theorem matId_overflow_witness : ∃ c, PromoConsistent c ∧ matIdNat c ≥ 2 ^ 31 :=
  ⟨{ wq := 0, wr := 0, wb := 0, wn := 0, wp := 0, bq := 6, br := 0, bb := 0, bn := 0, bp := 0 }, by decide⟩

/-- four black queens: the identifier fits, the material-hash key expression does not -/
theorem matKey_overflow_witness : ∃ c, PromoConsistent c ∧ matIdNat c < 2 ^ 31 ∧ keyNat (matIdNat c) ≥ 2 ^ 31 :=
  ⟨{ wq := 0, wr := 0, wb := 0, wn := 0, wp := 0, bq := 4, br := 0, bb := 0, bn := 0, bp := 0 }, by decide⟩

/-! ## C. the repaired unsigned arithmetic -/

/-- the truncated subtractions of `HalfOK` as plain inequalities (`q'` for `q - 1` …): `omega` need not split on them -/
theorem halfOK_linear {p r n b q : Nat} (h : HalfOK p r n b q) :
    ∃ q' r' b' n', p + q' + r' + b' + n' ≤ 8 ∧ q ≤ q' + 1 ∧ r ≤ r' + 2 ∧ b ≤ b' + 2 ∧ n ≤ n' + 2 :=
  ⟨q - 1, r - 2, b - 2, n - 2, h, by omega, by omega, by omega, by omega⟩

theorem halfId_lt (p r n b q : Nat) (h : HalfOK p r n b q) : halfId p r n b q ≤ 54861 := by
  obtain ⟨q', r', b', n', h, hq, hr, hb, hn⟩ := halfOK_linear h
  unfold halfId
  omega

theorem half_lt (c : Counts) (h : PromoConsistent c) : whiteHalf c < 65536 ∧ blackHalf c < 65536 := by
  have h1 := halfId_lt _ _ _ _ _ h.1
  have h2 := halfId_lt _ _ _ _ _ h.2
  unfold whiteHalf blackHalf; omega

theorem matId_lt (c : Counts) (h : PromoConsistent c) : matIdNat c < 2 ^ 32 := by
  have := half_lt c h
  rw [matIdNat_eq]; omega

/-- the unsigned 32-bit sum never wraps -/
theorem matId_toNat (c : Counts) (h : PromoConsistent c) : (BitVec.ofNat 32 (matIdNat c)).toNat = matIdNat c := by
  rw [BitVec.toNat_ofNat]; exact Nat.mod_eq_of_lt (matId_lt c h)

/-- the two 16-bit halves of the identifier are the two colours' sums (no carry from White into Black) -/
theorem matId_halves (c : Counts) (h : PromoConsistent c) :
    matIdNat c / 65536 = blackHalf c ∧ matIdNat c % 65536 = whiteHalf c := by
  have := half_lt c h
  rw [matIdNat_eq]; omega

/-- for promotion-consistent counts the exact identifier fits a signed `int` iff Black's half is below 2^15 -/
theorem matId_signed_iff (c : Counts) (h : PromoConsistent c) : matIdNat c < 2 ^ 31 ↔ blackHalf c < 32768 := by
  have := half_lt c h
  rw [matIdNat_eq]; omega

/-- the original `int hash; hash += materialId[pType]`: `none` is signed overflow (undefined behaviour) -/
def MatIdOld.addPiece (hash : Int) (p : Pc) : Option Int :=
  let v := hash + matW p
  if v < 2 ^ 31 then some v else none

/-- the original `int key = (mId >> 16) * 40507 + mId` for `mId ≥ 0`: `none` is signed overflow -/
def MatIdOld.key (mId : Int) : Option Int :=
  let v := (mId / 65536) * 40507 + mId
  if v < 2 ^ 31 then some v else none

/-- adding the sixth black queen overflows the original signed identifier -/
theorem MatIdOld.six_black_queens :
    ((((((some 0 : Option Int).bind (addPiece · BQUEEN)).bind (addPiece · BQUEEN)).bind (addPiece · BQUEEN)).bind
      (addPiece · BQUEEN)).bind (addPiece · BQUEEN)) = some 1934295040 ∧
    addPiece 1934295040 BQUEEN = none := by decide

/-- with four black queens the original signed key computation overflows -/
theorem MatIdOld.key_four_black_queens :
    ((((some 0 : Option Int).bind (addPiece · BQUEEN)).bind (addPiece · BQUEEN)).bind (addPiece · BQUEEN)).bind
      (addPiece · BQUEEN) = some 1547436032 ∧
    key 1547436032 = none := by decide

/-! ### uniqueness -/

/-- candidate decoding with the given numbers of queens and bishops -/
def decAt (id q b : Nat) : Option (Nat × Nat × Nat × Nat × Nat) :=
  if 5903 * q + 767 * b ≤ id then
    let y := id - (5903 * q + 767 * b)
    let n := y / 91
    let x := y % 91
    let r := x / 9
    let p := x % 9
    if HalfOK p r n b q then some (p, r, n, b, q) else none
  else none

/-- decoder of a one-colour identifier: `p + 9 r < 91`, `p + 9 r + 91 n < 2 · 767` and
    `p + 9 r + 91 n + 767 b < 2 · 5903` leave four candidates `(q, b)` -/
def dec (id : Nat) : Option (Nat × Nat × Nat × Nat × Nat) :=
  let q0 := id / 5903
  let b0 := (id - 5903 * q0) / 767
  let q1 := q0 - 1
  let b1 := (id - 5903 * q1) / 767
  (decAt id q0 b0).or ((decAt id q0 (b0 - 1)).or ((decAt id q1 b1).or (decAt id q1 (b1 - 1))))

/-- `f k` for all `k < n` -/
def allB : Nat → (Nat → Bool) → Bool
  | 0, _ => true
  | n + 1, f => f n && allB n f

theorem allB_true {n : Nat} {f : Nat → Bool} (h : allB n f = true) : ∀ k, k < n → f k = true := by
  induction n with
  | zero => intro k hk; omega
  | succ n ih =>
    intro k hk
    simp only [allB, Bool.and_eq_true] at h
    by_cases e : k = n
    · subst e; exact h.1
    · exact ih h.2 k (by omega)

/-- `a ≤ 8 → x`, evaluated lazily by the kernel -/
def ifLe8 (a : Nat) (x : Bool) : Bool := !Nat.ble a 8 || x

theorem ifLe8_true {a : Nat} {x : Bool} (h : ifLe8 a x = true) (ha : a ≤ 8) : x = true := by
  have : Nat.ble a 8 = true := Nat.ble_eq.mpr ha
  simpa [ifLe8, this] using h

/-- `o = some (p, r, n, b, q)` as a Boolean (cheaper in the kernel than the derived `DecidableEq`) -/
def eq5 (o : Option (Nat × Nat × Nat × Nat × Nat)) (p r n b q : Nat) : Bool :=
  match o with
  | some (p', r', n', b', q') => Nat.beq p' p && Nat.beq r' r && Nat.beq n' n && Nat.beq b' b && Nat.beq q' q
  | none => false

theorem eq5_true {o : Option (Nat × Nat × Nat × Nat × Nat)} {p r n b q : Nat} (h : eq5 o p r n b q = true) :
    o = some (p, r, n, b, q) := by
  match o with
  | none => simp [eq5] at h
  | some (p', r', n', b', q') =>
    simp only [eq5, Bool.and_eq_true] at h
    obtain ⟨⟨⟨⟨h1, h2⟩, h3⟩, h4⟩, h5⟩ := h
    rw [Nat.eq_of_beq_eq_true h1, Nat.eq_of_beq_eq_true h2, Nat.eq_of_beq_eq_true h3,
      Nat.eq_of_beq_eq_true h4, Nat.eq_of_beq_eq_true h5]

/-- the enumeration of all one-colour configurations as a Boolean check; branches whose queens, bishops, knights
    and rooks already need more than eight promotions are pruned -/
def decCheck : Bool :=
  allB 10 fun q => allB 11 fun b => ifLe8 ((q - 1) + (b - 2)) <|
  allB 11 fun n => ifLe8 ((q - 1) + (b - 2) + (n - 2)) <|
  allB 11 fun r => ifLe8 ((q - 1) + (b - 2) + (n - 2) + (r - 2)) <|
  allB 9 fun p => ifLe8 (p + (q - 1) + (r - 2) + (b - 2) + (n - 2)) <|
    eq5 (dec (halfId p r n b q)) p r n b q

theorem decCheck_true : decCheck = true := by decide +kernel

/-- kernel-checked enumeration of all one-colour configurations -/
theorem dec_halfId_all :
    ∀ q, q < 10 → ∀ b, b < 11 → ∀ n, n < 11 → ∀ r, r < 11 → ∀ p, p < 9 →
      HalfOK p r n b q → dec (halfId p r n b q) = some (p, r, n, b, q) := by
  intro q hq b hb n hn r hr p hp hok
  unfold HalfOK at hok
  have h := allB_true (allB_true decCheck_true q hq) b hb
  have h := allB_true (ifLe8_true h (by omega)) n hn
  have h := allB_true (ifLe8_true h (by omega)) r hr
  have h := allB_true (ifLe8_true h (by omega)) p hp
  exact eq5_true (ifLe8_true h hok)

theorem dec_halfId (p r n b q : Nat) (h : HalfOK p r n b q) : dec (halfId p r n b q) = some (p, r, n, b, q) := by
  obtain ⟨q', r', b', n', h', hq, hr, hb, hn⟩ := halfOK_linear h
  exact dec_halfId_all q (by omega) b (by omega) n (by omega) r (by omega) p (by omega) h

theorem half_injective (p₁ r₁ n₁ b₁ q₁ p₂ r₂ n₂ b₂ q₂ : Nat)
    (h₁ : HalfOK p₁ r₁ n₁ b₁ q₁) (h₂ : HalfOK p₂ r₂ n₂ b₂ q₂)
    (h : halfId p₁ r₁ n₁ b₁ q₁ = halfId p₂ r₂ n₂ b₂ q₂) :
    p₁ = p₂ ∧ r₁ = r₂ ∧ n₁ = n₂ ∧ b₁ = b₂ ∧ q₁ = q₂ := by
  have e₁ := dec_halfId _ _ _ _ _ h₁
  have e₂ := dec_halfId _ _ _ _ _ h₂
  rw [h, e₂] at e₁
  simpa [eq_comm] using e₁

/-- the identifier is unique per promotion-consistent material configuration -/
theorem matId_injective (c₁ c₂ : Counts) (h₁ : PromoConsistent c₁) (h₂ : PromoConsistent c₂)
    (h : matIdNat c₁ = matIdNat c₂) : c₁ = c₂ := by
  have a₁ := matId_halves c₁ h₁
  have a₂ := matId_halves c₂ h₂
  have hw : whiteHalf c₁ = whiteHalf c₂ := by rw [← a₁.2, ← a₂.2, h]
  have hb : blackHalf c₁ = blackHalf c₂ := by rw [← a₁.1, ← a₂.1, h]
  obtain ⟨w1, w2, w3, w4, w5⟩ := half_injective _ _ _ _ _ _ _ _ _ _ h₁.1 h₂.1 hw
  obtain ⟨b1, b2, b3, b4, b5⟩ := half_injective _ _ _ _ _ _ _ _ _ _ h₁.2 h₂.2 hb
  cases c₁; cases c₂
  simp_all

/-! ## connection with the model (`Tables.mat`, `fresh`) -/

/-- `MatId::materialId[]` as unsigned 32-bit values: the instance of `Tables.mat` -/
def matTable : Pc → BitVec 32 := fun p => BitVec.ofNat 32 (matW p)

theorem matTable_empty : matTable EMPTY = 0 := by decide

/-- number of squares `s < 64` holding the piece code `pc` -/
def cntPc (b : Board) (pc : Pc) : Nat := foldN (· + ·) 0 (fun s => if getP b s = pc then 1 else 0) 64

def countsOf (b : Board) : Counts :=
  { wq := cntPc b WQUEEN, wr := cntPc b WROOK, wb := cntPc b WBISHOP, wn := cntPc b WKNIGHT, wp := cntPc b WPAWN,
    bq := cntPc b BQUEEN, br := cntPc b BROOK, bb := cntPc b BBISHOP, bn := cntPc b BKNIGHT, bp := cntPc b BPAWN }

/-- weighted sum of per-code multiplicities -/
def wsum (k : Pc → Nat) : Nat :=
  k WQUEEN * matW WQUEEN + k WROOK * matW WROOK + k WBISHOP * matW WBISHOP + k WKNIGHT * matW WKNIGHT +
  k WPAWN * matW WPAWN +
  k BQUEEN * matW BQUEEN + k BROOK * matW BROOK + k BBISHOP * matW BBISHOP + k BKNIGHT * matW BKNIGHT +
  k BPAWN * matW BPAWN

theorem wsum_add (f g : Pc → Nat) : wsum (fun c => f c + g c) = wsum f + wsum g := by
  unfold wsum; simp only [Nat.add_mul]; omega

theorem matW_split_aux : ∀ n, n < 256 →
    matW (UInt8.ofNat n) = wsum (fun c => if UInt8.ofNat n = c then 1 else 0) := by decide +kernel

theorem matW_split (p : Pc) : matW p = wsum (fun c => if p = c then 1 else 0) := by
  have h := matW_split_aux p.toNat (UInt8.toNat_lt p)
  rwa [UInt8.ofNat_toNat] at h

theorem foldN_ofNat (g : Nat → Nat) (n : Nat) :
    foldN (· + ·) 0 (fun s => BitVec.ofNat 32 (g s)) n = BitVec.ofNat 32 (foldN (· + ·) 0 g n) := by
  induction n with
  | zero => rfl
  | succ n ih => simp only [foldN, ih, BitVec.ofNat_add]

theorem foldN_matW (h : Nat → Pc) (n : Nat) :
    foldN (· + ·) 0 (fun s => matW (h s)) n =
      wsum (fun c => foldN (· + ·) 0 (fun s => if h s = c then 1 else 0) n) := by
  induction n with
  | zero => simp [foldN, wsum]
  | succ n ih => simp only [foldN, ih, wsum_add]; rw [← matW_split]

/-- the from-scratch value of the model's `matId` field is the exact identifier of the board's piece counts,
    reduced mod 2^32 (by `matId_toNat` the reduction is vacuous for promotion-consistent counts) -/
theorem sum32_matTable (b : Board) :
    sum32 (fun s => matTable (getP b s)) = BitVec.ofNat 32 (matIdNat (countsOf b)) := by
  unfold sum32 matTable
  rw [foldN_ofNat, foldN_matW]
  rfl

theorem sum32_matTable_toNat (b : Board) (h : PromoConsistent (countsOf b)) :
    (sum32 (fun s => matTable (getP b s))).toNat = matIdNat (countsOf b) := by
  rw [sum32_matTable, matId_toNat _ h]

/-! ## D. the hypotheses are satisfiable -/

/-- the start position -/
example : PromoConsistent { wq := 1, wr := 2, wb := 2, wn := 2, wp := 8, bq := 1, br := 2, bb := 2, bn := 2, bp := 8 } := by
  decide

/-- all eight pawns of both sides promoted to queens -/
example : PromoConsistent { wq := 9, wr := 2, wb := 2, wn := 2, wp := 0, bq := 9, br := 2, bb := 2, bn := 2, bp := 0 } := by
  decide

/-- the bound of `halfId_lt` is attained -/
example : halfId 0 2 2 2 9 = 54861 := by decide

end PosImpl
