import TexelVerif.PosImpl.Prims
/-!
# `Position::serialize` / `Position::deSerialize` round trip (position.cpp:420-499) — property C02

* `decode_serialize` : decoding the five words written by `serialize` gives back the essential state, provided
  every field fits its bit field (piece codes < 16, castle mask < 16, half-move clock < 256, full-move counter
  < 65536; the e.p. square needs nothing).
* `deSerialize_serialize` : hence, under the invariant, `deSerialize (serialize s) = s`.
* `serialize_lt` : every word is `< 2^64`, so modelling the `U64` words as `Nat` loses nothing.
* `serialize_hmc_witness`, `serialize_fmc_witness` : the two counter width conditions are necessary.
-/
namespace PosImpl
open Chess

/-! ## base-16 packing -/

/-- the number whose base-16 digits (most significant first) are `g 0 … g (n-1)` -/
def pk (g : Nat → Nat) : Nat → Nat
  | 0 => 0
  | n + 1 => pk g n * 16 + g n

theorem shl_or (a b i : Nat) (h : b < 2 ^ i) : a <<< i ||| b = a * 2 ^ i + b := by
  rw [← Nat.shiftLeft_add_eq_or_of_lt h, Nat.shiftLeft_eq]

theorem foldl_pk (g : Nat → Nat) (hg : ∀ k, g k < 16) (n : Nat) :
    (List.range n).foldl (fun v sq => (v <<< 4) ||| g sq) 0 = pk g n := by
  induction n with
  | zero => rfl
  | succ n ih =>
    rw [List.range_succ, List.foldl_append, ih]
    simp only [List.foldl_cons, List.foldl_nil, pk]
    rw [shl_or _ _ 4 (by have := hg n; omega)]

theorem pk_lt (g : Nat → Nat) (hg : ∀ k, g k < 16) (n : Nat) : pk g n < 16 ^ n := by
  induction n with
  | zero => simp [pk]
  | succ n ih =>
    have := hg n
    simp only [pk, Nat.pow_succ]
    omega

theorem pk_digit (g : Nat → Nat) (hg : ∀ k, g k < 16) (n k : Nat) (hk : k < n) :
    pk g n / 16 ^ (n - 1 - k) % 16 = g k := by
  induction n with
  | zero => omega
  | succ n ih =>
    have hn := hg n
    by_cases h : k = n
    · subst h
      have : k + 1 - 1 - k = 0 := by omega
      simp only [pk, this, Nat.pow_zero, Nat.div_one]
      omega
    · have hk' : k < n := by omega
      have e : n + 1 - 1 - k = (n - 1 - k) + 1 := by omega
      rw [e, Nat.pow_succ, Nat.mul_comm, ← Nat.div_div_eq_div_mul]
      have : pk g (n + 1) / 16 = pk g n := by simp only [pk]; omega
      rw [this]
      exact ih hk'

/-! ## the board words -/

theorem getP_toNat_lt (b : Board) (hp : ∀ i : Fin 64, b[i] < 16) (n : Nat) : (getP b n).toNat < 16 := by
  by_cases h : n < 64
  · have := hp ⟨n, h⟩
    rw [UInt8.lt_iff_toNat_lt] at this
    rw [getP_eq b n h]
    exact this
  · simp [getP, Vector.getD, h]

theorem packRow_eq (b : Board) (hp : ∀ i : Fin 64, b[i] < 16) (sq0 : Nat) :
    packRow b sq0 = pk (fun k => (getP b (sq0 + k)).toNat) 16 :=
  foldl_pk (fun k => (getP b (sq0 + k)).toNat) (fun k => getP_toNat_lt b hp (sq0 + k)) 16

theorem nibble_packRow (b : Board) (hp : ∀ i : Fin 64, b[i] < 16) (sq0 k : Nat) (hk : k < 16) :
    nibble (packRow b sq0) k = getP b (sq0 + k) := by
  have hd := pk_digit (fun k => (getP b (sq0 + k)).toNat) (fun k => getP_toNat_lt b hp (sq0 + k)) 16 k hk
  have e16 : (2 : Nat) ^ (4 * (15 - k)) = 16 ^ (16 - 1 - k) := by
    rw [Nat.pow_mul]
  unfold nibble
  rw [packRow_eq b hp, Nat.shiftRight_eq_div_pow, e16,
    show (0xf : Nat) = 2 ^ 4 - 1 from rfl, Nat.and_two_pow_sub_one_eq_mod]
  show (pk (fun k => (getP b (sq0 + k)).toNat) 16 / 16 ^ (16 - 1 - k) % 16).toUInt8 = _
  rw [hd]
  simp

theorem packRow_lt (b : Board) (hp : ∀ i : Fin 64, b[i] < 16) (sq0 : Nat) : packRow b sq0 < 2 ^ 64 := by
  rw [packRow_eq b hp]
  exact pk_lt _ (fun k => getP_toNat_lt b hp (sq0 + k)) 16

/-! ## the flags word -/

theorem epByte_lt (e : Option Sq) : epByte e < 256 := by
  cases e with
  | none => decide
  | some e => have := e.isLt; simp only [epByte]; omega

theorem ep_roundtrip (e : Option Sq) : (if epByte e = 255 then none else mkSqN? (epByte e)) = e := by
  cases e with
  | none => rfl
  | some e =>
    have h := e.isLt
    show (if e.val = 255 then none else mkSqN? e.val) = some e
    rw [if_neg (by omega)]
    simp [mkSqN?, h]

/-- the flags word in arithmetic form -/
theorem flags_eq (w c e h f : Nat) (hc : c < 16) :
    (((((w <<< 4 ||| c) <<< 8 ||| (e &&& 0xff)) <<< 8 ||| (h &&& 0xff)) <<< 16) ||| (f &&& 0xffff)) =
    (((w * 16 + c) * 256 + e % 256) * 256 + h % 256) * 65536 + f % 65536 := by
  have a1 : e &&& 0xff = e % 256 := Nat.and_two_pow_sub_one_eq_mod e 8
  have a2 : h &&& 0xff = h % 256 := Nat.and_two_pow_sub_one_eq_mod h 8
  have a3 : f &&& 0xffff = f % 65536 := Nat.and_two_pow_sub_one_eq_mod f 16
  rw [a1, a2, a3, shl_or w c 4 (by omega), shl_or _ (e % 256) 8 (by omega), shl_or _ (h % 256) 8 (by omega),
    shl_or _ (f % 65536) 16 (by omega)]

theorem div_mod_field (a b n : Nat) (hb : b < n) : (a * n + b) / n = a ∧ (a * n + b) % n = b := by
  have hn : 0 < n := by omega
  constructor
  · rw [Nat.add_comm, Nat.add_mul_div_right _ _ hn, Nat.div_eq_of_lt hb, Nat.zero_add]
  · rw [Nat.add_comm, Nat.add_mul_mod_self_right, Nat.mod_eq_of_lt hb]

theorem flags_fields (w c e h f : Nat) (hw : w < 2) (hc : c < 16) (he : e < 256) (hh : h < 256) (hf : f < 65536) :
    ((((w * 16 + c) * 256 + e) * 256 + h) * 65536 + f) % 65536 = f ∧
    ((((w * 16 + c) * 256 + e) * 256 + h) * 65536 + f) / 2 ^ 16 % 256 = h ∧
    ((((w * 16 + c) * 256 + e) * 256 + h) * 65536 + f) / 2 ^ 24 % 256 = e ∧
    ((((w * 16 + c) * 256 + e) * 256 + h) * 65536 + f) / 2 ^ 32 % 16 = c ∧
    ((((w * 16 + c) * 256 + e) * 256 + h) * 65536 + f) / 2 ^ 36 % 2 = w := by
  -- peel the fields off from the right: each step is one division with remainder
  have h1 := div_mod_field (((w * 16 + c) * 256 + e) * 256 + h) f 65536 hf
  have h2 := div_mod_field ((w * 16 + c) * 256 + e) h 256 hh
  have h3 := div_mod_field (w * 16 + c) e 256 he
  have h4 := div_mod_field w c 16 hc
  have p16 : (2 : Nat) ^ 16 = 65536 := by decide
  have p24 : (2 : Nat) ^ 24 = 65536 * 256 := by decide
  have p32 : (2 : Nat) ^ 32 = 65536 * 256 * 256 := by decide
  have p36 : (2 : Nat) ^ 36 = 65536 * 256 * 256 * 16 := by decide
  refine ⟨h1.2, ?_, ?_, ?_, ?_⟩
  · rw [p16, h1.1, h2.2]
  · rw [p24, ← Nat.div_div_eq_div_mul, h1.1, h2.1, h3.2]
  · rw [p32, ← Nat.div_div_eq_div_mul, ← Nat.div_div_eq_div_mul, h1.1, h2.1, h3.1, h4.2]
  · rw [p36, ← Nat.div_div_eq_div_mul, ← Nat.div_div_eq_div_mul, ← Nat.div_div_eq_div_mul, h1.1, h2.1, h3.1, h4.1,
      Nat.mod_eq_of_lt hw]

/-! ## the round trip -/

theorem decode_serialize (s : PosImpl) (hp : ∀ i : Fin 64, s.squares[i] < 16) (hc : s.castleMask < 16)
    (hh : s.halfMoveClock < 256) (hf : s.fullMoveCounter < 65536) : decode (serialize s) = abs s := by
  have hc' : s.castleMask.toNat < 16 := UInt8.lt_iff_toNat_lt.mp hc
  have he := epByte_lt s.epSquare
  have hW : (if s.whiteMove = true then 1 else 0 : Nat) < 2 := by split <;> omega
  have hfl := flags_eq (if s.whiteMove then 1 else 0) s.castleMask.toNat (epByte s.epSquare)
    s.halfMoveClock s.fullMoveCounter hc'
  rw [Nat.mod_eq_of_lt he, Nat.mod_eq_of_lt hh, Nat.mod_eq_of_lt hf] at hfl
  have hw4 : (serialize s).getD 4 0 =
      ((((if s.whiteMove = true then 1 else 0) * 16 + s.castleMask.toNat) * 256 + epByte s.epSquare) * 256 +
          s.halfMoveClock) * 65536 + s.fullMoveCounter := by
    simp only [serialize, List.getD_cons_succ, List.getD_cons_zero]
    exact hfl
  obtain ⟨f1, f2, f3, f4, f5⟩ := flags_fields _ _ _ _ _ hW hc' he hh hf
  rw [← hw4] at f1 f2 f3 f4 f5
  have hw : ∀ q, q < 4 → (serialize s).getD q 0 = packRow s.squares (16 * q) := by
    intro q hq
    have : q = 0 ∨ q = 1 ∨ q = 2 ∨ q = 3 := by omega
    rcases this with h | h | h | h <;> subst h <;>
      simp only [serialize, List.getD_cons_succ, List.getD_cons_zero]
  have m16 : ∀ x : Nat, x &&& 65535 = x % 65536 := fun x => Nat.and_two_pow_sub_one_eq_mod x 16
  have m8 : ∀ x : Nat, x &&& 255 = x % 256 := fun x => Nat.and_two_pow_sub_one_eq_mod x 8
  have m4 : ∀ x : Nat, x &&& 15 = x % 16 := fun x => Nat.and_two_pow_sub_one_eq_mod x 4
  have m1 : ∀ x : Nat, x &&& 1 = x % 2 := fun x => Nat.and_two_pow_sub_one_eq_mod x 1
  have hfmc : (decode (serialize s)).fmc = s.fullMoveCounter := by
    show (serialize s).getD 4 0 &&& 65535 = _
    rw [m16, f1]
  have hhmc : (decode (serialize s)).hmc = s.halfMoveClock := by
    show (serialize s).getD 4 0 >>> 16 &&& 255 = _
    rw [m8, Nat.shiftRight_eq_div_pow, f2]
  have hcas : (decode (serialize s)).castle = s.castleMask := by
    show ((serialize s).getD 4 0 >>> 32 &&& 15).toUInt8 = _
    rw [m4, Nat.shiftRight_eq_div_pow, f4]; simp
  have hwtm : (decode (serialize s)).wtm = s.whiteMove := by
    show ((serialize s).getD 4 0 >>> 36 &&& 1 != 0) = _
    rw [m1, Nat.shiftRight_eq_div_pow, f5]
    cases s.whiteMove <;> rfl
  have hep : (decode (serialize s)).ep = s.epSquare := by
    show (if (serialize s).getD 4 0 >>> 24 &&& 255 = 255 then none
          else mkSqN? ((serialize s).getD 4 0 >>> 24 &&& 255)) = _
    rw [m8, Nat.shiftRight_eq_div_pow, f3]
    exact ep_roundtrip s.epSquare
  have hbd : (decode (serialize s)).b = s.squares := by
    show (Vector.ofFn fun (i : Fin 64) => nibble ((serialize s).getD (i.val / 16) 0) (i.val % 16)) = _
    apply Vector.ext
    intro i hi
    rw [Vector.getElem_ofFn]
    show nibble ((serialize s).getD (i / 16) 0) (i % 16) = _
    rw [hw (i / 16) (by omega), nibble_packRow s.squares hp _ _ (by omega),
      show 16 * (i / 16) + i % 16 = i by omega, getP_eq _ _ hi]
  exact pos_ext hbd hwtm hcas hep hhmc hfmc

theorem deSerialize_serialize (T : Tables) (s : PosImpl) (hI : Inv T s) (hp : ∀ i : Fin 64, s.squares[i] < 16)
    (hc : s.castleMask < 16) (hh : s.halfMoveClock < 256) (hf : s.fullMoveCounter < 65536) :
    deSerialize T (serialize s) = s := by
  unfold deSerialize
  rw [decode_serialize s hp hc hh hf]
  exact hI.symm

/-- the words fit in 64 bits: each board word is 16 nibbles, the flags word uses 37 bits -/
theorem serialize_lt (s : PosImpl) (hp : ∀ i : Fin 64, s.squares[i] < 16) (hc : s.castleMask < 16)
    (hh : s.halfMoveClock < 256) (hf : s.fullMoveCounter < 65536) : ∀ w ∈ serialize s, w < 2 ^ 64 := by
  have hc' : s.castleMask.toNat < 16 := UInt8.lt_iff_toNat_lt.mp hc
  have he := epByte_lt s.epSquare
  have hW : (if s.whiteMove = true then 1 else 0 : Nat) < 2 := by split <;> omega
  have hfl := flags_eq (if s.whiteMove then 1 else 0) s.castleMask.toNat (epByte s.epSquare)
    s.halfMoveClock s.fullMoveCounter hc'
  rw [Nat.mod_eq_of_lt he, Nat.mod_eq_of_lt hh, Nat.mod_eq_of_lt hf] at hfl
  intro w hw
  simp only [serialize, List.mem_cons, List.not_mem_nil, or_false] at hw
  rcases hw with h | h | h | h | h
  · rw [h]; exact packRow_lt _ hp _
  · rw [h]; exact packRow_lt _ hp _
  · rw [h]; exact packRow_lt _ hp _
  · rw [h]; exact packRow_lt _ hp _
  · rw [h, hfl]
    have : ((((if s.whiteMove = true then 1 else 0) * 16 + s.castleMask.toNat) * 256 + epByte s.epSquare) * 256 +
        s.halfMoveClock) * 65536 + s.fullMoveCounter < 2 ^ 37 := by omega
    omega

/-! ## the width conditions are necessary -/

/-- the empty board, Black to move, everything else zero except the two counters -/
def witness (hmc fmc : Nat) : PosImpl :=
  { squares := Vector.replicate 64 0, bb := Vector.replicate 13 0, whiteBB := 0, blackBB := 0, whiteMove := false,
    castleMask := 0, epSquare := none, halfMoveClock := hmc, fullMoveCounter := fmc, hashKey := 0, pHashKey := 0,
    matId := 0, wMtrl := 0, bMtrl := 0, wMtrlPawns := 0, bMtrlPawns := 0 }

/-- a half-move clock of 256 does not survive the round trip (it is masked with `0xff`); every other hypothesis
    of `decode_serialize` holds -/
theorem serialize_hmc_witness :
    (∀ i : Fin 64, (witness 256 1).squares[i] < 16) ∧ (witness 256 1).castleMask < 16 ∧
    (witness 256 1).fullMoveCounter < 65536 ∧ (witness 256 1).halfMoveClock = 256 ∧
    (decode (serialize (witness 256 1))).hmc = 0 ∧ decode (serialize (witness 256 1)) ≠ abs (witness 256 1) := by
  refine ⟨?_, by decide, by decide, rfl, by decide, ?_⟩
  · intro i; simp [witness]
  · intro h
    have := congrArg Pos.hmc h
    revert this; decide

/-- a full-move counter of 65536 does not survive the round trip (it is masked with `0xffff`) -/
theorem serialize_fmc_witness :
    (∀ i : Fin 64, (witness 0 65536).squares[i] < 16) ∧ (witness 0 65536).castleMask < 16 ∧
    (witness 0 65536).halfMoveClock < 256 ∧ (witness 0 65536).fullMoveCounter = 65536 ∧
    (decode (serialize (witness 0 65536))).fmc = 0 ∧
    decode (serialize (witness 0 65536)) ≠ abs (witness 0 65536) := by
  refine ⟨?_, by decide, by decide, rfl, by decide, ?_⟩
  · intro i; simp [witness]
  · intro h
    have := congrArg Pos.fmc h
    revert this; decide

/-- the all-zero tables -/
def T0 : Tables :=
  { ps := fun _ _ => 0, white := 0, castle := fun _ => 0, ep := fun _ => 0, empty := 0, value := fun _ => 0, kV := 0,
    mat := fun _ => 0, ps0 := fun _ => rfl, mat0 := rfl }

/-- one evaluation, for the counters 0 and 0, serves every witness -/
theorem witness_inv (hmc fmc : Nat) : Inv T0 (witness hmc fmc) := by
  have h0 : Inv T0 (witness 0 0) := by decide +kernel
  exact h0.setCounters hmc fmc


/-- so the round trip `deSerialize_serialize` fails on a state satisfying the invariant once a counter exceeds
    its bit field -/
theorem deSerialize_hmc_witness : deSerialize T0 (serialize (witness 256 1)) ≠ witness 256 1 := by
  intro h
  have := congrArg PosImpl.halfMoveClock h
  revert this
  show ¬ (decode (serialize (witness 256 1))).hmc = 256
  decide

theorem deSerialize_fmc_witness : deSerialize T0 (serialize (witness 0 65536)) ≠ witness 0 65536 := by
  intro h
  have := congrArg PosImpl.fullMoveCounter h
  revert this
  show ¬ (decode (serialize (witness 0 65536))).fmc = 65536
  decide

end PosImpl
