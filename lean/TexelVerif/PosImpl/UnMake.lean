import TexelVerif.PosImpl.MakeSpec
/-!
Take-back at the level of the essential state: `unMakeC (makeC p m) m (uiOf p m) = p` for pseudo-legal `m`
(with a meaningful e.p. flag), together with the calling conventions inside `unMakeMove`; `makeC` re-establishes
the e.p. condition.  The take-back of a quiet move is the move back of each `movePieceNotPawn` (`MoveOkAt.moveB_back`),
that of a capture overwrites and writes back what was there (`setSq` algebra of `Prims.lean`).
-/
namespace PosImpl
open Chess

def unB5 (q : Pos) (m : Mv) (ui : UndoInfo) : Board :=
  let b := setSq (setSq q.b m.t.val ui.capturedPiece) m.f.val (getP q.b m.t.val)
  if m.promo ≠ 0 then setSq b m.f.val (movedPc q m) else b

theorem unMakeC5_eq (q : Pos) (m : Mv) (ui : UndoInfo) :
    unMakeC5 q m ui = { b := unB5 q m ui, wtm := !q.wtm, castle := ui.castleMask, ep := ui.epSquare,
                        hmc := ui.halfMoveClock, fmc := if !q.wtm then q.fmc else q.fmc - 1 } := by
  unfold unMakeC5 unB5 Pos.withB
  simp only []
  split <;> split <;> rfl

theorem unMakeC5_b (q : Pos) (m : Mv) (ui : UndoInfo) : (unMakeC5 q m ui).b = unB5 q m ui := by
  rw [unMakeC5_eq]

theorem unMakeC_eq (q : Pos) (m : Mv) (ui : UndoInfo) :
    unMakeC q m ui = { b := unB q m ui, wtm := !q.wtm, castle := ui.castleMask, ep := ui.epSquare,
                       hmc := ui.halfMoveClock, fmc := if !q.wtm then q.fmc else q.fmc - 1 } := by
  unfold unMakeC Pos.withB
  rw [unMakeC5_eq]

theorem makeC_wtm (p : Pos) (m : Mv) : (makeC p m).wtm = !p.wtm := by
  unfold makeC; split <;> rfl

theorem makeC_fmc (p : Pos) (m : Mv) : (makeC p m).fmc = if p.wtm then p.fmc else p.fmc + 1 := by
  unfold makeC; split <;> rfl

/-- a promotion is a pawn move of the side to move -/
theorem promo_pawn (p : Pos) (m : Mv) (h : pseudo p m = true) (hp : m.promo ≠ 0) :
    getP p.b m.f.val = (if p.wtm then WPAWN else BPAWN) := by
  have hb := pseudo_basic p m h
  by_cases hk6 : kind (getP p.b m.f.val) = 6
  · cases hw : p.wtm
    · rw [hw] at hb; simpa using (own_black _ hb.1).2.2.1 hk6
    · rw [hw] at hb; simpa using (own_white _ hb.1).2.2.1 hk6
  · exact absurd (pseudo_nonpawn_promo p m h (by rw [at_eq]; exact hk6)) hp

theorem bnot_bnot_if (w : Bool) (a b : Pc) : (if (!(!w)) = true then a else b) = (if w then a else b) := by
  cases w <;> rfl

theorem king_if (w : Bool) : (if (!(!w)) = true then WKING else BKING) = (if w then WKING else BKING) := by
  cases w <;> rfl

theorem movedPc_make (p : Pos) (m : Mv) (h : pseudo p m = true) : movedPc (makeC p m) m = getP p.b m.f.val := by
  have ht := m.t.isLt
  unfold movedPc
  rw [makeC_wtm, bnot_bnot_if]
  by_cases hp : m.promo ≠ 0
  · rw [if_pos hp]; exact (promo_pawn p m h hp).symm
  · rw [if_neg hp]
    by_cases hc : getP p.b m.t.val ≠ 0 ∨ isPawnAt p.b m.f.val
    · rw [makeC_cap p m hc]
      simp only [getP_setSq _ _ _ _ ht, if_true, if_neg hp]
    · rw [makeC_quiet p m hc]
      show getP (quietB p.b m) m.t.val = _
      unfold quietB
      rw [getP_moveB_to _ _ _ ht]
      exact (rookB_keep p m h).1

theorem kingAt_of_eq (p : Pos) (n : Nat) (h : getP p.b n = (if p.wtm then WKING else BKING)) : isKingAt p.b n := by
  unfold isKingAt; rw [h]; cases p.wtm <;> decide

/-- in the capture-or-pawn branch the moved piece is not a castling king -/
theorem cap_no_castle (p : Pos) (m : Mv) (h : pseudo p m = true)
    (hc : getP p.b m.t.val ≠ 0 ∨ isPawnAt p.b m.f.val)
    (hk : getP p.b m.f.val = (if p.wtm then WKING else BKING)) :
    m.t.val ≠ m.f.val + 2 ∧ m.t.val + 2 ≠ m.f.val := by
  have hka := kingAt_of_eq p _ hk
  have htg : getP p.b m.t.val ≠ 0 := by
    rcases hc with h1 | h1
    · exact h1
    · have := (pawnAt_iff _ _).1 h1
      rw [(kingAt_iff _ _).1 hka] at this
      exact absurd this (by decide)
  rcases king_shape p m h hka with h3 | ⟨h2, _, _, e2, _⟩ | ⟨h2, _, _, e2, _⟩
  · exact h3
  · rw [← h2] at e2; exact absurd e2 htg
  · rw [show m.f.val - 2 = m.t.val by omega] at e2; exact absurd e2 htg

/-- the moved and the captured piece are back, on the board after the e.p. removal -/
theorem unB5_cap (p : Pos) (m : Mv) (h : pseudo p m = true)
    (hc : getP p.b m.t.val ≠ 0 ∨ isPawnAt p.b m.f.val) :
    unB5 (makeC p m) m (uiOf p m) =
      setSq (setSq (epClearedB p.b m (getP p.b m.f.val) p.ep) m.f.val (getP p.b m.f.val)) m.t.val (getP p.b m.t.val) := by
  have ht := m.t.isLt
  have hft : m.t.val ≠ m.f.val := fun e => (pseudo_basic p m h).2.2 e.symm
  unfold unB5
  rw [movedPc_make p m h, makeC_cap p m hc]
  simp only [uiOf]
  rw [getP_setSq _ _ _ _ ht, if_pos rfl, setSq_setSq _ m.t.val, setSq_comm _ m.t.val m.f.val _ _ hft, setSq_setSq]
  by_cases hp : m.promo ≠ 0
  · rw [if_pos hp, if_pos hp, setSq_comm _ m.t.val m.f.val _ _ hft, setSq_setSq]
  · rw [if_neg hp, if_neg hp]

theorem unmake_fields (p : Pos) (m : Mv) :
    (!(makeC p m).wtm) = p.wtm ∧
    (if (!(makeC p m).wtm) = true then (makeC p m).fmc else (makeC p m).fmc - 1) = p.fmc := by
  rw [makeC_wtm, makeC_fmc]
  cases p.wtm <;> simp

theorem unmake_make_cap (p : Pos) (m : Mv) (h : pseudo p m = true) (he : EpOk p)
    (hc : getP p.b m.t.val ≠ 0 ∨ isPawnAt p.b m.f.val) :
    UnMakeOk (makeC p m) m (uiOf p m) ∧ unMakeC (makeC p m) m (uiOf p m) = p := by
  have hmp := movedPc_make p m h
  have hnc := cap_no_castle p m h hc
  constructor
  · refine ⟨?_, ?_, ?_⟩
    · intro h1 h2
      rw [hmp, makeC_wtm, king_if] at h1
      exact absurd h2 (hnc h1).1
    · intro h1 h2
      rw [hmp, makeC_wtm, king_if] at h1
      exact absurd h2 (hnc h1).2
    · intro h1 h2
      rw [hmp] at h2
      exact (makeOk_of_pseudo p m h he).epB h2 h1
  · rw [unMakeC_eq]
    refine pos_ext ?_ (unmake_fields p m).1 rfl rfl rfl (unmake_fields p m).2
    show unB (makeC p m) m (uiOf p m) = p.b
    have h6 : unB6 (makeC p m) m (uiOf p m) =
        setSq (setSq (epClearedB p.b m (getP p.b m.f.val) p.ep) m.f.val (getP p.b m.f.val)) m.t.val (getP p.b m.t.val) := by
      unfold unB6
      rw [hmp, makeC_wtm, king_if, unMakeC5_b, unB5_cap p m h hc]
      by_cases hk : getP p.b m.f.val = (if p.wtm then WKING else BKING)
      · rw [if_pos hk, if_neg (hnc hk).1, if_neg (hnc hk).2]
      · rw [if_neg hk]
    unfold unB
    rw [h6, hmp]
    show (if p.ep = some m.t then _ else _) = p.b
    by_cases hep : p.ep = some m.t
    · rw [if_pos hep]
      by_cases hw : getP p.b m.f.val = WPAWN
      · -- white e.p. capture: the black pawn comes back behind the e.p. square
        obtain ⟨_, e2, e3⟩ := ep_white_facts p m h he hw hep
        obtain ⟨hwt, _, hmv⟩ := pseudo_wpawn p m h hw
        have hE := (he m.t hep).2
        rw [hwt] at hE
        simp only [if_true] at hE
        have hcl : epClearedB p.b m (getP p.b m.f.val) p.ep = setSq p.b (m.t.val - 8) 0 := by
          unfold epClearedB; rw [if_pos hw, if_neg e2, if_pos hep]
        rw [if_pos hw, hcl, setSq_comm _ m.t.val (m.t.val - 8) _ _ (by omega),
          setSq_comm _ m.f.val (m.t.val - 8) _ _ (by omega), setSq_setSq, setSq_getP _ _ _ hE,
          setSq_getP _ _ _ rfl, setSq_getP _ _ _ rfl]
      · rw [if_neg hw]
        by_cases hbp : getP p.b m.f.val = BPAWN
        · obtain ⟨_, e2, e3⟩ := ep_black_facts p m h he hbp hep
          obtain ⟨hwt, _, hmv⟩ := pseudo_bpawn p m h hbp
          have hE := (he m.t hep).2
          rw [hwt] at hE
          simp only [Bool.false_eq_true, if_false] at hE
          have hcl : epClearedB p.b m (getP p.b m.f.val) p.ep = setSq p.b (m.t.val + 8) 0 := by
            unfold epClearedB; rw [if_neg hw, if_pos hbp, if_neg e2, if_pos hep]
          rw [if_pos hbp, hcl, setSq_comm _ m.t.val (m.t.val + 8) _ _ (by omega),
            setSq_comm _ m.f.val (m.t.val + 8) _ _ (by omega), setSq_setSq, setSq_getP _ _ _ hE,
            setSq_getP _ _ _ rfl, setSq_getP _ _ _ rfl]
        · rw [if_neg hbp, epClearedB_id _ _ _ _ (fun _ => ⟨hw, hbp⟩), setSq_getP _ _ _ rfl, setSq_getP _ _ _ rfl]
    · rw [if_neg hep, epClearedB_id _ _ _ _ (fun e => absurd e hep), setSq_getP _ _ _ rfl, setSq_getP _ _ _ rfl]

theorem unmake_make_quiet (p : Pos) (m : Mv) (h : pseudo p m = true)
    (hc : ¬ (getP p.b m.t.val ≠ 0 ∨ isPawnAt p.b m.f.val)) :
    UnMakeOk (makeC p m) m (uiOf p m) ∧ unMakeC (makeC p m) m (uiOf p m) = p := by
  have hb := pseudo_basic p m h
  have hmp := movedPc_make p m h
  have htg : getP p.b m.t.val = 0 := Classical.byContradiction fun hh => hc (Or.inl hh)
  have hk6 : kind (getP p.b m.f.val) ≠ 6 := fun hk => hc (Or.inr ((pawnAt_iff _ _).2 hk))
  have hpromo := pseudo_nonpawn_promo p m h (by rw [at_eq]; exact hk6)
  have hnp := not_pawn_of_kind _ hk6
  -- every step of the take-back is the move back of a `movePieceNotPawn` of `makeMove`
  have ok := quietOk_of_pseudo p m h htg (fun hh => hc (Or.inr hh))
  have hking : movedPc (makeC p m) m = (if (!(makeC p m).wtm) = true then WKING else BKING) ↔ isKingAt p.b m.f.val := by
    rw [hmp, makeC_wtm, king_if]
    refine ⟨kingAt_of_eq p _, fun hk => ?_⟩
    have hk1 := (kingAt_iff _ _).1 hk
    cases hw : p.wtm
    · rw [hw] at hb; simpa using (own_black _ hb.1).2.2.2 hk1
    · rw [hw] at hb; simpa using (own_white _ hb.1).2.2.2 hk1
  have hu5 : (unMakeC5 (makeC p m) m (uiOf p m)).b = rookB p.b m := by
    rw [unMakeC5_b]
    unfold unB5
    rw [if_neg (fun hh => hh hpromo), makeC_quiet p m hc]
    show setSq (setSq (quietB p.b m) m.t.val (getP p.b m.t.val)) m.f.val (getP (quietB p.b m) m.t.val) = _
    rw [htg]
    exact ok.main.moveB_back
  have hshort : isKingAt p.b m.f.val → m.t.val = m.f.val + 2 → rookB p.b m = moveB p.b (m.f.val + 3) (m.f.val + 1) := by
    intro hk h2; unfold rookB; rw [if_pos hk, if_pos h2]
  have hlong : isKingAt p.b m.f.val → m.t.val + 2 = m.f.val → rookB p.b m = moveB p.b (m.f.val - 4) (m.f.val - 1) := by
    intro hk h2; unfold rookB; rw [if_pos hk, if_neg (by omega), if_pos h2]
  constructor
  · refine ⟨?_, ?_, ?_⟩
    · intro h1 h2
      rw [hu5, hshort (hking.1 h1) h2]
      exact (ok.short (hking.1 h1) h2).back
    · intro h1 h2
      rw [hu5, hlong (hking.1 h1) h2]
      exact (ok.long (hking.1 h1) h2).back
    · intro _ h3; rw [hmp] at h3; exact absurd h3 hnp.2
  · rw [unMakeC_eq]
    refine pos_ext ?_ (unmake_fields p m).1 rfl rfl rfl (unmake_fields p m).2
    show unB (makeC p m) m (uiOf p m) = p.b
    have h6 : unB6 (makeC p m) m (uiOf p m) = p.b := by
      unfold unB6
      rw [hu5]
      by_cases hk : isKingAt p.b m.f.val
      · rw [if_pos (hking.2 hk)]
        by_cases h2 : m.t.val = m.f.val + 2
        · rw [if_pos h2, hshort hk h2]
          exact (ok.short hk h2).moveB_back
        · rw [if_neg h2]
          by_cases h3 : m.t.val + 2 = m.f.val
          · rw [if_pos h3, hlong hk h3]
            exact (ok.long hk h3).moveB_back
          · rw [if_neg h3]
            unfold rookB
            rw [if_pos hk, if_neg h2, if_neg h3]
      · rw [if_neg (fun hh => hk (hking.1 hh))]
        unfold rookB
        rw [if_neg hk]
    unfold unB
    rw [h6, hmp, if_neg hnp.1, if_neg hnp.2]
    split <;> rfl

/-- **take-back restores the essential state**, and the calling conventions inside `unMakeMove` hold -/
theorem unmake_make_C (p : Pos) (m : Mv) (h : pseudo p m = true) (he : EpOk p) :
    UnMakeOk (makeC p m) m (uiOf p m) ∧ unMakeC (makeC p m) m (uiOf p m) = p := by
  by_cases hc : getP p.b m.t.val ≠ 0 ∨ isPawnAt p.b m.f.val
  · exact unmake_make_cap p m h he hc
  · exact unmake_make_quiet p m h hc

theorem promoOk_zero (w : Bool) (m : Mv) (h : promoOk w m = true) (hy : m.t.val / 8 ≠ (if w then 7 else 0)) : m.promo = 0 := by
  unfold promoOk at h
  have : ¬ ((m.t.y == (if w then 7 else 0)) = true) := by
    unfold Sq.y; simp only [beq_iff_eq]; exact hy
  rw [if_neg this] at h
  simpa using h

theorem epOk_makeC (p : Pos) (m : Mv) (h : pseudo p m = true) : EpOk (makeC p m) := by
  have hf := m.f.isLt
  have ht := m.t.isLt
  intro e hee
  by_cases hc : getP p.b m.t.val ≠ 0 ∨ isPawnAt p.b m.f.val
  · rw [makeC_cap p m hc] at hee ⊢
    simp only [] at hee ⊢
    unfold epNewC at hee
    simp only [] at hee
    by_cases hw : getP p.b m.f.val = WPAWN
    · obtain ⟨hwt, hpr, hmv⟩ := pseudo_wpawn p m h hw
      simp only [hw, if_true] at hee
      by_cases h16 : m.t.val = m.f.val + 16
      · simp only [if_pos h16] at hee
        split at hee
        · unfold mkSqN? at hee
          rw [dif_pos (by omega : m.f.val + 8 < 64)] at hee
          have hev : e.val = m.f.val + 8 := by
            have := Option.some.inj hee; rw [← this]
          have hd : m.f.val / 8 = 1 ∧ getP p.b m.t.val = 0 ∧ getP p.b (m.f.val + 8) = 0 := by
            rcases hmv with h1 | h1 | h1
            · omega
            · exact ⟨h1.2.1, h1.2.2.1, h1.2.2.2⟩
            · omega
          have hp0 : m.promo = 0 := promoOk_zero true m hpr (by simp only [if_true]; omega)
          have hE : epClearedB p.b m WPAWN p.ep = p.b := by unfold epClearedB; simp only [if_true, if_pos h16]
          rw [hwt, hw, hE, hev]
          simp only [Bool.not_true, Bool.false_eq_true, if_false, hp0, ne_eq, not_true_eq_false]
          constructor
          · rw [getP_setSq _ _ _ _ ht, if_neg (by omega), getP_setSq _ _ _ _ hf, if_neg (by omega)]; exact hd.2.2
          · rw [getP_setSq _ _ _ _ ht, if_pos (by omega)]
        · cases hee
      · simp only [if_neg h16] at hee; cases hee
    · by_cases hb : getP p.b m.f.val = BPAWN
      · obtain ⟨hwt, hpr, hmv⟩ := pseudo_bpawn p m h hb
        have hbw : ¬ BPAWN = WPAWN := by decide
        simp only [hb, if_neg hbw, if_true] at hee
        by_cases h16 : m.t.val + 16 = m.f.val
        · simp only [if_pos h16] at hee
          split at hee
          · unfold mkSqN? at hee
            rw [dif_pos (by omega : m.f.val - 8 < 64)] at hee
            have hev : e.val = m.f.val - 8 := by
              have := Option.some.inj hee; rw [← this]
            have hd : m.f.val / 8 = 6 ∧ getP p.b m.t.val = 0 ∧ getP p.b (m.f.val - 8) = 0 := by
              rcases hmv with h1 | h1 | h1
              · omega
              · exact ⟨h1.2.1, h1.2.2.1, h1.2.2.2⟩
              · omega
            have hp0 : m.promo = 0 := promoOk_zero false m hpr (by simp only [Bool.false_eq_true, if_false]; omega)
            have hE : epClearedB p.b m BPAWN p.ep = p.b := by unfold epClearedB; simp only [if_neg hbw, if_true, if_pos h16]
            rw [hwt, hb, hE, hev]
            simp only [Bool.not_false, if_true, hp0, ne_eq, not_true_eq_false, if_false]
            constructor
            · rw [getP_setSq _ _ _ _ ht, if_neg (by omega), getP_setSq _ _ _ _ hf, if_neg (by omega)]; exact hd.2.2
            · rw [getP_setSq _ _ _ _ ht, if_pos (by omega)]
          · cases hee
        · simp only [if_neg h16] at hee; cases hee
      · simp only [if_neg hw, if_neg hb] at hee; cases hee
  · rw [makeC_quiet p m hc] at hee
    cases hee

end PosImpl
