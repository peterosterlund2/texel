-- root: every module must be imported here (the check driver verifies this); regenerate with tools/genroot.sh
import TexelVerif.Book.PGRandoms
import TexelVerif.Book.Polyglot
import TexelVerif.Book.PolyglotLemmas
import TexelVerif.Book.Probe
import TexelVerif.Book.ProbeLemmas
import TexelVerif.Book.Random
import TexelVerif.BookBuild.AddLink
import TexelVerif.BookBuild.AddPos
import TexelVerif.BookBuild.Basic
import TexelVerif.BookBuild.Depth
import TexelVerif.BookBuild.Distance
import TexelVerif.BookBuild.Init
import TexelVerif.BookBuild.Invariant
import TexelVerif.BookBuild.Link
import TexelVerif.BookBuild.LinkNew
import TexelVerif.BookBuild.LinkSpec
import TexelVerif.BookBuild.Ops
import TexelVerif.BookBuild.Preserve
import TexelVerif.BookBuild.Propagate
import TexelVerif.BookBuild.Relink
import TexelVerif.BookBuild.Reload
import TexelVerif.BookBuild.Serial
import TexelVerif.BookBuild.Sorted
import TexelVerif.BookBuild.Unique
import TexelVerif.BookBuild.Update
import TexelVerif.BookBuild.UpdateSpec
import TexelVerif.BookBuild.Witness
import TexelVerif.Bridge.Bits
import TexelVerif.Bridge.Book
import TexelVerif.Bridge.Draw
import TexelVerif.Bridge.LockFacts
import TexelVerif.Bridge.Score
import TexelVerif.Bridge.SearchGuards
import TexelVerif.Bridge.TB
import TexelVerif.Bridge.TT
import TexelVerif.Bridge.Time
import TexelVerif.Bridge.WaitFacts
import TexelVerif.Chess.Fen
import TexelVerif.Chess.FenCounters
import TexelVerif.Chess.FenRT
import TexelVerif.Chess.GenCheck
import TexelVerif.Chess.Geometry
import TexelVerif.Chess.HashIdx
import TexelVerif.Chess.KingRay
import TexelVerif.Chess.Line
import TexelVerif.Chess.Mate
import TexelVerif.Chess.Pgn
import TexelVerif.Chess.PgnLemmas
import TexelVerif.Chess.PgnParseLemmas
import TexelVerif.Chess.PgnTree
import TexelVerif.Chess.PgnTreeLemmas
import TexelVerif.Chess.Rules
import TexelVerif.Chess.SAN
import TexelVerif.Chess.SANLemmas
import TexelVerif.Chess.SANRoundtrip
import TexelVerif.Chess.Spec
import TexelVerif.Chess.SpecEquations
import TexelVerif.Chess.SpecLemmas
import TexelVerif.Chess.TexelGen
import TexelVerif.Chess.TexelGenAtk
import TexelVerif.Chess.TexelGenCC
import TexelVerif.Chess.TexelGenCC2
import TexelVerif.Chess.TexelGenCC3
import TexelVerif.Chess.TexelGenCC4
import TexelVerif.Chess.TexelGenCaps
import TexelVerif.Chess.TexelGenEvade
import TexelVerif.Chess.TexelGenGcChange
import TexelVerif.Chess.TexelGenGcGeom
import TexelVerif.Chess.TexelGenGcModel
import TexelVerif.Chess.TexelGenGives
import TexelVerif.Chess.TexelGenGivesCastle
import TexelVerif.Chess.TexelGenGivesEp
import TexelVerif.Chess.TexelGenLegal
import TexelVerif.Chess.TexelGenLegal2
import TexelVerif.Chess.TexelGenMore
import TexelVerif.Chess.TexelGenNodup
import TexelVerif.Chess.TexelGenPseudo
import TexelVerif.Chess.TexelGenRay
import TexelVerif.Chess.TextIdx
import TexelVerif.Chess.TextIdxLemmas
import TexelVerif.Chess.UCILemmas
import TexelVerif.Chess.UnMove
import TexelVerif.Chess.UnMoveComplete
import TexelVerif.Chess.UnMoveLemmas
import TexelVerif.Conc.Access
import TexelVerif.Conc.Debt
import TexelVerif.Conc.InvAux
import TexelVerif.Conc.InvG1
import TexelVerif.Conc.InvG2
import TexelVerif.Conc.InvG3
import TexelVerif.Conc.InvG4
import TexelVerif.Conc.InvG6
import TexelVerif.Conc.InvG8
import TexelVerif.Conc.LockPairs
import TexelVerif.Conc.LockTable
import TexelVerif.Conc.LockTypes
import TexelVerif.Conc.Model
import TexelVerif.Conc.Progress
import TexelVerif.Conc.Quiesce
import TexelVerif.Conc.QuitProgress
import TexelVerif.Conc.StepG1
import TexelVerif.Conc.StepG2
import TexelVerif.Conc.StepG3
import TexelVerif.Conc.StepG4
import TexelVerif.Conc.StepG6
import TexelVerif.Conc.StepG8
import TexelVerif.Conc.Steps
import TexelVerif.Conc.StopAck
import TexelVerif.Conc.StopAckInv
import TexelVerif.Csp.Arc
import TexelVerif.Csp.Basic
import TexelVerif.Csp.Build
import TexelVerif.Csp.BuildLemmas
import TexelVerif.Csp.Fuel
import TexelVerif.Csp.Loop
import TexelVerif.Csp.Order
import TexelVerif.Csp.Run
import TexelVerif.Csp.RunLemmas
import TexelVerif.Csp.Search
import TexelVerif.Csp.Solve
import TexelVerif.Csp.Solver
import TexelVerif.Draw.ChessLemmas
import TexelVerif.Draw.Claim
import TexelVerif.Draw.Game
import TexelVerif.Draw.GameInv
import TexelVerif.Draw.GameLemmas
import TexelVerif.Draw.History
import TexelVerif.Draw.HistoryLemmas
import TexelVerif.Draw.Prologue
import TexelVerif.Draw.RepScan
import TexelVerif.Draw.ScanSpec
import TexelVerif.Draw.Third
import TexelVerif.Draw.Witness
import TexelVerif.Draw.WitnessProofs
import TexelVerif.Drv.Book
import TexelVerif.Drv.BookBuild
import TexelVerif.Drv.Chess
import TexelVerif.Drv.Csp
import TexelVerif.Drv.Draw
import TexelVerif.Drv.Mate
import TexelVerif.Drv.NN
import TexelVerif.Drv.PG
import TexelVerif.Drv.Pos
import TexelVerif.Drv.Proto
import TexelVerif.Drv.Rev
import TexelVerif.Drv.TB
import TexelVerif.Drv.TB13
import TexelVerif.Drv.TT
import TexelVerif.Drv.Text
import TexelVerif.Drv.Time
import TexelVerif.Drv.Uci
import TexelVerif.Drv.Util
import TexelVerif.NN.Cache
import TexelVerif.NN.History
import TexelVerif.NN.Incremental
import TexelVerif.NN.Index
import TexelVerif.NN.Lanes
import TexelVerif.NN.Lanes16
import TexelVerif.NN.Model
import TexelVerif.NN.Refine
import TexelVerif.PG.Deadlock
import TexelVerif.PG.DeadlockMen
import TexelVerif.PG.Lemmas
import TexelVerif.PG.Model
import TexelVerif.PosImpl.Bits
import TexelVerif.PosImpl.History
import TexelVerif.PosImpl.Make
import TexelVerif.PosImpl.MakeSpec
import TexelVerif.PosImpl.MatId
import TexelVerif.PosImpl.Model
import TexelVerif.PosImpl.Prims
import TexelVerif.PosImpl.Serial
import TexelVerif.PosImpl.SetPiece
import TexelVerif.PosImpl.UnMake
import TexelVerif.Props.C01
import TexelVerif.Props.C02
import TexelVerif.Props.C03
import TexelVerif.Props.C04
import TexelVerif.Props.C05
import TexelVerif.Props.C06
import TexelVerif.Props.C07
import TexelVerif.Props.C08
import TexelVerif.Props.C09
import TexelVerif.Props.C10
import TexelVerif.Props.C11
import TexelVerif.Props.C12
import TexelVerif.Props.C13
import TexelVerif.Props.C14
import TexelVerif.Props.C15
import TexelVerif.Props.C16
import TexelVerif.Props.C17
import TexelVerif.Props.C18
import TexelVerif.Props.C19
import TexelVerif.Props.C20
import TexelVerif.Score.Claims
import TexelVerif.Search.Root
import TexelVerif.Search.RootLemmas
import TexelVerif.TB.Abort
import TexelVerif.TB.Certificate
import TexelVerif.TB.Check
import TexelVerif.TB.Game
import TexelVerif.TB.GameLemmas
import TexelVerif.TB.Index
import TexelVerif.TB.IndexLemmas
import TexelVerif.TB.OnDemand
import TexelVerif.TB.Retro
import TexelVerif.TB.RetroBridge
import TexelVerif.TB.RetroChess
import TexelVerif.TB.RetroLemmas
import TexelVerif.TB.RetroProof
import TexelVerif.TT.Entry
import TexelVerif.TT.Fields
import TexelVerif.TT.History
import TexelVerif.TT.Index
import TexelVerif.TT.Table
import TexelVerif.TT.TableLemmas
import TexelVerif.Time.Alloc
import TexelVerif.Time.StopRule
import TexelVerif.Uci.Impl
import TexelVerif.Uci.Lemmas
import TexelVerif.Uci.Spec
import TexelVerif.Util.BitVecLemmas
